/-
Line-protocol driver for model A (C01, C02, C08, C09, C10).
request: walk <cfg> <paths> <skip> <regex> <glob> <req> <ext> <nroots> { <tree> <faults> }
  cfg    ug=,isd=,rs=,mx=,mi=,eofs=,cb=,ca=,next=        (ca=0: no cancellation)
  path   "." or hex segments joined by "/";  lists joined by ";" ("-" = empty)
  regex/glob  none | set:<paths;>            (the directory paths the real engine matched)
  req    e@path;…        ext  e@path=<err><panic>[<finding>]:<ids,>;…
  tree   preorder nodes path:kind:size:gi ;  kind d|r|l|s ;  gi  n | g<pat,…> ;  pat <dirOnly><neg><hexname> | 20<hex of a raw line>
         a .gitignore with a raw line (full gitignore syntax) is NOT interpreted by the model: the optional last token
         gt=<hex(key)~path~d|f,…> lists what the real go-git matcher excludes (key = "<dir path>#<gi field>"); the model's
         matcher for that directory is this table (the theorems only need the domain law, which the table matcher has by construction)
  faults of=<paths,>|sf=<paths,>|ff=<paths,>|rf=<path#k,>
reply : err= vis= calls=<e@path@size;…> pkgs=<id@e@path;…> st=<e=status,…> hyp=<0|1> spec=<calls owed, walk order>
        … limithyp=<0|1> specvisits=<visitsScan: handleFile calls of the scan run to the end> (theorem C10_inodes_exact_limitcfg)
        … cancelhyp=<0|1> cspecerr= cspecvis= cspeccalls= (cancelOutcome on the specification's trace; theorem C10_cancel_outcome_cancelcfg)
        … fnd=<e@path;…> findings of the filesystem extractors in emitted (sorted by advisory reference) order, "-" for a failed scan;
          specfnd= the same from the specification (findsOfCalls ∘ mustExtract; theorem run_finds_spec)
        … contained=<calls> the attempts per C09_contained_run_any_benign (fault-free rule minus files behind a fault), to be compared under hyp=1
        … nopanic=<0|1> mspecerr= mspecvis= mspeccalls= : the sequential machine (Spec/WalkMachine.lean) on the trace of the configuration
          with ErrorOnFSErrors cleared; theorem C10_machine_any: without a panicking extractor the scan ends with the fs error or is this
        … glue=refused|empty: Scan refused the configuration (err=cfg) / no filesystem extractor (empty success, nothing walked)
          cfg keys nrd= real= (harness only) out= (a skipped directory under no scan root: refused)
        … distinct=<0|1> every directory of every root lists distinct names (DistinctNames); subdirhyp=<0|1> one root, paths=[d], benign,
          and the hypotheses of C01_subdir_partial hold for d (theorem mustRequested_subdir_of_hyp)
-/
import Scalibr.Base.Wire
import Scalibr.Model.Gitignore
import Scalibr.Model.Scan
import Scalibr.Spec.Walk
import Scalibr.Spec.WalkCount
import Scalibr.Proofs.WalkSpec
import Scalibr.Proofs.WalkEofs
import Scalibr.Proofs.WalkSubdirHyp
import Scalibr.Proofs.WalkContain
open Scalibr Scalibr.Walk Scalibr.Wire

def parsePath (s : String) : Option Path :=
  if s = "." then some [] else (s.splitOn "/").mapM strOfHex

def showPath (p : Path) : String := if p.isEmpty then "." else "/".intercalate (p.map hexOfStr)

def parsePaths (s : String) (sep : String) : Option (List Path) := (listOf s sep).mapM parsePath

structure RawNode where
  path : Path
  kind : String
  size : Nat
  gi : Option PatSet

def parsePat (s : String) : Option Pat :=
  match s.toList with
  | d :: n :: rest =>
    match strOfHex (String.ofList rest) with
    | some name => some ⟨name, d = '1', n = '1'⟩
    | none => none
  | _ => none

def rawPrefix : String := "\x00raw:"

def parseRaw (s : String) : Option RawNode :=
  match s.splitOn ":" with
  | [p, k, sz, g] =>
    match parsePath p, sz.toNat? with
    | some p, some sz =>
      if g = "n" then some ⟨p, k, sz, none⟩
      else if g.startsWith "g" then
        let pats := listOf (g.drop 1).toString ","
        if pats.any (·.startsWith "2") then
          -- full-syntax .gitignore: an opaque pattern set identified by directory and content
          some ⟨p, k, sz, some [⟨rawPrefix ++ showPath p ++ "#" ++ g, false, false⟩]⟩
        else
        match pats.mapM parsePat with
        | some ps => some ⟨p, k, sz, some ps⟩
        | none => none
      else none
    | _, _ => none
  | _ => none

def kindOf (k : String) : Kind := if k = "l" || k = "L" then .symlink else if k = "s" then .special else .reg   -- L: symlink to a directory (a leaf of the walk)

/-- rebuild the tree from its preorder listing (fuel = depth bound; drivers only) -/
def buildNode : Nat → List RawNode → RawNode → Node
  | 0, _, r => if r.kind = "d" then .dir r.gi [] else .file (kindOf r.kind) r.size
  | fuel+1, all, r =>
    if r.kind = "d" then
      let kids := all.filter fun x => x.path.length = r.path.length + 1 && x.path.take r.path.length = r.path
      .dir r.gi (kids.map fun x => (x.path.getLast?.getD "", buildNode fuel all x))
    else .file (kindOf r.kind) r.size

def parseTree (s : String) : Option Node :=
  match (listOf s ";").mapM parseRaw with
  | some (r :: rest) => if r.path = [] then some (buildNode 16 (r :: rest) r) else none
  | _ => none

def memP (l : List Path) : Path → Bool := fun p => l.contains p

def parseFaults (s : String) : Option Faults :=
  match s.splitOn "|" with
  | [a, b, c, d] =>
    let strip (pre x : String) : Option String := if x.startsWith pre then some (x.drop pre.length).toString else none
    match strip "of=" a, strip "sf=" b, strip "ff=" c, strip "rf=" d with
    | some a, some b, some c, some d =>
      let rf : Option (List (Path × Nat)) := (listOf d ",").mapM fun x =>
        match x.splitOn "#" with
        | [p, k] => match parsePath p, k.toNat? with
          | some p, some k => some (p, k)
          | _, _ => none
        | _ => none
      match parsePaths a ",", parsePaths b ",", parsePaths c ",", rf with
      | some a, some b, some c, some rf =>
        some { openFail := memP a, statFail := memP b, fileStatFail := memP c, readEntryFail := fun p k => rf.contains (p, k) }
      | _, _, _, _ => none
    | _, _, _, _ => none
  | _ => none

def parseKV (s : String) : List (String × Nat) :=
  (s.splitOn ",").filterMap fun kv => match kv.splitOn "=" with
    | [k, v] => v.toNat?.map (k, ·)
    | _ => none

def getKV (kv : List (String × Nat)) (k : String) : Nat := ((kv.find? (·.1 = k)).map (·.2)).getD 0

def parseEP (s : String) : Option (Nat × Path) :=
  match s.splitOn "@" with
  | [e, p] => match e.toNat?, parsePath p with
    | some e, some p => some (e, p)
    | _, _ => none
  | _ => none

def parseExt (s : String) : Option ((Nat × Path) × ExtractOut) :=
  match s.splitOn "=" with
  | [ep, rest] =>
    match parseEP ep, rest.splitOn ":" with
    | some ep, [flags, ids] =>
      match flags.toList, (listOf ids ",").mapM (·.toNat?) with
      | [e, p], some ids => some (ep, { pkgs := ids, err := e = '1', panics := p = '1' })
      | [e, p, o], some ids => some (ep, { pkgs := ids, err := e = '1', panics := p = '1', finds := if o = '1' then [0] else [] })
      | _, _ => none
    | _, _ => none
  | _ => none

def parseSet (s : String) : Option (Option (List Path)) :=
  if s = "none" then some none
  else if s.startsWith "set:" then (parsePaths (s.drop 4).toString ";").map some
  else none

def parseRoots : Nat → List String → Option (List (Node × Faults))
  | 0, [] => some []
  | n+1, t :: f :: rest =>
    match parseTree t, parseFaults f, parseRoots n rest with
    | some t, some f, some rs => some ((t, f) :: rs)
    | _, _, _ => none
  | _, _ => none

/-- the table of the real matcher's verdicts: (key, path, isDir) triples that are excluded -/
def parseGiTable (s : String) : Option (List (String × Path × Bool)) :=
  (listOf s ",").mapM fun e =>
    match e.splitOn "~" with
    | [k, p, d] => match strOfHex k, parsePath p with
      | some k, some p => some (k, p, d = "d")
      | _, _ => none
    | _ => none

/-- go-git's matcher: the sub-language model for interpreted pattern sets, the table for opaque ones
(`Model/Gitignore.lean: tableMatch`, which obeys the domain law whatever the table says: `tableMatch_domain`) -/
def rawKey (ps : PatSet) : Option String :=
  match ps with
  | [pt] => if pt.name.startsWith rawPrefix then some (pt.name.drop rawPrefix.length).toString else none
  | _ => none
def giMatchOf (tbl : List (String × Path × Bool)) : PatSet → List String → List String → Bool → Bool :=
  tableMatch rawKey tbl

def bytes (s : String) : List Nat := s.toUTF8.toList.map (·.toNat)
def bytesLt (a b : String) : Bool := ltBytes (bytes a) (bytes b)

def pathStr (p : Path) : String := if p.isEmpty then "." else "/".intercalate p

/-- the Locations a fake extractor reports for package `i` found in file `p`, AFTER `sort.Strings`:
every fourth package id carries a second, path-dependent location that sorts before ordinary names -/
def locsOf (i : Nat) (p : Path) : List String :=
  let ps := pathStr p
  if i % 4 = 3 then
    let k := (ps.toUTF8.toList.foldl (fun a b => a + b.toNat) 0) % 7
    let extra := "00/" ++ String.singleton (Char.ofNat (97 + k))
    if bytesLt extra ps then [extra, ps] else [ps, extra]
  else [ps]

def naming : Naming where
  pkgName i := bytes ("n" ++ toString (i / 3))
  pkgVersion i := bytes ("v" ++ toString (i % 3))
  extName e := bytes ("e" ++ toString e)
  locStr i p := bytes ("[" ++ " ".intercalate (locsOf i p) ++ "]")

def showErr : Err → String
  | .none => "none" | .maxInodes => "maxinodes" | .ctx => "ctx" | .fs => "fs" | .panic => "panic"
def showStatus : Status → String
  | .ok => "ok" | .failed => "failed" | .part => "partial"
/-- id@extractor@<sorted locations, hex, joined by +> -/
def showPkg (p : Pkg) : String := s!"{p.id}@{p.ext}@{"+".intercalate ((locsOf p.id p.loc).map hexOfStr)}"
def showCall (c : Call) : String := s!"{c.ext}@{showPath c.path}@{c.size}"
/-- the advisory reference the fake extractor gives its finding, and the emitted order (sortResults: by reference, bytewise) -/
def fndRef (x : Fnd) : List Nat := bytes ("F-" ++ toString x.ext ++ "-" ++ pathStr x.loc)
def showFnds (l : List Fnd) : String :=
  joinWith ";" ((isort (fun a b => ltBytes (fndRef a) (fndRef b)) l).map fun x => s!"{x.ext}@{showPath x.loc}")

def handle (line : String) : String :=
  match line.splitOn " " with
  | "walk" :: cfg :: paths :: skip :: rx :: gl :: req :: ext :: nr :: rest =>
    let kv := parseKV cfg
    match parsePaths paths ";", parsePaths skip ";", parseSet rx, parseSet gl,
          (listOf req ";").mapM parseEP, (listOf ext ";").mapM parseExt, nr.toNat? with
    | some paths, some skip, some rx, some gl, some req, some ext, some nr =>
      let (rootToks, extra) := (rest.take (2 * nr), rest.drop (2 * nr))
      let tbl : List (String × Path × Bool) := match extra with
        | [g] => if g.startsWith "gt=" then (parseGiTable (g.drop 3).toString).getD [] else []
        | _ => []
      match parseRoots nr rootToks with
      | some roots =>
        let c : Cfg := {
          nExt := getKV kv "next"
          required := fun e p => req.contains (e, p)
          extract := fun e p => ((ext.find? (·.1 = (e, p))).map (·.2)).getD {}
          paths := paths
          ignoreSubDirs := getKV kv "isd" = 1
          dirsToSkip := memP skip
          regex := rx.map memP
          glob := gl.map memP
          useGitignore := getKV kv "ug" = 1
          readSymlinks := getKV kv "rs" = 1
          maxInodes := getKV kv "mi"
          maxFileSize := getKV kv "mx"
          errorOnFSErrors := getKV kv "eofs" = 1
          cancelBefore := getKV kv "cb" = 1
          cancelAt := if getKV kv "ca" = 0 then none else some (getKV kv "ca")
          giMatch := giMatchOf tbl }
        -- the glue of Scan / filesystem.Run (Model/Scan.lean `glue`): refused configurations and the scan without filesystem extractors
        match glue c roots.length (getKV kv "out" ≥ 1) with
        | .refused => s!"err=cfg vis={if getKV kv "ns" ≥ 1 then "?" else "0"} calls=- pkgs=- st=- fnd=- hyp=0 glue=refused"
        | .empty => s!"err=none vis={if getKV kv "ns" ≥ 1 then "?" else "0"} calls=- pkgs=- st=- fnd=- hyp=0 glue=empty"
        | .walks =>
        let r := run c roots
        let o := scan naming c roots
        let hyp := c.maxInodes = 0 && !c.errorOnFSErrors && !c.cancelBefore && c.cancelAt.isNone &&
          ext.all (fun x => !x.2.panics)
        let spec := mustExtract c roots
        s!"err={showErr r.err} vis={if getKV kv "ns" ≥ 1 then "?" else toString r.visited} calls={joinWith ";" ((r.calls.filter (·.opened)).map showCall)} " ++
        s!"pkgs={joinWith ";" (o.pkgs.map showPkg)} " ++
        s!"st={joinWith "," (o.statuses.map fun (e, st) => s!"{e}={showStatus st}")} " ++
        s!"hyp={boolStr hyp} spec={joinWith ";" ((spec.filter (·.opened)).map showCall)} " ++
        -- the specification's inventory and statuses (theorems C01_inv_spec_benign, C09_surfaced_benign), sorted as sortResults does
        s!"specpkgs={joinWith ";" ((isort (pkgLt naming) (pkgsOfCalls c spec)).map showPkg)} " ++
        s!"fatalhyp={boolStr (c.maxInodes = 0 && c.errorOnFSErrors && !c.cancelBefore && c.cancelAt.isNone && ext.all (fun x => !x.2.panics))} " ++
        s!"specfatal={boolStr (traversalFaultScan c roots)} " ++
        s!"specst={joinWith "," ((isort (statusLt naming) (roots.flatMap fun (r, f) => (List.range c.nExt).map fun e => (e, statusSpec c f r e))).map fun (e, st) => s!"{e}={showStatus st}")} " ++
        -- hypothesis LimitCfg and right-hand side of theorem C10_inodes_exact_limitcfg
        s!"limithyp={boolStr (decide (c.maxInodes > 0) && !c.errorOnFSErrors && !c.cancelBefore && c.cancelAt.isNone && ext.all (fun x => !x.2.panics))} " ++
        s!"specvisits={visitsScan c roots} " ++
        -- hypothesis CancelCfg and right-hand side of theorem C10_cancel_outcome_cancelcfg
        (let co := cancelOutcome (c.cancelAt.getD 0) 0 (traceScan c roots)
         s!"cancelhyp={boolStr (c.maxInodes = 0 && !c.errorOnFSErrors && !c.cancelBefore && decide (c.cancelAt.getD 0 ≥ 1) && ext.all (fun x => !x.2.panics))} " ++
         s!"cspecerr={showErr co.2.1} cspecvis={co.2.2} cspeccalls={joinWith ";" ((co.1.filter (·.opened)).map showCall)} ") ++
        -- findings of the filesystem extractors: model, and specification (theorem run_finds_spec, class Benign)
        s!"fnd={if r.err = .none then showFnds r.finds else "-"} specfnd={showFnds (findsOfCalls c spec)} " ++
        -- containment (theorem C09_contained_run_any_benign, class Benign): the attempts written with the FAULT-FREE rule over the trees
        -- with unreadable .gitignore contents removed, minus the files a fault lies on the way to
        s!"contained={joinWith ";" (((roots.flatMap fun rf => containedRootAny c rf.2 rf.1).filter (·.opened)).map showCall)} " ++
        -- the sequential machine on the specification's trace (theorem C10_machine_any: every configuration without a panicking extractor)
        (let mo := machineOutcome (nonFatal c) roots
         s!"nopanic={boolStr (ext.all (fun x => !x.2.panics))} mspecerr={showErr mo.2.1} mspecvis={mo.2.2} " ++
         s!"mspeccalls={joinWith ";" ((mo.1.filter (·.opened)).map showCall)} ") ++
        -- hypotheses of C01_once_partial (DistinctNames) and of C01_subdir_partial (for a scan requesting exactly one path of one root)
        s!"distinct={boolStr (roots.all fun rf => distinctB rf.1)} " ++
        s!"subdirhyp={boolStr (match roots, c.paths with
            | [(root, f)], [d] => hyp && subdirHyp { c with paths := [] } f root d
            | _, _ => false)}"
      | none => "bad-op"
    | _, _, _, _, _, _, _ => "bad-op"
  | _ => "bad-op"

def main : IO Unit := serve handle
