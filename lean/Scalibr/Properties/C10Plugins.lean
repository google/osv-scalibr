/-
C10, clause "once its context is cancelled [a scan] starts no extraction on any further file and runs
no further plugin, reporting failure whenever work remained" — for the PLUGIN LOOPS of a scan: the
phase sequence filesystem.Run → standalone.Run → detector.Run of `scalibr.go: Scan`
(`Scalibr.Phases.scan`), for every schedule (any number of roots, directory entries, filesystem /
standalone extractors and detectors), every plugin returning nil, an error or ctx.Err(), and the context
cancelled before the scan or from inside any plugin of any phase. (What the filesystem walk does inside
one root — limits, faults, which files are required — is `Properties/C10.lean`.)
Helper lemmas: `Scalibr.Proofs.Phases`.
-/
import Scalibr.Proofs.Phases
import Scalibr.Proofs.Detector
namespace Scalibr.Phases

def pOk' (n : String) : Plugin := ⟨n, .ok, false⟩

/-- The three phase loops with the early returns in between are ONE loop over the whole schedule. -/
theorem C10_plugins_one_loop (before : Bool) (nfx : Nat) (roots : List (List (List Plugin))) (sts dets : List Plugin) :
    (scan before nfx roots sts dets).started = (loop (schedule nfx roots sts dets) ⟨before, [], []⟩).1.started ∧
    (scan before nfx roots sts dets).failed = (loop (schedule nfx roots sts dets) ⟨before, [], []⟩).2 := by
  unfold scan schedule
  rw [List.append_assoc, loop_append, loop_append]
  cases h1 : (loop (fsUnits nfx roots) ⟨before, [], []⟩).2 with
  | true => simp [h1]
  | false =>
    cases h2 : (loop (plUnits sts) (loop (fsUnits nfx roots) ⟨before, [], []⟩).1).2 with
    | true => simp [h1, h2]
    | false =>
      cases h3 : (loop (plUnits dets) (loop (plUnits sts) (loop (fsUnits nfx roots) ⟨before, [], []⟩).1).1).2 <;> simp [h1, h2, h3]

/-- STOP. The plugin calls a scan starts are exactly those of the loop iterations up to and including
the one in which the context is cancelled (none when it is cancelled before the scan): after the
cancelling iteration NO further plugin of any later position or phase is started. In the filesystem
phase an iteration is one directory entry (no extraction on any further FILE); in the standalone and
detector phases it is one plugin. What the plugins return is irrelevant. -/
theorem C10_plugins_stop (before : Bool) (nfx : Nat) (roots : List (List (List Plugin))) (sts dets : List Plugin) :
    (scan before nfx roots sts dets).started = specStarted before (schedule nfx roots sts dets) := by
  rw [(C10_plugins_one_loop before nfx roots sts dets).1, (loop_started _ _).1]
  rfl

/-- FAIL. The scan reports failure exactly when an ITERATION of the schedule was left out. Granularity:
an iteration of the filesystem phase is a directory entry, also one no extractor wants, so the scan
fails as well when only such entries remained although every plugin CALL ran (`C10_plugins_failed_without_work_left`).
The property asks for ⇐ only — failure whenever work remained — which is `C10_plugins_fail_if_work_remained`. -/
theorem C10_plugins_failed_iff (before : Bool) (nfx : Nat) (roots : List (List (List Plugin))) (sts dets : List Plugin) :
    (scan before nfx roots sts dets).failed = !(specRemaining before (schedule nfx roots sts dets)).isEmpty := by
  rw [(C10_plugins_one_loop before nfx roots sts dets).2, (loop_started _ _).2]

/-- the converse of `C10_plugins_fail_if_work_remained` does not hold: cancelled inside the only Extract call, an
empty directory entry still to come — every plugin call ran, the scan fails nevertheless (the code cannot know) -/
theorem C10_plugins_failed_without_work_left :
    (scan false 1 [[[⟨"fx0@a", .ok, true⟩], []]] [] []).failed = true ∧
    (scan false 1 [[[⟨"fx0@a", .ok, true⟩], []]] [] []).started = names (schedule 1 [[[⟨"fx0@a", .ok, true⟩], []]] [] []) := by
  refine ⟨by decide, by decide⟩

/-- … in particular WHENEVER WORK REMAINED: if some scheduled plugin call was not started, the scan failed. -/
theorem C10_plugins_fail_if_work_remained (before : Bool) (nfx : Nat) (roots : List (List (List Plugin))) (sts dets : List Plugin)
    (h : (scan before nfx roots sts dets).started ≠ names (schedule nfx roots sts dets)) :
    (scan before nfx roots sts dets).failed = true := by
  rw [C10_plugins_stop] at h
  rw [C10_plugins_failed_iff]
  cases hr : specRemaining before (schedule nfx roots sts dets) with
  | cons _ _ => rfl
  | nil =>
    -- nothing was left out, so everything was started
    have := specStarted_append_remaining before (schedule nfx roots sts dets)
    rw [hr] at this
    exact absurd (by simpa [names] using this) h

/-- No plugin of an iteration after the cancelling one is started (names distinct, so that "started" can
be read off the log). -/
theorem C10_plugins_none_after_cancel (nfx : Nat) (roots : List (List (List Plugin))) (sts dets : List Plugin)
    (hn : (names (schedule nfx roots sts dets)).Nodup) (n : String)
    (h : n ∈ names (after (schedule nfx roots sts dets))) :
    n ∉ (scan false nfx roots sts dets).started := by
  rw [C10_plugins_stop]
  rw [← specStarted_append_remaining false] at hn
  exact fun hin => (List.nodup_append.1 hn).2.2 n hin n h rfl

/-- Failure of this kind only ever comes from a cancellation. -/
theorem C10_plugins_failure_means_cancelled (before : Bool) (nfx : Nat) (roots : List (List (List Plugin))) (sts dets : List Plugin)
    (h : (scan before nfx roots sts dets).failed = true) :
    before = true ∨ ∃ u ∈ schedule nfx roots sts dets, u.cancels = true := by
  cases before with
  | true => exact Or.inl rfl
  | false =>
    right
    -- if nothing cancels, `after` is empty
    apply Classical.byContradiction
    intro hno
    have := (through_after_nocancel (schedule nfx roots sts dets) fun u hu => by
      cases hc : u.cancels with
      | false => rfl
      | true => exact absurd ⟨u, hu, hc⟩ hno).2
    rw [C10_plugins_failed_iff, specRemaining, if_neg (by simp), this] at h
    cases h

/-- NO CANCELLATION ⇒ every scheduled plugin call is started exactly once, in schedule order (the log IS
the schedule), and the scan does not fail for this reason — whatever the plugins return. -/
theorem C10_plugins_nocancel (nfx : Nat) (roots : List (List (List Plugin))) (sts dets : List Plugin)
    (hc : ∀ u ∈ schedule nfx roots sts dets, u.cancels = false) :
    (scan false nfx roots sts dets).started = names (schedule nfx roots sts dets) ∧
    (scan false nfx roots sts dets).failed = false := by
  obtain ⟨h1, h2⟩ := through_after_nocancel _ hc
  exact ⟨by rw [C10_plugins_stop, specStarted, if_neg (by simp), h1],
    by rw [C10_plugins_failed_iff, specRemaining, if_neg (by simp), h2]; rfl⟩

/-! ### the detector loop is modelled twice: here (`loop` over `plUnits`) and, with findings and the index, in
`Scalibr.Detector.runLoop` (C20). They start the same detectors and return `ctx.Err()` in the same cases. -/

def phOf (d : Detector.Detector) : Plugin := ⟨d.name, .ok, d.cancels⟩

theorem detector_loops_agree (px : Index.PkgMap) (ds : List Detector.Detector) (s : Detector.St) (t : St)
    (hc : s.cancelled = t.cancelled) (hl : s.calls.map (·.1) = t.started) (hr : s.ctxReturn = false) :
    (Detector.runLoop px ds s).calls.map (·.1) = (loop (plUnits (ds.map phOf)) t).1.started ∧
    (Detector.runLoop px ds s).ctxReturn = (loop (plUnits (ds.map phOf)) t).2 := by
  induction ds generalizing s t with
  | nil => simp [Detector.runLoop, loop, plUnits, hl, hr]
  | cons d ds ih =>
    cases hcs : s.cancelled with
    | true =>
      have hct : t.cancelled = true := by rw [← hc, hcs]
      simp [Detector.runLoop, loop, plUnits, hcs, hct, hl]
    | false =>
      have hct : t.cancelled = false := by rw [← hc, hcs]
      rw [Detector.runLoop]
      simp only [hcs, Bool.false_eq_true, if_false, List.map_cons, plUnits, loop, hct]
      exact ih _ _ (by simp [runUnit, hct, phOf]) (by simp [runUnit, hl, phOf]) rfl

theorem validate_ne_ctx (fs : List (Option Detector.Finding)) (ids : List (Detector.AdvID × Detector.Adv)) :
    Detector.validate fs ids ≠ some .ctx := by
  -- one case per branch of the model: none of them returns `ctx`
  fun_induction Detector.validate fs ids <;> simp_all

/-- `detector.Run` of C20's model and the detector phase of this model agree — FROM EVERY ENTRY STATE (context live or
already cancelled when the loop is entered) — on which detectors start and on whether the run ends with `ctx.Err()`. -/
theorem C10_plugins_detector_models_agree (c : Bool) (px : Index.PkgMap) (ds : List Detector.Detector) :
    (Detector.runFrom c ds px).calls.map (·.1) = (loop (plUnits (ds.map phOf)) ⟨c, [], []⟩).1.started ∧
    ((Detector.runFrom c ds px).err = some .ctx ↔ (loop (plUnits (ds.map phOf)) ⟨c, [], []⟩).2 = true) := by
  obtain ⟨h1, h2⟩ := detector_loops_agree px ds { cancelled := c } ⟨c, [], []⟩ rfl rfl rfl
  unfold Detector.runFrom
  simp only []
  cases hcr : (Detector.runLoop px ds { cancelled := c }).ctxReturn with
  | true =>
    rw [hcr] at h2
    simp [h1, ← h2]
  | false =>
    rw [hcr] at h2
    simp only [Bool.false_eq_true, if_false]
    cases hv : Detector.validate (Detector.runLoop px ds { cancelled := c }).findings [] with
    | none => simp [h1, ← h2]
    | some e =>
      have : e ≠ .ctx := fun he => validate_ne_ctx _ _ (he ▸ hv)
      simp [h1, ← h2, this]

/-- THE ENTRY STATE `Scan` hands to the detector loop (the link C20's theorems rest on): the detectors are reached iff
the filesystem and standalone phases returned no error; the loop is then entered with the log so far and with the
context cancelled iff it was cancelled before the scan or inside some earlier plugin (necessarily the LAST iteration
of the earlier phases, otherwise they would have returned `ctx.Err()`). -/
theorem C10_plugins_detector_entry (before : Bool) (nfx : Nat) (roots : List (List (List Plugin))) (sts dets : List Plugin) :
    let e := loop (fsUnits nfx roots ++ plUnits sts) ⟨before, [], []⟩
    (e.2 = true → (scan before nfx roots sts dets).started = e.1.started ∧ (scan before nfx roots sts dets).failed = true) ∧
    (e.2 = false →
      (scan before nfx roots sts dets).started = (loop (plUnits dets) e.1).1.started ∧
      (scan before nfx roots sts dets).failed = (loop (plUnits dets) e.1).2 ∧
      e.1.cancelled = (before || (fsUnits nfx roots ++ plUnits sts).any (·.cancels))) := by
  intro e
  have h := C10_plugins_one_loop before nfx roots sts dets
  have ha : loop (schedule nfx roots sts dets) ⟨before, [], []⟩ =
      if e.2 then (e.1, true) else loop (plUnits dets) e.1 := by
    unfold schedule; exact loop_append _ _ _
  refine ⟨fun he => ?_, fun he => ?_⟩
  · rw [h.1, h.2, ha]; simp [he]
  · rw [h.1, h.2, ha]
    refine ⟨by simp [he], by simp [he], ?_⟩
    have := loop_cancelled (fsUnits nfx roots ++ plUnits sts) ⟨before, [], []⟩ he
    simpa using this

/-- … in particular: the LAST standalone extractor (or the last Extract call) cancels the context ⇒ the earlier
phases complete, the detector loop is entered with a cancelled context, NO detector starts, and the scan fails iff
there is a detector. (This is the case outside C20's `NoCancel`, which speaks of detectors only.) -/
theorem C10_plugins_detectors_skipped (before : Bool) (nfx : Nat) (roots : List (List (List Plugin))) (sts dets : List Plugin)
    (he : (loop (fsUnits nfx roots ++ plUnits sts) ⟨before, [], []⟩).2 = false)
    (hc : (loop (fsUnits nfx roots ++ plUnits sts) ⟨before, [], []⟩).1.cancelled = true) :
    (scan before nfx roots sts dets).started = (loop (fsUnits nfx roots ++ plUnits sts) ⟨before, [], []⟩).1.started ∧
    (scan before nfx roots sts dets).failed = !dets.isEmpty := by
  obtain ⟨h1, h2, _⟩ := (C10_plugins_detector_entry before nfx roots sts dets).2 he
  have hs := loop_started (plUnits dets) (loop (fsUnits nfx roots ++ plUnits sts) ⟨before, [], []⟩).1
  rw [h1, h2, hs.1, hs.2, hc]
  simp [specStarted, specRemaining, plUnits]

example : (scan false 0 [[]] [pOk' "sx0", ⟨"sx1", .ok, true⟩] [pOk' "det0", pOk' "det1"]) =
    ⟨["sx0", "sx1"], true, [("sx0", false), ("sx1", false)]⟩ := by decide

/-- STATUSES. Nobody cancels ⇒ the result carries one status entry per standalone extractor and per detector, in
order, failed iff that plugin returned an error. -/
theorem C10_plugins_nocancel_status (nfx : Nat) (roots : List (List (List Plugin))) (sts dets : List Plugin)
    (hc : ∀ u ∈ schedule nfx roots sts dets, u.cancels = false) :
    (scan false nfx roots sts dets).status = specStatusNoCancel sts dets := by
  obtain ⟨h1, h2⟩ := loop_nocancel (schedule nfx roots sts dets) ⟨false, [], []⟩ rfl hc
  -- the scan succeeds, so its status log is that of the one loop over the whole schedule
  have hscan : (scan false nfx roots sts dets).status = (loop (schedule nfx roots sts dets) ⟨false, [], []⟩).1.status := by
    rw [schedule, List.append_assoc, loop_append, loop_append] at h1 ⊢
    unfold scan
    split at h1
    · cases h1
    · split at h1
      · cases h1
      · simp [*]
  -- directory entries record nothing, the other iterations are one plugin each
  have hfs : statusOf (fsUnits nfx roots) = [] := by
    unfold fsUnits statusOf
    split
    · rfl
    · simp only [List.flatMap_eq_nil_iff, List.mem_flatMap, List.mem_cons, List.mem_map]
      rintro x ⟨r, _, rfl | ⟨a, _, rfl⟩⟩ <;> rfl
  have hpl : ∀ ps : List Plugin, statusOf (plUnits ps) = ps.map fun p => (p.name, decide (p.ret = .err)) := fun ps => by
    induction ps with
    | nil => rfl
    | cons p ps ih => rw [List.map_cons, ← ih]; rfl
  rw [hscan, h2, schedule, statusOf_append, statusOf_append, hfs, hpl, hpl]
  simp [specStatusNoCancel]

/-! ### non-vacuity and the shape of the seeded defect -/

/-- the `Nodup` hypothesis of `C10_plugins_none_after_cancel` is satisfiable (the harness names every call uniquely) -/
example : (names (schedule 2 [[[pOk' "fx0@a", pOk' "fx1@a"]], [[pOk' "fx0@b"]]] [pOk' "sx0"] [pOk' "det0"])).Nodup := by decide

def pOk (n : String) : Plugin := ⟨n, .ok, false⟩
/-- standalone extractor `sx0` cancels the context AND returns an error; `sx1` and the detectors must not start -/
example : scan false 1 [[[pOk "fx0@a"]]] [⟨"sx0", .err, true⟩, pOk "sx1"] [pOk "det0", pOk "det1"] =
    ⟨["fx0@a", "sx0"], true, []⟩ := by decide
/-- cancelled inside the LAST plugin: nothing remained, the scan succeeds -/
example : (scan false 0 [[]] [] [pOk "det0", ⟨"det1", .ctxErr, true⟩]) = ⟨["det0", "det1"], false, [("det0", false), ("det1", true)]⟩ := by decide
/-- cancelled inside an Extract call: the other extractor still gets the same file, no further file is touched -/
example : (scan false 2 [[[⟨"fx0@a", .ok, true⟩, pOk "fx1@a"], [pOk "fx0@b"]]] [pOk "sx0"] []).started = ["fx0@a", "fx1@a"] := by decide
/-- cancelled before the scan: nothing starts; failure iff there is anything to do -/
example : scan true 0 [[]] [] [] = ⟨[], false, []⟩ ∧ (scan true 1 [[]] [] []).failed = true ∧ (scan true 0 [[]] [pOk "sx0"] []).failed = true := by decide

end Scalibr.Phases
