/-
C05 — Packages are attributed to the layer that introduced them.
Helper lemmas live in `Scalibr.Proofs.Trace`.
Unbounded: any number of layers, any per-file sequence of keep / write / symlink / delete, any
packages, any cancellation point of the context.

On the hypotheses: `hp : the package is in the final view` is the property's own quantifier ("every REPORTED
package"), and the cache the theorems start from has to be valid (`St.empty` is). The third one is real and the
theorems that carry it are named `_partial`: `hd : diff i = inDiff h i` — `filesExistInLayer` (does the layer's own
diff have an entry at the location?) says "yes" exactly when the layer changed what the extractor reports there. The
model takes that observation as an input of its own (`diff`); `trace`, used by the hypothesis-free theorems, fixes it to
`inDiff`. Where `hd` fails the unchanged code attributes wrongly: `C05_symlink_target_rewritten` (known finding
C05/location-content-depends-on-other-paths). The context may be cancelled at any point (`cancelAt`).

On the view abstraction: the specification has its OWN
reading of "the package is in the image-up-to-layer view" (`Spec.present`/`lastTouch`: the latest layer
at or below `i` that touches the file wrote it with the package); `IsOrigin`/`originSpec` use only that.
`C05_spec_view` proves it equal to the model's upward fold `viewAt` (the file's own
keep/write/symlink/delete ops, i.e. the OCI rule restricted to one path whose ancestors are plain
directories). That the real views obey it is C04's property, not C05's; here it is tied to the code only
by the correspondence run on real images (the generator deletes with the file's own whiteout, never via
an ancestor, and says so in its rule). Package identity is (name, location) = (Nat, file index); one
extractor per file is a standing modelling assumption because the cache key omits the extractor.
-/
import Scalibr.Proofs.Trace
namespace Scalibr.Trace

/-- The specification's view (downward scan for the latest touch, `Spec.present`) and the model's view
(`viewAt`, the fold the trace loop's correctness argument runs on) are the same — so `IsOrigin` and
`originSpec`, which never mention the model, speak about the views the model computes. -/
theorem C05_spec_view (h : History) (i : Nat) (p : Pkg) :
    present h i p = (match viewAt h i with | some ps => ps.contains p | none => false) := by
  rw [present_eq]; cases viewAt h i <;> rfl

/-- THE statement, for every cancellation point and every valid shared state: a reported package
carries the layer that introduced it — the least `L` such that the package is present in every view
`L … last` — or, when the context was cancelled before its trace finished, no layer details at all.
It is never attributed to a wrong layer. -/
theorem C05_origin_or_unset_partial (img : Nat → History) (diff : Nat → Bool) (cancelAt : Option Nat) (f : Nat) (p : Pkg) (s : St)
    (hd : ∀ i, diff i = inDiff (img f) i)
    (hc : CacheOK img s.cache) (hp : present (img f) ((img f).length - 1) p = true) :
    (∃ L, (traceC (img f) diff cancelAt f p s).1 = some L ∧ IsOrigin (img f) p L) ∨
    ((traceC (img f) diff cancelAt f p s).1 = none ∧ ∃ k, cancelAt = some k ∧ k ≤ (traceC (img f) diff cancelAt f p s).2.runs) :=
  (traceC_traced img diff cancelAt f p s (funext hd ▸ skipSound_inDiff _) hc hp).1.imp_right
    (And.imp_right (cancelled_iff _ _).1)

/-- FULL STATEMENT (false for the unchanged code, known finding C05/location-content-depends-on-other-paths):
`C05_origin_or_unset_partial` for EVERY `diff`, i.e. whatever `filesExistInLayer` answers. The hypothesis `hd` says that
the layer's own diff has an entry at the location exactly when the layer changes what the extractor reports there; it
holds when layers touch the location only by writing / linking / deleting that very path. It fails — and the loop then
skips a layer that did change the packages — when the reported packages depend on another path: the location is a
symlink whose TARGET a layer rewrites, or the extractor reads a second file (os/dpkg: etc/os-release in the PURL).
Witness: link.txt -> data/list; L0 writes both (foo), L1 rewrites data/list (foo, bar), L2 touches neither: bar is
attributed to layer 2 instead of 1. -/
theorem C05_symlink_target_rewritten :
    let h : History := [.link [1], .link [1, 2], .keep]     -- what the views show at link.txt
    let diff : Nat → Bool := fun i => i == 0                  -- only layer 0 has an entry AT link.txt
    (traceC h diff none 0 2 St.empty).1 = some 2 ∧ originSpec h 2 = some 1 := by decide +kernel

/-- Without cancellation the backwards loop (with the "file not in this layer's diff" skip) returns THE
origin. -/
theorem C05_origin (h : History) (p : Pkg) (hp : present h (h.length - 1) p = true) :
    ∃ L, trace h p = some L ∧ IsOrigin h p L :=
  (C05_origin_or_unset_partial (fun _ => h) (inDiff h) none 0 p St.empty (fun _ => rfl) (cacheOK_empty _) hp).resolve_right
    fun ⟨_, _, hk, _⟩ => nomatch hk

/-- … which is what the brute-force oracle of the correspondence run computes. -/
theorem C05_origin_spec (h : History) (p : Pkg) (hp : present h (h.length - 1) p = true) :
    trace h p = originSpec h p := by
  obtain ⟨L, h1, h2⟩ := C05_origin h p hp
  rw [h1, (originSpec_iff h p L).2 h2]

/-- every call of the trace, from any valid shared state, under any cancellation point: the cache-free answer, or nothing
with the context cancelled; the cache stays valid -/
theorem traceC_eq_trace (img : Nat → History) (diff : Nat → Bool) (cancelAt : Option Nat) (f : Nat) (p : Pkg) (s : St)
    (hd : ∀ i, diff i = inDiff (img f) i) (hc : CacheOK img s.cache) (hp : present (img f) ((img f).length - 1) p = true) :
    ((traceC (img f) diff cancelAt f p s).1 = trace (img f) p ∨
      ((traceC (img f) diff cancelAt f p s).1 = none ∧ cancelAt ≠ none)) ∧
    CacheOK img (traceC (img f) diff cancelAt f p s).2.cache := by
  have ht := traceC_traced img diff cancelAt f p s (funext hd ▸ skipSound_inDiff _) hc hp
  refine ⟨?_, ht.2⟩
  rw [C05_origin_spec _ p hp]
  exact ht.spec.imp_right (And.imp_right fun hcan hn => by rw [hn] at hcan; cases hcan)

/-- The extraction cache is transparent: starting from ANY cache whose entries are what re-extraction
would give (in particular the one left behind by the packages traced before, of this or other files),
the answer without cancellation is the cache-free one, and the cache stays valid. The cache key is
(location, layer) only — hence the standing modelling assumption of one extractor per file. -/
theorem C05_cache_transparent (img : Nat → History) (f : Nat) (p : Pkg) (s : St) (hc : CacheOK img s.cache)
    (hp : present (img f) ((img f).length - 1) p = true) :
    (traceC (img f) (inDiff (img f)) none f p s).1 = trace (img f) p ∧
    CacheOK img (traceC (img f) (inDiff (img f)) none f p s).2.cache :=
  (traceC_eq_trace img _ none f p s (fun _ => rfl) hc hp).imp_left fun h => h.resolve_right fun h => h.2 rfl

/-- The whole `for _, pkg := range inventory.Packages` loop, sharing one cache and one context across
packages and files: every package gets its cache-free origin, or nothing if the context was cancelled
before its trace finished. -/
theorem C05_populate_partial (img : Nat → History) (diff : Nat → Nat → Bool) (cancelAt : Option Nat)
    (hd : ∀ f i, diff f i = inDiff (img f) i) :
    ∀ (pkgs : List (Nat × Pkg)) (s : St), CacheOK img s.cache →
      (∀ fp ∈ pkgs, present (img fp.1) ((img fp.1).length - 1) fp.2 = true) →
      (populate img diff cancelAt pkgs s).length = pkgs.length ∧
      ∀ x ∈ (populate img diff cancelAt pkgs s).zip pkgs,
        x.1 = trace (img x.2.1) x.2.2 ∨ (x.1 = none ∧ cancelAt ≠ none)
  | [], _, _, _ => by simp [populate]
  | (f, p) :: rest, s, hc, hp => by
    have h := traceC_eq_trace img (diff f) cancelAt f p s (hd f) hc (hp (f, p) List.mem_cons_self)
    have ih := C05_populate_partial img diff cancelAt hd rest _ h.2 fun fp hfp => hp fp (List.mem_cons_of_mem _ hfp)
    simp only [populate, List.length_cons, List.zip_cons_cons, List.mem_cons]
    refine ⟨by rw [ih.1], ?_⟩
    rintro x (rfl | hx)
    · exact h.1
    · exact ih.2 x hx

/-- … and with a context that is never cancelled every package gets it. -/
theorem C05_populate_complete (img : Nat → History) :
    ∀ (pkgs : List (Nat × Pkg)) (s : St), CacheOK img s.cache →
      (∀ fp ∈ pkgs, present (img fp.1) ((img fp.1).length - 1) fp.2 = true) →
      populate img (fun f => inDiff (img f)) none pkgs s = pkgs.map (fun fp => trace (img fp.1) fp.2)
  | [], _, _, _ => rfl
  | (f, p) :: rest, s, hc, hp => by
    have h1 := C05_cache_transparent img f p s hc (hp (f, p) List.mem_cons_self)
    simp only [populate, List.map_cons, h1.1]
    rw [C05_populate_complete img rest _ h1.2 fun fp hfp => hp fp (List.mem_cons_of_mem _ hfp)]

/-- The origin is a layer whose own diff has an entry for the file (a regular file or a symlink) that
holds the package, and the package is not in the view just below. So layers that do not touch the file
— empty layers included — are never an origin, and removing/re-adding is attributed to the re-adding
layer. -/
theorem C05_origin_is_write (h : History) (p : Pkg) (L : Nat) (ho : IsOrigin h p L) :
    (∃ ps, (h[L]? = some (.write ps) ∨ h[L]? = some (.link ps)) ∧ ps.contains p = true) ∧
    (L = 0 ∨ present h (L-1) p = false) := by
  obtain ⟨hL, hb, hfrom⟩ := (isOrigin_iff h p L).1 ho
  constructor
  · -- layer `L` finds the package absent and leaves it present: it neither keeps nor deletes the file
    have hpL := hfrom (L+1) (Nat.lt_succ_self L) hL
    rw [← viewAt_eq, viewAt_step h L hL] at hpL
    rw [List.getElem?_eq_getElem hL]
    cases hop : h[L] with
    | keep => rw [hop] at hpL; rw [show has (viewBelow h L) p = true from hpL] at hb; cases hb
    | delete => rw [hop] at hpL; cases hpL
    | write ps => rw [hop] at hpL; exact ⟨ps, .inl rfl, hpL⟩
    | link ps => rw [hop] at hpL; exact ⟨ps, .inr rfl, hpL⟩
  · cases L with
    | zero => exact .inl rfl
    | succ L => exact .inr (by rw [present_eq]; exact hb)

/-- Layers that do not touch the file are inert: inserting one anywhere (an empty layer, or a layer
about other files) before position `k` moves the attribution by the index map only — the package stays
attributed to the same layer. -/
theorem C05_empty_layers_inert (h : History) (p : Pkg) (k : Nat) (hk : k ≤ h.length)
    (hp : present h (h.length - 1) p = true) :
    trace (insertKeep h k) p = (trace h p).map (shift k) := by
  obtain ⟨L, h1, ho⟩ := C05_origin h p hp
  have ho' := isOrigin_insertKeep h p k L hk ho
  -- the package is in the final view of the longer history as well: its origin is below the end
  have hp' := ho'.2.1 ((insertKeep h k).length - 1) (by have := ho'.1; omega) (by have := ho'.1; omega)
  rw [C05_origin_spec _ p hp', (originSpec_iff _ p _).2 ho', h1]
  rfl

/-- History ↔ layers: `initializeChainLayers` produces exactly the chain the specification prescribes
(`Spec.specChain`): with a valid history (as many non-empty entries as v1 layers) chain layer `i` is
history entry `i`, carries its command, and the non-empty entries take the v1 layers in order; otherwise
the history is ignored: one chain layer per v1 layer, no commands. The driver prints `specChain` and the
check compares the implementation's DiffID/Command with it.
The ignored-history half is one expression of the Go code; the content of the theorem is the valid-history half,
`alignLoop_spec`. -/
theorem C05_alignment (nLayers : Nat) (hist : List HEntry) :
    initChain nLayers hist = some (specChain nLayers hist) := by
  unfold initChain specChain validHistory
  by_cases hv : (hist.filter (fun e => !e.empty)).length = nLayers
  · rw [if_neg (by simp [hv]), if_pos hv, alignLoop_spec nLayers hist 0 0 [] (by omega)]
    exact congrArg some (alignRest_done nLayers nLayers _ _ _ (by omega))
  · rw [if_pos (by simp [hv]), if_neg hv]

/-- Whatever the alignment of chain layers and v1 layers: the origin is a chain layer that stands for a v1 layer, and that
layer's tar has an entry for the file (a regular file or a symlink) holding the package — a chain layer without a v1 layer
keeps every file and is never an origin.  The reported details are that chain layer's. -/
theorem origin_entry (cms : List ChainMeta) (layerOps : List Op) (p : Pkg)
    (hp : present (chainHistory cms layerOps) (cms.length - 1) p = true) :
    ∃ (o : Nat) (cm : ChainMeta) (k : Nat) (ps : List Pkg),
      trace (chainHistory cms layerOps) p = some o ∧ cms[o]? = some cm ∧ cm.layer = some k ∧
      detailsOpt cms (trace (chainHistory cms layerOps) p) = some (o, some k, cm.cmd) ∧
      (layerOps[k]? = some (.write ps) ∨ layerOps[k]? = some (.link ps)) ∧ ps.contains p = true := by
  have hlen : (chainHistory cms layerOps).length = cms.length := List.length_map _
  obtain ⟨o, htr, horig⟩ := C05_origin _ p (by rw [hlen]; exact hp)
  obtain ⟨⟨ps, hw, hps⟩, _⟩ := C05_origin_is_write _ p o horig
  have ho : o < cms.length := hlen ▸ horig.1
  have hcm := List.getElem?_eq_getElem ho
  unfold chainHistory at hw
  rw [List.getElem?_map, hcm, Option.map_some] at hw
  cases hl : cms[o].layer with
  | none => rw [hl] at hw; rcases hw with hw | hw <;> cases hw
  | some k =>
    simp only [hl, List.getD_eq_getElem?_getD] at hw
    refine ⟨o, cms[o], k, ps, htr, hcm, hl, by rw [htr, detailsOpt, Option.bind_some, details, hcm, Option.map_some, hl], ?_, hps⟩
    cases hk : layerOps[k]? with
    | none => rw [hk] at hw; rcases hw with hw | hw <;> cases hw
    | some op => rw [hk] at hw; exact hw

/-- The reported `LayerDetails` are those of the origin chain layer: Index = the origin, Command = that
history entry's CreatedBy, DiffID = that of the v1 layer that entry stands for — which is a layer whose
tar has an entry for the file holding the package. (Valid history.) -/
theorem C05_details (hist : List HEntry) (layerOps : List Op) (p : Pkg)
    (hp : present (chainHistory (alignSpec hist 0 0) layerOps) (hist.length - 1) p = true) :
    let h := chainHistory (alignSpec hist 0 0) layerOps
    ∃ (o : Nat) (ho : o < hist.length) (k : Nat) (ps : List Pkg),
      trace h p = some o ∧
      detailsOpt (alignSpec hist 0 0) (trace h p) = some (o, some k, hist[o].cmd) ∧
      hist[o].empty = false ∧
      k = ((hist.take o).filter (fun e => !e.empty)).length ∧
      (layerOps[k]? = some (.write ps) ∨ layerOps[k]? = some (.link ps)) ∧ ps.contains p = true := by
  obtain ⟨o, cm, k, ps, htr, hcm, hk, hdet, hw, hps⟩ := origin_entry (alignSpec hist 0 0) layerOps p
    (by rw [alignSpec_length]; exact hp)
  rw [alignSpec_getElem?] at hcm
  obtain ⟨e, he, rfl⟩ := Option.map_eq_some_iff.1 hcm
  obtain ⟨ho, rfl⟩ := List.getElem?_eq_some_iff.1 he
  cases hne : hist[o].empty with
  | true => simp [hne] at hk
  | false =>
    simp only [hne, Bool.false_eq_true, if_false, Option.some.injEq, Nat.zero_add] at hk
    exact ⟨o, ho, k, ps, htr, hdet, hne, hk.symm, hw, hps⟩

/-- … and with an ignored history (no or inconsistent history entries; chain layer = v1 layer): the
reported Index is the origin, the DiffID that of the v1 layer with that ordinal — a layer whose tar has
an entry for the file holding the package —, and there is no command. -/
theorem C05_details_no_history (layerOps : List Op) (p : Pkg)
    (hp : present (chainHistory ((List.range layerOps.length).map fun i => (⟨i, some i, ""⟩ : ChainMeta)) layerOps)
            (layerOps.length - 1) p = true) :
    let cms := (List.range layerOps.length).map fun i => (⟨i, some i, ""⟩ : ChainMeta)
    let h := chainHistory cms layerOps
    ∃ (o : Nat) (ps : List Pkg),
      trace h p = some o ∧ detailsOpt cms (trace h p) = some (o, some o, "") ∧
      (layerOps[o]? = some (.write ps) ∨ layerOps[o]? = some (.link ps)) ∧ ps.contains p = true := by
  intro cms h
  obtain ⟨o, cm, k, ps, htr, hcm, hk, hdet, hw, hps⟩ := origin_entry cms layerOps p
    (by rw [List.length_map, List.length_range]; exact hp)
  rw [List.getElem?_map] at hcm
  obtain ⟨i, hi, rfl⟩ := Option.map_eq_some_iff.1 hcm
  obtain rfl : i = o := ((List.getElem?_eq_some_iff.1 hi).2).symm.trans (List.getElem_range _)
  cases hk
  exact ⟨k, ps, htr, hdet, hw, hps⟩

/-! ### non-vacuity and regression witnesses -/

/-- add, rewrite keeping one package, delete, re-create, no-op -/
def exH : History := [.write [1, 2], .keep, .write [2, 3], .delete, .keep, .write [2], .keep]

example : present exH (exH.length - 1) 2 = true := by decide +kernel
example : trace exH 2 = some 5 ∧ originSpec exH 2 = some 5 := by decide +kernel
example : trace [.write [1, 2], .keep, .write [2, 3], .keep] 2 = some 0 ∧ trace [.write [1, 2], .keep, .write [2, 3], .keep] 3 = some 2 := by decide +kernel
-- a valid, non-empty cache (what tracing package 2 leaves behind) gives the same answer for package 3
example : (traceC [.write [1, 2], .keep, .write [2, 3], .keep] (inDiff [.write [1, 2], .keep, .write [2, 3], .keep]) none 0 3
            (traceC [.write [1, 2], .keep, .write [2, 3], .keep] (inDiff [.write [1, 2], .keep, .write [2, 3], .keep]) none 0 2 St.empty).2).1 = some 2 := by decide +kernel
-- regression (fix 32646227, was: attributed to layer 0): L0 "p2", L1 "p1 p3", L2 "p1 p2", context
-- cancelled after the first re-extraction: package 1 gets no layer details, package 2 (cache hit) is right
example : populate (fun _ => [.write [2], .write [1, 3], .write [1, 2]]) (fun _ => inDiff [.write [2], .write [1, 3], .write [1, 2]])
    (some 1) [(0, 1), (0, 2)] St.empty = [none, some 2] := by decide +kernel
example : populate (fun _ => [.write [2], .write [1, 3], .write [1, 2]]) (fun _ => inDiff [.write [2], .write [1, 3], .write [1, 2]])
    none [(0, 1), (0, 2)] St.empty = [some 1, some 2] := by decide +kernel
-- regression (fix ca0187b0, was: layer 0): the location is replaced by a symlink to another list in
-- layer 1 and restored in layer 2: package 1 is absent from view 1, so it belongs to layer 2
example : trace [.write [1], .link [2], .write [1]] 1 = some 2 ∧ originSpec [.write [1], .link [2], .write [1]] 1 = some 2 := by decide +kernel
-- inserting an empty layer below / above the origin
example : trace (insertKeep exH 2) 2 = some 6 ∧ trace (insertKeep exH 6) 2 = some 5 ∧ shift 2 5 = 6 ∧ shift 6 5 = 5 := by decide +kernel
-- alignment with empty layers interleaved
example : initChain 2 [⟨true, "a"⟩, ⟨false, "b"⟩, ⟨true, "c"⟩, ⟨false, "d"⟩] =
    some [⟨0, none, "a"⟩, ⟨1, some 0, "b"⟩, ⟨2, none, "c"⟩, ⟨3, some 1, "d"⟩] := by decide +kernel
example : initChain 2 [⟨false, "b"⟩] = some [⟨0, some 0, ""⟩, ⟨1, some 1, ""⟩] := by decide +kernel

end Scalibr.Trace
