/-
C19 — Capability filtering and plugin name resolution are consistent.

Two kinds of theorems:
* about the MODEL of `ValidateRequirements` / `FilterByCapabilities` / `EnableRequiredExtractors` /
  `ValidatePluginRequirements`, for all plugin lists and all name tables (induction, no bound);
* about the REGENERATED registry `Scalibr.Gen.Registry` (rewritten from /repo on every run): these are
  finite-table facts. The kernel evaluates the whole table once (`registry_checked` in
  `Scalibr.Proofs.RegistryGen`: every registered name, every key, every member of every group); the
  statements below follow from what that pass establishes (`TableOK`) by lemmas that hold of all tables.
Helper lemmas live in `Scalibr.Proofs.Registry`.
-/
import Scalibr.Proofs.RegistryGen
namespace Scalibr.Registry
open Scalibr.Gen.Registry

/-! ### the validator and the filter (all requirements, all capabilities, all plugin lists) -/

/-- `ValidateRequirements` returns nil exactly when the environment satisfies the stated requirements. -/
theorem C19_validate_spec (req caps : Caps) : validate req caps = true ↔ satisfied req caps = true := by
  rw [validate_eq_satisfied]

/-- UNKNOWN ENVIRONMENT. Against the zero value of `Capabilities` (what a nil `*Capabilities` stands for: nothing is known about
the scan environment) exactly the plugins WITHOUT requirements validate — for all 60 requirement tuples. (The Go code
dereferences the nil pointer instead: repaired as ab64d335; judged by the `nilcaps` cases.) -/
theorem C19_unknown_environment (req : Caps) :
    validate req ⟨.any, .any, false, false⟩ = true ↔ req = ⟨.any, .any, false, false⟩ := by
  obtain ⟨o, n, d, r⟩ := req
  have ho : osOK o .any = true ↔ o = .any := by cases o <;> decide
  have hn : netOK n .any = true ↔ n = .any := by cases n <;> decide
  simp [validate_eq_satisfied, satisfied, ho, hn, and_assoc]

/-- The capability filter keeps exactly the satisfied plugins, in order — for every plugin list. The specification's
filter is a PURE FUNCTION of (list, capabilities): calling it again, with other capabilities, on the same list changes
neither the list nor any earlier result. For the Lean model that is how functions are; for the Go code (slices share
backing arrays) it is an obligation of its own, checked by the `seq` cases of the correspondence stream. -/
theorem C19_filter (ps : List Plugin) (caps : Caps) :
    filterByCapabilities ps caps = ps.filter (fun p => satisfied p.req caps) := by
  unfold filterByCapabilities
  rw [filterLoop_eq]
  simp [validate_eq_satisfied]

/-- … so membership in the filtered list is "was offered and is satisfied". -/
theorem C19_filter_mem (ps : List Plugin) (caps : Caps) (p : Plugin) :
    p ∈ filterByCapabilities ps caps ↔ p ∈ ps ∧ satisfied p.req caps = true := by
  rw [C19_filter, List.mem_filter]

/-- (`_partial`: the hypothesis `hr` — the detectors' required extractors can be enabled automatically, `requiredOK` —
is needed, `C19_required_needed`; `hk`: the tables are maps; both are DISCHARGED for the real registry by `C19_required` /
`C19_keys_nodup`, giving the
hypothesis-free `C19_any_selection_valid`.) Any scan configured from lists that validate passes `EnableRequiredExtractors` and `ValidatePluginRequirements` —
for all name tables, all plugin lists, all capabilities. -/
theorem C19_enable_valid_partial (fsT stT : Table) (fs st dets : List Plugin) (caps : Caps)
    (hfs : ∀ p ∈ fs, satisfied p.req caps = true) (hst : ∀ p ∈ st, satisfied p.req caps = true)
    (hd : ∀ d ∈ dets, satisfied d.req caps = true)
    (hk : KeysNodup fsT ∧ KeysNodup stT)
    (hr : ∀ d ∈ dets, ∀ e ∈ d.required, requiredOK fsT stT d.req e) :
    (precheck fsT stT fs st dets caps).isOk = true := by
  obtain ⟨c, hc, hg⟩ := enableList_good fsT stT caps (dets.flatMap (·.required)) ⟨fs, st, _⟩ hk ⟨hfs, hst⟩ fun e he => by
    obtain ⟨d, hd', he'⟩ := List.mem_flatMap.mp he
    exact ⟨d.req, hd d hd', hr d hd' e he'⟩
  unfold precheck enableRequired
  rw [enableDets_eq, hc]
  have : validateAll (c.fs ++ c.st ++ dets) caps = [] := by
    apply validateAll_nil
    intro p hp
    simp only [List.mem_append] at hp
    rcases hp with (hp | hp) | hp
    · exact hg.1 p hp
    · exact hg.2 p hp
    · exact hd p hp
  show (match validateAll (c.fs ++ c.st ++ dets) caps with | [] => Pre.ok c.fs c.st | bad => Pre.invalid bad).isOk = true
  rw [this]
  rfl

/-- A scan configured from capability-FILTERED lists never fails requirement validation — whatever was
selected before filtering (any names, any groups, any hand-made list), as long as the selected
detectors' required extractors can be enabled automatically. -/
theorem C19_filtered_selection_valid_partial (fsT stT : Table) (fs st dets : List Plugin) (caps : Caps)
    (hk : KeysNodup fsT ∧ KeysNodup stT)
    (hr : ∀ d ∈ dets, ∀ e ∈ d.required, requiredOK fsT stT d.req e) :
    (precheck fsT stT (filterByCapabilities fs caps) (filterByCapabilities st caps)
      (filterByCapabilities dets caps) caps).isOk = true := by
  have hsat : ∀ ps p, p ∈ filterByCapabilities ps caps → satisfied p.req caps = true :=
    fun ps p hp => ((C19_filter_mem ps caps p).1 hp).2
  exact C19_enable_valid_partial _ _ _ _ _ caps (hsat fs) (hsat st) (hsat dets) hk
    fun d hd => hr d ((C19_filter_mem _ _ _).1 hd).1

/-! ### the regenerated registry -/

/-- the two extractor name tables have distinct keys (they are Go maps) -/
theorem C19_keys_nodup : KeysNodup fsNames ∧ KeysNodup stNames := ⟨fs_ok.keys, st_ok.keys⟩

/-- Every extractor a registered detector declares as required is registered under its exact name in the
filesystem or the standalone table (`RegisteredAs`, the specification's own notion: an entry `name ↦ [p]` with
`p.name = name`), and whatever is registered there runs wherever the detector runs. -/
theorem C19_required :
    ∀ d ∈ allPlugins detAll, ∀ e ∈ d.required, requiredOK fsNames stNames d.req e :=
  fun d hd e he => requiredOK_of_B _ _ _ _ fs_ok.keys st_ok.keys (registry_checked.2.2.2.2 d hd e he)

/-- For every capability tuple, the scan configured from `FromCapabilities` of the three registries
passes `EnableRequiredExtractors` + `ValidatePluginRequirements`: the whole registry is one selection to which
`C19_filtered_selection_valid_partial` applies. -/
theorem C19_filtered_valid (caps : Caps) :
    (precheck fsNames stNames (fromCapabilities fsAll caps) (fromCapabilities stAll caps)
      (fromCapabilities detAll caps) caps).isOk = true :=
  C19_filtered_selection_valid_partial _ _ (allPlugins fsAll) (allPlugins stAll) (allPlugins detAll) caps
    C19_keys_nodup C19_required

/-- The same for ANY selection of filesystem/standalone plugins and any selection of registered
detectors, filtered by any capabilities (what the CLI does with `--filter-by-capabilities`). -/
theorem C19_any_selection_valid (fs st dets : List Plugin) (caps : Caps)
    (hd : ∀ d ∈ dets, d ∈ allPlugins detAll) :
    (precheck fsNames stNames (filterByCapabilities fs caps) (filterByCapabilities st caps)
      (filterByCapabilities dets caps) caps).isOk = true :=
  C19_filtered_selection_valid_partial _ _ _ _ _ _ C19_keys_nodup (fun d h => C19_required d (hd d h))

/-- Plugin names are unique across the whole registry (filesystem + standalone + detectors). -/
theorem C19_names_unique :
    ((allPlugins fsAll ++ allPlugins stAll ++ allPlugins detAll).map (·.name)).Nodup :=
  nodup_of_keys strKey registry_checked.2.2.2.1

/-- Each table has distinct keys (it is a Go map), each key's members have distinct names (so the
unspecified order of `maps.Values` cannot matter), and every `All` entry is one plugin keyed by its
own name. -/
theorem C19_tables_wellformed :
    (fsNames.map (·.1)).Nodup ∧ (stNames.map (·.1)).Nodup ∧ (detNames.map (·.1)).Nodup ∧
    (∀ kv ∈ fsNames ++ stNames ++ detNames, (kv.2.map (·.name)).Nodup) ∧
    (∀ kv ∈ fsAll ++ stAll ++ detAll, ∃ p, kv.2 = [p] ∧ p.name = kv.1) := by
  refine ⟨fs_ok.keys, st_ok.keys, det_ok.keys, fun kv hkv => ?_, fun kv hkv => ?_⟩
  · simp only [List.mem_append] at hkv
    rcases hkv with (hkv | hkv) | hkv
    · exact fs_ok.members_nodup kv hkv
    · exact st_ok.members_nodup kv hkv
    · exact det_ok.members_nodup kv hkv
  · simp only [List.mem_append] at hkv
    rcases hkv with (hkv | hkv) | hkv
    · exact fs_ok.own kv hkv
    · exact st_ok.own kv hkv
    · exact det_ok.own kv hkv

/-- Every key of the name tables (plugin name or group name) resolves, to exactly the plugins registered under
it, all of which are registered plugins of that kind. The first half is close to a tautology of the
table lookup (keys distinct, member names distinct: `C19_tables_wellformed`) — "advertised" is read as "is a key
of the table the code consults"; the independent sources of names are the go/ast view of the source
(`C19_source_agrees`) and the two names the command line hard-codes (`C19_advertised_groups`); the content is
the second half (a group never yields a plugin that is not registered) and the tie (every key is resolved by
the real `…FromNames` in the correspondence stream). -/
theorem C19_resolves_keys :
    (∀ kv ∈ fsNames, fromNames fsNames [kv.1] = .ok kv.2 ∧ ∀ p ∈ kv.2, p ∈ allPlugins fsAll) ∧
    (∀ kv ∈ stNames, fromNames stNames [kv.1] = .ok kv.2 ∧ ∀ p ∈ kv.2, p ∈ allPlugins stAll) ∧
    (∀ kv ∈ detNames, fromNames detNames [kv.1] = .ok kv.2 ∧ ∀ p ∈ kv.2, p ∈ allPlugins detAll) :=
  ⟨fs_ok.resolves_key, st_ok.resolves_key, det_ok.resolves_key⟩

/-- Resolving a plugin's own name returns that plugin (exact-name lookup and list lookup). -/
theorem C19_resolves :
    (∀ p ∈ allPlugins fsAll, fromName fsNames p.name = .ok p ∧ fromNames fsNames [p.name] = .ok [p]) ∧
    (∀ p ∈ allPlugins stAll, fromName stNames p.name = .ok p ∧ fromNames stNames [p.name] = .ok [p]) ∧
    (∀ p ∈ allPlugins detAll, fromName detNames p.name = .ok p ∧ fromNames detNames [p.name] = .ok [p]) :=
  ⟨fs_ok.resolves, st_ok.resolves, det_ok.resolves⟩

/-- The names the command line uses by default and documents (`default`, `all`) resolve in all three
registries, and `all` is the whole registry. -/
theorem C19_advertised_groups :
    fsNames.lookup "all" = some (allPlugins fsAll) ∧ stNames.lookup "all" = some (allPlugins stAll) ∧
    detNames.lookup "all" = some (allPlugins detAll) ∧
    (fsNames.lookup "default").isSome ∧ (stNames.lookup "default").isSome ∧ (detNames.lookup "default").isSome :=
  ⟨rfl, rfl, rfl, by decide, by decide, by decide⟩

/-- The registry as dumped from the running code and the registry as written in the source (go/ast over
the three `list.go`, `pkg.Name` constants resolved in the plugin packages) have the same keys and the
same members under every key: nothing registered in the source is missing from the tables the other
theorems talk about, and every plugin is registered under its own `Name()`. -/
theorem C19_source_agrees :
    fsNames.map (fun kv => (kv.1, kv.2.map (·.name))) = fsNamesSrc ∧
    stNames.map (fun kv => (kv.1, kv.2.map (·.name))) = stNamesSrc ∧
    detNames.map (fun kv => (kv.1, kv.2.map (·.name))) = detNamesSrc ∧
    fsAll.map (·.1) = fsAllSrc ∧ stAll.map (·.1) = stAllSrc ∧ detAll.map (·.1) = detAllSrc :=
  -- equal tables are made of the same literals: the kernel sees that without reading a single name
  ⟨rfl, rfl, rfl, rfl, rfl, rfl⟩

/-! ### non-vacuity and sharpness -/

/-- the registry is not empty and the hypotheses above are inhabited -/
example : (allPlugins fsAll).length ≥ 50 ∧ (allPlugins stAll).length ≥ 5 ∧ (allPlugins detAll).length ≥ 10 := by
  decide +kernel
/-- some detector really declares required extractors (so `C19_required` is not about nothing) -/
example : ∃ d ∈ allPlugins detAll, d.required ≠ [] := by decide +kernel
/-- the filter really removes something for some capabilities and keeps something -/
example : (fromCapabilities detAll ⟨.windows, .offline, false, false⟩).length <
    (fromCapabilities detAll ⟨.linux, .online, true, true⟩).length := by decide +kernel

/-- Sharpness of `C19_enable_valid_partial`: without `requiredOK` the conclusion fails — a detector that runs
anywhere but requires an extractor that needs Windows is auto-enabled into a failing configuration. -/
theorem C19_required_needed :
    let ext : Plugin := ⟨"x", ⟨.windows, .any, false, false⟩, []⟩
    let det : Plugin := ⟨"d", ⟨.any, .any, false, false⟩, ["x"]⟩
    (precheck [("x", [ext])] [] [] [] [det] ⟨.linux, .any, false, false⟩).isOk = false := by
  decide

end Scalibr.Registry
