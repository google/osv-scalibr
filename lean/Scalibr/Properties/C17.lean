/-
C17 — Symlink resolution in image views terminates with the right answer.
Property theorems only; helper lemmas live in `Scalibr.Proofs.Symlink`.
All theorems hold for every graph (finite or not, cyclic or not), every maximum depth and every
start entry; nothing is bounded and none carries a restricting hypothesis.

The property's sentence, read strictly (`Spec.specWalk`): with a budget of `D` hops,
  * the first non-symlink target when it is at most `D` hops away            → that node;
  * a missing or deleted entry reached within `D` hops                       → not found;
  * otherwise (anything — file, deleted entry, nothing — lies past the budget, or the chain cycles)
                                                                             → cycle or depth error.
There is no slack at the budget's edge. (The model mirrors the code after fix 51e26c4a — a dangling target
exactly one hop past the budget is a depth error, like a deleted or present one at that distance — and after
fix d91e0833 — `Open`/`ReadDir` of a deleted entry is not-exist; the witnesses are kept in
corpus/C17/budget-edge.case as strict regression cases.)
-/
import Scalibr.Proofs.Symlink
import Scalibr.Model.OverlayImage
import Scalibr.Proofs.SymlinkOverlay
namespace Scalibr.Symlink
set_option linter.unusedSectionVars false

variable {α : Type} [DecidableEq α]

/-- Termination. `resolve` is defined by structural recursion on `depth + 1` (no fuel), so it is total;
and the loop as Go writes it — an unbounded `for` with an `Int` counter, modelled with explicit fuel —
returns that very answer within `maxDepth + 2` iterations on every graph; more fuel changes nothing.
This is fuel adequacy between two Lean transcriptions: the structural definition is the one all other theorems
are about, this theorem says the literal transcription of the `for {}` agrees with it and needs at most `D + 2`
iterations. -/
theorem C17_terminates (g : Graph α) (D : Nat) (p : α) (fuel : Nat) (h : D + 2 ≤ fuel) :
    loopF g fuel p p false (D : Int) = some (resolve g D p) := by
  have := loopF_eq_loop g (D+1) fuel p p false (by omega)
  rw [show ((D + 1 : Nat) : Int) - 1 = (D : Int) by omega] at this
  exact this

/-- Success exactly when the first non-symlink is at most `D` hops away (everything before it on the
chain being a symlink). -/
theorem C17_ok_iff (g : Graph α) (D : Nat) (p n : α) :
    resolve g D p = .ok n ↔
      ∃ k, k ≤ D ∧ chain g k p = some n ∧ isTerm g n = true ∧
        ∀ j, j < k → ∃ q, chain g j p = some q ∧ isLink g q = true := by
  constructor
  · intro h
    obtain ⟨k, hk, hc, hn⟩ := h ▸ resolve_sound g D p
    refine ⟨k, Nat.le_of_lt_succ hk, hc, hn, fun j hj => ?_⟩
    cases k with
    | zero => cases hj
    | succ k => exact chain_prefix_link g k j p n hc (Nat.le_of_lt_succ hj)
  · rintro ⟨k, hk, hc, hn, _⟩
    rw [resolve_of_end g D p k n hc (isTerm_not_link g n hn) hk, if_neg (isTerm_ne_none g n hn)]

/-- Never the wrong file: a successful answer is THE first non-symlink of the chain, whatever the
configured depth. -/
theorem C17_never_wrong (g : Graph α) (D : Nat) (p n : α) (h : resolve g D p = .ok n) :
    ∀ k n', chain g k p = some n' → isTerm g n' = true → n' = n := by
  intro k n' hc' hn'
  obtain ⟨k0, _, hc, hn⟩ := h ▸ resolve_sound g D p
  exact (chain_end_unique g p k k0 n' n hc' (isTerm_not_link g n' hn') hc (isTerm_not_link g n hn)).2

theorem C17_depth_independent (g : Graph α) (D D' : Nat) (p n n' : α)
    (h : resolve g D p = .ok n) (h' : resolve g D' p = .ok n') : n = n' := by
  obtain ⟨k, _, hc, hn, _⟩ := (C17_ok_iff g D p n).mp h
  exact C17_never_wrong g D' p n' h' k n hc hn

/-- Not found: a missing entry at hop `j ≤ D` yields not-exist … -/
theorem C17_notfound (g : Graph α) (D : Nat) (p q : α) (j : Nat)
    (hc : chain g j p = some q) (hq : g q = none) (hj : j ≤ D) :
    resolve g D p = .notExist :=
  (resolve_of_end g D p j q hc (by simp [isLink, hq]) hj).trans (if_pos hq)

/-- … and not-exist is reported for nothing else: only for a missing entry WITHIN the budget. -/
theorem C17_notExist_only_if (g : Graph α) (D : Nat) (p : α) (h : resolve g D p = .notExist) :
    ∃ j q, j ≤ D ∧ chain g j p = some q ∧ g q = none := by
  obtain ⟨j, q, hj, hc, hq⟩ := h ▸ resolve_sound g D p
  exact ⟨j, q, Nat.le_of_lt_succ hj, hc, hq⟩

/-- Otherwise: no non-symlink within `D` hops and no missing entry within `D` hops gives a cycle or a
depth error — in particular when the missing entry is exactly one hop past the budget. -/
theorem C17_otherwise (g : Graph α) (D : Nat) (p : α)
    (h1 : ∀ k n, k ≤ D → chain g k p = some n → isTerm g n = false)
    (h2 : ∀ j q, j ≤ D → chain g j p = some q → g q ≠ none) :
    resolve g D p = .cycle ∨ resolve g D p = .depth :=
  resolve_err g D p h1 h2

/-- Cycle detection can only pre-empt a depth error: a reported cycle is a real one (the chain never
reaches a non-symlink or a missing entry). -/
theorem C17_cycle_real (g : Graph α) (D : Nat) (p : α) (h : resolve g D p = .cycle) :
    ∀ k, ∃ q, chain g k p = some q ∧ isLink g q = true := by
  intro k
  have hs : Sound g (D+1) p .cycle := h ▸ resolve_sound g D p
  cases hc : chain g (k+1) p with
  | none => exact (hs (k+1) hc).elim
  | some q => exact chain_prefix_link g k k p q hc (Nat.le_refl k)

/-- `specWalk` IS the sentence, read on the chain: each verdict is one clause of it. -/
theorem C17_spec_reads_sentence (g : Graph α) (D : Nat) (p : α) :
    (∀ n, specWalk g D p = .mustOk n → ∃ k, k ≤ D ∧ chain g k p = some n ∧ isReal g n = true) ∧
    (specWalk g D p = .mustNotExist → ∃ k q, k ≤ D ∧ chain g k p = some q ∧ isGone g q = true) ∧
    (specWalk g D p = .cycleOrDepth →
      ∀ k, k ≤ D → ∃ q, chain g k p = some q ∧ isLink g q = true) := by
  have hs := specWalk_spec g D p
  refine ⟨fun n h => ?_, fun h => ?_, fun h k hk => ?_⟩ <;> rw [h] at hs
  · exact hs
  · exact hs
  · obtain ⟨q, hc⟩ := hs
    exact chain_prefix_link g D k p q hc hk

/-- `ReadDir` fails exactly when `Open` fails, with the same class (so a deleted entry has no listing).
DEFINITIONAL (`rfl`): it restates the model's `readDir`; it is listed only so that the reader of
`C17_open_meets_spec` sees what it implies for `ReadDir`. -/
theorem C17_readdir_follows_open (g : Graph α) (kids : α → List String) (D : Nat) (p : α) :
    readDir g kids D p =
      (match openNode g D p with
       | .ok n => .ok (kids n) | .notExist => .notExist | .cycle => .cycle | .depth => .depth) := rfl

/-- `Open` then `Stat` on the handle is `Stat` (what `runExtractor` does). DEFINITIONAL (unfold + case
split): it relates two model functions, not the model and the specification. -/
theorem C17_open_then_stat (g : Graph α) (D : Nat) (p : α) :
    stat g D p =
      (match openNode g D p with
       | .ok n => (match g n with
          | some (.term .file) => .file n
          | some (.term .dir) => .dir n
          | _ => .notExist)
       | .notExist => .notExist
       | .cycle => .cycle
       | .depth => .depth) := by
  unfold stat openNode
  cases g p with
  | none => rfl
  | some x =>
    simp only []
    cases resolve g D p with
    | ok n =>
      simp only []
      cases hgn : g n with
      | none => simp [hgn]
      | some y => cases y with
        | link t => simp [hgn]
        | term kd => cases kd <;> simp [hgn]
    | notExist => rfl
    | cycle => rfl
    | depth => rfl

/-- the common core of the two "meets the specification" theorems: what `Open` answers under each verdict -/
private theorem open_meets (g : Graph α) (D : Nat) (p : α) :
    match specWalk g D p with
    | .mustOk n => openNode g D p = .ok n ∧ isReal g n = true
    | .mustNotExist => openNode g D p = .notExist
    | .cycleOrDepth => openNode g D p = .cycle ∨ openNode g D p = .depth := by
  have hs := specWalk_spec g D p
  unfold openNode
  generalize specWalk g D p = v at hs ⊢
  cases v <;> dsimp only at hs ⊢
  · -- the chain ends at a real file or directory within the budget
    obtain ⟨k, hk, hc, hr⟩ := hs
    have hn := isReal_isTerm g _ hr
    have hres := resolve_of_end g D p k _ hc (isTerm_not_link g _ hn) hk
    rw [if_neg (isTerm_ne_none g _ hn)] at hres
    obtain ⟨x, hx⟩ := Option.isSome_iff_exists.mp
      (chain_target_some g k p _ hc (Option.isSome_iff_ne_none.mpr (isTerm_ne_none g _ hn)))
    refine ⟨?_, hr⟩
    rw [hx, hres]
    unfold isReal at hr
    split at hr <;> simp_all
  · -- … at a missing or deleted entry within the budget
    obtain ⟨k, q, hk, hc, hq⟩ := hs
    have hres := resolve_of_end g D p k q hc (by unfold isGone at hq; unfold isLink; split at hq <;> simp_all) hk
    cases hgp : g p with
    | none => rfl
    | some x =>
      unfold isGone at hq
      split at hq
      · rename_i hgq; simp [hres, hgq]
      · rename_i hgq; simp [hres, hgq]
      · cases hq
  · -- … or is still running after the last permitted hop
    obtain ⟨q, hc⟩ := hs
    have h0 := chain_reaches_link_or_end g D 0 p q hc (Nat.zero_le _) p rfl
    obtain ⟨x, hx⟩ := Option.ne_none_iff_exists'.mp h0.2
    rw [hx]
    rcases resolve_err g D p (fun k n hk hcn => (chain_reaches_link_or_end g D k p q hc hk n hcn).1)
      (fun j q' hj hcq => (chain_reaches_link_or_end g D j p q hc hj q' hcq).2) with h | h <;> rw [h]
    · exact .inl rfl
    · exact .inr rfl

/-- … and at the observation point `Open`: the result of `Open` ITSELF meets the sentence — a deleted
entry is not-exist already at `Open`, not only at a later `Stat`/`Read` on a handle. No hypothesis. -/
theorem C17_open_meets_spec (g : Graph α) (D : Nat) (p : α) :
    allowedOpen (specWalk g D p) (openNode g D p) = true := by
  have h := open_meets g D p
  generalize specWalk g D p = v at h ⊢
  cases v <;> dsimp only at h
  · simp [h.1, allowedOpen]
  · simp [h, allowedOpen]
  · rcases h with h | h <;> simp [h, allowedOpen]

/-- The whole sentence at the observation point `Stat`: what `Stat` answers is exactly what the walk
of the chain with `D` hops prescribes. No hypothesis. -/
theorem C17_stat_meets_spec (g : Graph α) (D : Nat) (p : α) :
    allowed g (specWalk g D p) (stat g D p) = true := by
  have h := open_meets g D p
  rw [C17_open_then_stat]
  generalize specWalk g D p = v at h ⊢
  cases v <;> dsimp only at h
  · obtain ⟨h, hr⟩ := h
    unfold isReal at hr
    split at hr <;> simp_all [allowed]
  · simp [h, allowed]
  · rcases h with h | h <;> simp [h, allowed]

/-! ### the final view under a file requirer -/

/-- A REQUIRED symlink survives the pruning of the final view with everything it needs: `Stat` of it in the
pruned view still meets the sentence read on the UNPRUNED view — the first non-symlink target within the
budget, not-found, or a cycle/depth error — whatever else the requirer lets go. -/
theorem C17_required_link_survives (g : Graph α) (nodes : List α) (req : α → Bool) (D : Nat) (r : α)
    (hr : req r = true) (hrn : r ∈ nodes) :
    allowed g (specWalk g D r) (stat (pruned g nodes req D) D r) = true := by
  -- every node within D hops of r is kept as it is: r is required, the others are marked
  have kept : ∀ k q, k ≤ D → chain g k r = some q → pruned g nodes req D q = g q := by
    intro k q hk hc
    unfold pruned
    cases hgq : g q with
    | none => rfl
    | some x =>
      have hkeep : (req q || nodes.any (fun r' => req r' && (markFrom g D r').contains q)) = true := by
        cases k with
        | zero => cases hc; rw [hr]; rfl
        | succ k =>
          have hm := markFrom_covers g D r k q hc hk (by rw [hgq]; exact nofun)
          rw [Bool.or_eq_true, List.any_eq_true]
          exact .inr ⟨r, hrn, by simp [hr, hm]⟩
      rw [hkeep]
      cases x with
      | link t => rfl
      | term kd => cases kd <;> rfl
  -- hence the specification's walk reads the same verdict on both graphs, and `Stat` meets it there
  have hmeets := C17_stat_meets_spec (pruned g nodes req D) D r
  rw [specWalk_congr g _ D r kept] at hmeets
  -- `allowed` looks at the graph only at the node the verdict names, which is on the chain
  rw [← allowed_congr g _ _ _ fun n hv => ?_]
  · exact hmeets
  · have hs := specWalk_spec g D r
    rw [hv] at hs
    obtain ⟨k, hk, hc, _⟩ := hs
    exact kept k n hk hc

/-! ### load time -/

/-- A symlink whose target would leave the image root gets no link node (the entry is rejected; the loader
leaves a plain whiteout node at its path), so it can never be followed.  A statement about the control flow of
`handleSymlink`; its content is `C17_outside_iff`, which says what "outside" means. -/
theorem C17_outside (dir linkSegs : List String)
    (h : targetOutsideRoot dir (linkSegs.head? = some "") linkSegs = true) :
    handleSymlink dir linkSegs = .skipped := by
  unfold handleSymlink
  have hne : linkSegs ≠ [""] := by
    intro he; subst he
    simp [targetOutsideRoot, cleanRel, cleanRelAux, isDot, isDotDot] at h
  simp [hne, h]

/-- `TargetOutsideRoot` is exactly "some prefix of the joined path has more `..` than names". No
hypothesis on `dir`: the joined path `dir ++ target` is read as a whole. Standing modelling assumption, not a hypothesis on inputs: the random uuid marker
directory occurs in no segment. -/
theorem C17_outside_iff (dir tgt : List String) :
    targetOutsideRoot dir false tgt = escapes 0 (dir ++ tgt) ∧
    targetOutsideRoot dir true tgt = escapes 0 tgt := by
  unfold targetOutsideRoot cleanRel
  simp only [Bool.false_eq_true, if_false, if_true, List.contains_reverse]
  have h1 := cleanRelAux_marker (dir ++ tgt) [] (by simp)
  have h2 := cleanRelAux_marker tgt [] (by simp)
  simp only [List.map_nil, List.nil_append, List.length_nil] at h1 h2
  have step : ∀ xs : List String, cleanRelAux [] (none :: xs.map some) = cleanRelAux [none] (xs.map some) := by
    intro xs; simp [cleanRelAux, isDot, isDotDot]
  rw [step, step, h1, h2]
  simp

/-- Every stored target is a canonical tree key (no "", "." or ".." segment), for relative and absolute
link names alike. -/
theorem C17_target_canonical (dir linkSegs key : List String)
    (h : handleSymlink dir linkSegs = .node key) : canonical key = true := by
  have hc : ∀ xs, canonical (cleanAbs xs) = true := fun xs => by
    simpa [cleanAbs, canonical] using canonical_cleanAbsAux xs [] rfl
  revert h
  fun_cases handleSymlink dir linkSegs <;> intro h <;> cases h <;> exact hc _

/-- The loader and the specification's own lexical resolver (`resolveLex`, which shares no code with
`cleanAbs`/`cleanRel`/`targetOutsideRoot`) agree on every link name: a node is created exactly when the
name denotes an entry inside the root, and it addresses exactly that entry. No hypothesis. -/
theorem C17_stored_target (dir linkSegs : List String) (hne : linkSegs ≠ [""]) :
    handleSymlink dir linkSegs =
      (match denotes dir linkSegs with
       | some key => .node key
       | none => .skipped) := by
  unfold handleSymlink denotes
  simp only [hne, if_false]
  have hiff := C17_outside_iff dir linkSegs
  by_cases habs : linkSegs.head? = some ""
  · simp only [habs, decide_true, if_true, hiff.2, resolveLex_eq linkSegs [], List.length_nil,
      List.reverse_nil, cleanAbs]
    split <;> rfl
  · simp only [habs, decide_false, if_false, hiff.1, resolveLex_eq (dir ++ linkSegs) [], List.length_nil,
      List.reverse_nil, cleanAbs]
    split <;> rfl

/-- Hard links (`tar.TypeLink`): the node addresses the archive entry the link names, read from the image
root whatever directory the link sits in; a name that climbs above the root gets no node. Being a link
node, it is then resolved exactly like a symlink (all theorems above apply: the answer is the first
non-link target). There is no load error for an empty name (it denotes the root). -/
theorem C17_hardlink_target (dir linkSegs : List String) :
    handleHardLink dir linkSegs =
      (match resolveLex [] (hardLinkSegs linkSegs) with
       | some key => .node key
       | none => .skipped) := by
  have h : (hardLinkSegs linkSegs).head? = some "" ∧ hardLinkSegs linkSegs ≠ [""] := by
    fun_cases hardLinkSegs linkSegs
    · rename_i h
      simp only [Bool.and_eq_true, decide_eq_true_eq] at h
      exact ⟨h.2, fun he => by rw [he] at h; simp at h⟩
    · exact ⟨rfl, by split <;> simp_all⟩
  rw [handleHardLink, C17_stored_target dir _ h.2, denotes, if_pos h.1]

/-- The two Lean models of the loader's symlink handling are the same functions: C04's
(`Overlay.targetOutsideRoot`/`Overlay.targetSegs` in Model/OverlayImage.lean: leading ".." count and kept
segments of `GoPath.cleanComps`) and C17's (`targetOutsideRoot`: marker directory on a segment stack;
`cleanAbs`). `vp` is the link's virtual path as segments, `target` the link name. The only glue left
unproved is a fact about `String.splitOn`/`startsWith` (`GoPath.isAbs t ↔ (GoPath.comps t).head? = some ""`),
which is why `isAbs target` appears on the C17 side instead of `handleSymlink`'s own test. -/
theorem C17_loader_models_agree (vp : List String) (target : String) :
    Overlay.targetOutsideRoot vp target =
      targetOutsideRoot vp.dropLast (GoPath.isAbs target) (GoPath.comps target) ∧
    Overlay.targetSegs vp target =
      (if GoPath.isAbs target then cleanAbs (GoPath.comps target)
       else cleanAbs (vp.dropLast ++ GoPath.comps target)) := by
  have hout : ∀ xs : List String, decide ((GoPath.cleanComps false xs).1 > 0) = escapes 0 xs := by
    intro xs
    rw [Bool.eq_iff_iff, decide_eq_true_iff]
    show (xs.foldl (GoPath.cleanStep false) (0, [])).1 > 0 ↔ _
    rw [foldl_cleanStep_ups]; simp
  have hseg : ∀ xs : List String, (GoPath.cleanComps true xs).2 = cleanAbs xs := fun xs =>
    congrArg List.reverse (foldl_cleanStep_rooted xs 0 [])
  have hiff := C17_outside_iff vp.dropLast (GoPath.comps target)
  unfold Overlay.targetOutsideRoot Overlay.targetSegs
  cases GoPath.isAbs target <;> simp only [hout, hseg, hiff, if_true, if_false, Bool.false_eq_true, and_self]

/-! ### non-vacuity and concrete witnesses (graphs on `Nat`) -/

/-- 0 → 1 → 2 → 3(file); 4 → 5 → 4 (cycle); 6 → 7 (missing); 8 → 9 (deleted); 10 → 10 -/
def exG : Graph Nat := fun i =>
  match i with
  | 0 => some (.link 1) | 1 => some (.link 2) | 2 => some (.link 3) | 3 => some (.term .file)
  | 4 => some (.link 5) | 5 => some (.link 4)
  | 6 => some (.link 7)
  | 8 => some (.link 9) | 9 => some (.term .wh)
  | 10 => some (.link 10)
  | _ => none

example : resolve exG 3 0 = .ok 3 ∧ resolve exG 2 0 = .depth ∧ stat exG 3 0 = .file 3 := by decide +kernel
example : resolve exG 6 4 = .cycle ∧ resolve exG 0 4 = .depth ∧ resolve exG 1 10 = .cycle := by decide +kernel
-- the budget's edge is symmetric: a missing, a deleted and a present entry one hop past the budget are
-- all a depth error; within the budget the first two are not-exist
example : stat exG 0 6 = .depth ∧ stat exG 0 8 = .depth ∧ stat exG 2 0 = .depth := by decide +kernel
example : stat exG 1 6 = .notExist ∧ stat exG 1 8 = .notExist := by decide +kernel
example : specWalk exG 0 6 = .cycleOrDepth ∧ specWalk exG 0 8 = .cycleOrDepth ∧ specWalk exG 1 8 = .mustNotExist := by decide +kernel
-- Open of a deleted entry (directly, or through a link) is not-exist, not a handle
example : openNode exG 1 8 = .notExist ∧ openNode exG 0 9 = .notExist ∧ openNode exG 3 0 = .ok 3 := by decide +kernel
-- hypotheses of C17_ok_iff / C17_notfound / C17_otherwise are satisfiable
example : chain exG 3 0 = some 3 ∧ isTerm exG 3 = true := by decide +kernel
example : chain exG 1 6 = some 7 ∧ exG 7 = none := by decide +kernel
example : (∀ k n, k ≤ 2 → chain exG k 4 = some n → isTerm exG n = false) := by
  intro k n hk
  have : k = 0 ∨ k = 1 ∨ k = 2 := by omega
  rcases this with rfl | rfl | rfl <;> simp only [chain, exG] <;> intro h <;> cases h <;> decide
-- load time
example : handleSymlink ["d"] ["..", "..", "x"] = .skipped := by decide +kernel
example : handleSymlink ["d"] ["..", "x"] = .node ["x"] := by decide +kernel
example : handleSymlink ["d"] ["", "..", "x"] = .skipped := by decide +kernel
example : handleSymlink [] ["", "n0"] = .node ["n0"] := by decide +kernel
-- absolute names in any spelling are stored canonically (regression for fix a23f8926)
example : handleSymlink [] ["", ".", "a"] = .node ["a"] ∧ handleSymlink [] ["", "", "a"] = .node ["a"] ∧
    handleSymlink ["s"] ["", "d", ""] = .node ["d"] ∧ handleSymlink [] ["", ""] = .node [] := by decide +kernel
-- hard links are read from the root, whatever directory they sit in
example : handleHardLink ["s"] ["a"] = .node ["a"] ∧ handleHardLink ["s"] ["", "s", "d"] = .node ["s", "d"] ∧
    handleHardLink ["s"] ["..", "a"] = .skipped ∧ handleHardLink ["s"] [""] = .node [] := by decide +kernel
-- the specification's resolver on the same names
example : denotes ["s"] ["", "s", "d"] = some ["s", "d"] ∧ denotes ["s"] ["..", ".", "a"] = some ["a"] ∧
    denotes ["s"] ["..", "..", "a"] = none ∧ denotes [] ["", ".", "a"] = some ["a"] := by decide +kernel

end Scalibr.Symlink
