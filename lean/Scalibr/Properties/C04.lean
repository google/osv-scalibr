/-
C04 — Each image-up-to-layer view equals the OCI overlay of its layers.
Property theorems only; helper lemmas live in `Scalibr.Proofs.Overlay*`.

At full strength the property says: for every image, every view `j` and every path `q`,
`obsOf ((viewOf layers j).get q) = obsOf ((specView layers j).get q)` — kind, mode, size, content id, link target.
That is false for the unchanged code (`C04_view_fails_*` below: one decided counterexample per class), so the
theorem in force is `C04_view_partial`, under the decidable hypothesis `H` (`Spec/Overlay.lean`) whose clauses are
exactly the class predicates of the known findings plus well-formedness of a single tar:
  * `freshB`          — finding 29 (a whiteout or file for a path created earlier in the same tar is dropped; a directory's
                        own entry after its contents is honoured since fix ac5627f0) / finding C04/same-layer-duplicate-first-wins
                        (a member name listed twice: the first entry counts, a tar extraction leaves the last; witness
                        `C04_view_fails_duplicate`; the stream judges these views against the overlay of the tars with the
                        repeats left out, `dedupFirst`, wherever `H` holds for that reading — no theorem for that step)
  * `noUnderBlocker`  — finding 30 (whiteout + re-creation in one tar) / entries below a non-directory
  * `noOpaque`        — finding 12 (opaque whiteouts hide nothing)
  * `noRecreateAt`    — finding 10 (deleted, re-created later, lower children reappear)
  * `noImplicitOverExplicitAt` — class `implicit-dir`: a directory a layer only implies loses the metadata of the lower layer's entry
  * (driver clause `rejected-shadow` / `rejected-parents`, Spec/OverlayRejected.lean) — an entry the loader cannot expose
    (regular file of MaxFileBytes or more, symbolic link out of the root) is read by the specification as a whiteout of its
    path (`specEffective`); the model mirrors the code after fix <P3>, which leaves the same whiteout (`specEffective_eq`,
    witness `C04_view_rejected_fixed`); `C04_view_rejected_partial` is the bridge for the driver's reading

Notes.
* `C04_squash` ("the squashed on-disk unpacking holds the regular files of the final view") has NO theorem: the unpack
  model (`Model/Unpack.lean`) and this model share no lemma.  It is a run-time comparison in the C04 stream (field
  `squash=` of c04gen: `unpack.UnpackSquashed` of the same image vs the final view, judged where `H` holds and the image
  has no links/fifos); two classes where it fails are recorded findings (C04/squash-*).
* The requirer clause is `C04_required_view` (declarative: `RequiredView`, `Needed`, `Reach` in
  Spec/OverlayRequired.lean, which does not mention the model) with `C04_required_unique`; `C04_required` (model =
  executable specification) is proved through `withinB_eq_contains` (the specification's yes/no walk answers membership in
  the list the model's walk builds), not `rfl`; `mem_chase_iff_Reach` ties that list to the relation `Reach`.
* `H` is sufficient, not necessary: `noRecreateAt` and `noImplicitOverExplicitAt` are syntactic over-approximations of
  their defect classes (they ignore an intervening deletion); for the opaque marker there is only the negative theorem
  `C04_view_fails_opaque` — the code has no opaque handling to prove anything positive about.  The evidence reports how
  many generated images satisfy `H`; a quarter of the stream is built to satisfy it.
* `C04_readdir_partial` / `C04_walk_partial` are congruence corollaries by design: `FS.ReadDir` and `fs.WalkDir` read the
  tree only through `Get`/`GetChildren`, which the model renders as `t.get` over the candidate paths `U`; that rendering
  (and `walk`'s fuel: the depth of `U` plus 2) is validated by the correspondence stream, not proved.
* Content: `Obs.file` carries the content id of the tar entry; that the bytes behind a node are the entry's bytes is
  checked through the modelled extraction directory by the stream only (driver flag `bigDup` marks the one way it fails:
  a size-rejected entry followed by an accepted entry of the same name in one tar — ill-formed, no theorem).
-/
import Scalibr.Proofs.OverlayView
import Scalibr.Proofs.OverlayLoad
import Scalibr.Model.OverlayImage
import Scalibr.Proofs.OverlayImage
import Scalibr.Spec.OverlayRequired
import Scalibr.Proofs.OverlayRequired
import Scalibr.Spec.OverlayRejected
namespace Scalibr.Overlay

/-- **C04, partial form.** For every image, view `j` and path: when `H` holds for the layers of the view, what the
loader's view answers at the path (absent / directory with mode / file with mode, size, content / symlink with mode,
target) is what the OCI visibility rule says. No bound on layers, entries or depth. -/
theorem C04_view_partial (layers : List Layer) (j : Nat) (h : H layers j = true) (q : Path) :
    obsOf ((viewOf layers j).get q) = obsOf ((specView layers j).get q) := by
  have hprov : Prov (rootTree j) [] := fun q hq n hn _ => by simp [rootTree_get, hq] at hn
  have hvirt : ∀ q n, (rootTree j).get q = some n → n.virt = true → j + 1 ≤ n.layer := by
    intro q n hn hv
    cases rootTree_get_some j hn
    cases hv
  rw [viewOf, view_gen layers (j+1) [] (rootTree j) rfl hprov hvirt h q]
  by_cases hq : q = []
  · subst hq; rfl
  · rw [under_root_get j _ hq]; simp [specView, hq]

/-- The literal lock-step loader (`loadCore`, the Go loops) computes exactly these views, for every image. -/
theorem C04_loader_views (layers : List Layer) (j : Nat) (hj : j < layers.length) :
    (loadCore layers).getD j emptyTree = viewOf layers j :=
  loadCore_eq_viewOf layers j hj

/-- `C04_view_partial` for the trees the lock-step loader builds. -/
theorem C04_loader_partial (layers : List Layer) (j : Nat) (hj : j < layers.length) (h : H layers j = true) (q : Path) :
    obsOf (((loadCore layers).getD j emptyTree).get q) = obsOf ((specView layers j).get q) := by
  rw [C04_loader_views layers j hj]; exact C04_view_partial layers j h q

/-- **The same for what `image.FromV1Image` is modelled by end to end** (`loadImage`: acceptance verdicts, extraction
directory, load errors): whenever the load succeeds, chain layer `j` answers every path as the OCI rule does on the
node-creating entries, under `H`.  (`loadImage_chains` is the link from `loadImage` to `loadCore`.  Name cleaning,
`.wh.` parsing and the size / link rejections — `normEntry`, `classify` — are a pre-pass shared by model and
specification: the property speaks about tar *entries*, and which headers count as entries of which path is fixed by
that pre-pass and validated by the correspondence stream only.) -/
theorem C04_image_partial (limit : Nat) (layers : List (List PEntry)) (c : List Tree) (ds : List (Nat × Disk))
    (hload : loadImage limit layers = some (c, ds)) (j : Nat) (hj : j < layers.length)
    (h : H (layers.map effective) j = true) (q : Path) :
    obsOf ((c.getD j emptyTree).get q) = obsOf ((specView (layers.map effective) j).get q) := by
  rw [loadImage_chains limit layers c ds hload]
  exact C04_loader_partial _ j (by simpa using hj) h q

/-! ### whiteout-free images (with modes, symlinks and file-over-directory) -/

def noWhiteouts (layers : List Layer) : Bool := layers.all fun l => l.all fun e => !e.wh

/-- `H` without the clause about opaque markers -/
def HnoWh : List Layer → List Layer → Bool
  | _, [] => true
  | later, l :: older =>
    layerOK l && noRecreateAt later l older && noImplicitOverExplicitAt l older && HnoWh (l :: later) older

theorem Hfrom_of_noWh : ∀ (ls later : List Layer), (∀ l ∈ ls, ∀ e ∈ l, e.wh = false) → HnoWh later ls = true →
    Hfrom later ls = true := by
  intro ls
  induction ls with
  | nil => intro _ _ _; rfl
  | cons l older ih =>
    intro later hnw h
    simp only [HnoWh, Bool.and_eq_true] at h
    obtain ⟨⟨⟨h1, h2⟩, h3⟩, h4⟩ := h
    have hno : noOpaque l = true := by
      unfold noOpaque Entry.isOpq
      rw [List.all_eq_true]; intro e he; simp [hnw l (by simp) e he]
    simp only [Hfrom, Bool.and_eq_true]
    exact ⟨⟨⟨⟨h1, hno⟩, h2⟩, h3⟩, ih (l :: later) (fun l' hl' => hnw l' (by simp [hl'])) h4⟩

/-- **Whiteout-free images**: every view of every image without whiteout entries whose tars are well formed (no
duplicate / out-of-order names, nothing below a non-directory) and which does not re-create a replaced directory
over older children is the overlay of its layers. -/
theorem C04_view_nowhiteout_partial (layers : List Layer) (j : Nat)
    (hnw : ∀ l ∈ layersNewestFirst layers j, ∀ e ∈ l, e.wh = false)
    (h : HnoWh [] (layersNewestFirst layers j) = true) (q : Path) :
    obsOf ((viewOf layers j).get q) = obsOf ((specView layers j).get q) :=
  C04_view_partial layers j (Hfrom_of_noWh _ [] hnw h) q

/-! ### directory listings and walks -/

theorem shown_iff (o : Option Node) : shown o = true ↔ obsOf o ≠ .absent := by
  cases o with
  | none => simp [shown, obsOf]
  | some n =>
    rcases n with ⟨kind, wh, mode, size, cid, target, layer⟩
    cases kind <;> cases wh <;> simp [shown, obsOf, Node.obs]

theorem readDir_congr (U : List Path) (t t' : Tree) (d : Path)
    (h : ∀ c, obsOf (t.get c) = obsOf (t'.get c)) : readDir U t d = readDir U t' d := by
  unfold readDir
  apply List.filter_congr
  intro c _
  rw [Bool.eq_iff_iff, shown_iff, shown_iff, h c]

/-- **Directory listings**: `ReadDir(d)` of a view lists exactly the children the specification has at `d`
(over any finite universe `U` of candidate paths), under `H`. -/
theorem C04_readdir_partial (layers : List Layer) (j : Nat) (h : H layers j = true) (U : List Path) (d : Path) :
    readDir U (viewOf layers j) d = readDir U (specView layers j) d :=
  readDir_congr U _ _ d (C04_view_partial layers j h)

def isDirObs : Obs → Bool
  | .dir _ => true
  | _ => false

/-- one step of the walk only looks at what the view shows at the child -/
theorem walkStep_obs (W : Path → List Path) (o : Option Node) (c : Path) :
    walkStep W o c = (if obsOf o = .absent then [] else c :: (if isDirObs (obsOf o) then W c else [])) := by
  cases o with
  | none => simp [walkStep, obsOf]
  | some n =>
    rcases n with ⟨kind, wh, mode, size, cid, target, layer⟩
    cases kind <;> cases wh <;> simp [walkStep, obsOf, Node.obs, isDirObs]

theorem walk_congr (U : List Path) (t t' : Tree) (h : ∀ c, obsOf (t.get c) = obsOf (t'.get c)) :
    ∀ (f : Nat) (d : Path), walk U t f d = walk U t' f d := by
  intro f
  induction f with
  | zero => intro d; rfl
  | succ f ih =>
    intro d
    simp only [walk]
    congr 1
    funext c
    rw [walkStep_obs (walk U t f), walkStep_obs (walk U t' f), h c, ih]

/-- **Tree walks**: `fs.WalkDir` over a view visits exactly the paths it visits over the specification. -/
theorem C04_walk_partial (layers : List Layer) (j : Nat) (h : H layers j = true) (U : List Path) (f : Nat) (d : Path) :
    walk U (viewOf layers j) f d = walk U (specView layers j) f d :=
  walk_congr U _ _ (C04_view_partial layers j h) f d

/-! ### the requirer (final view) -/

/-- **Restriction to required files changes nothing except that non-required files are absent**: the view the loader
model prunes (`pruneFinal`: marks the paths listed by walking every required link, `neededSet`/`chase`) is the view the
specification describes (`specRequired`, Spec/OverlayRequired.lean: keeps a node when it is a directory, a whiteout
record or `neededB`, a yes/no test that lists nothing).  For every tree, requirer, depth and universe.  The content is
`withinB_eq_contains`: the specification's walk says yes exactly for the paths in the list the model's walk builds — by
`mem_chase_iff_Reach` exactly the paths the relation `Reach` names. -/
theorem C04_required (U : List Path) (req : Path → Bool) (depth : Nat) (t : Tree) :
    pruneFinal U req depth t = specRequired U req depth t := by
  apply Tree.ext'
  intro q
  simp only [pruneFinal, specRequired, ← keep_eq]
  cases t.get q with
  | none => rfl
  | some n => cases n.kind <;> simp [Bool.or_assoc]

/-- **the clause as a statement about paths**: the pruned final view `r` of `t` has at `q` the node `t` has there, and
has one exactly when that node is a directory, a whiteout record, or `q` is needed: required, or reached from a required
symbolic link of `U` in at most `depth` hops (`Needed`, `Reach`: declarative, no walk, no list) -/
theorem C04_required_view (U : List Path) (req : Path → Bool) (depth : Nat) (t : Tree) :
    RequiredView U req depth t (pruneFinal U req depth t) := by
  intro q n
  rw [C04_required]
  simp only [specRequired]
  cases t.get q with
  | none => simp
  | some m =>
    dsimp only
    have hk : (m.kind == Kind.dir || m.wh || neededB U t req depth q) = true ↔
        (m.kind = Kind.dir ∨ m.wh = true ∨ Needed U t req depth q) := by
      rw [Bool.or_eq_true, Bool.or_eq_true, beq_iff_eq, neededB_iff_Needed, or_assoc]
    constructor
    · intro h; split at h
      · cases h; exact ⟨rfl, hk.1 ‹_›⟩
      · cases h
    · rintro ⟨he, hc⟩; cases he; exact if_pos (hk.2 hc)

/-- a view is determined by `RequiredView`: the clause has one solution, the model's -/
theorem C04_required_unique (U : List Path) (req : Path → Bool) (depth : Nat) (t r : Tree)
    (h : RequiredView U req depth t r) : r = pruneFinal U req depth t := by
  apply Tree.ext'
  intro q
  have hm := C04_required_view U req depth t
  cases hr : r.get q with
  | some n => exact ((hm q n).2 ((h q n).1 hr)).symm
  | none =>
    cases hp : (pruneFinal U req depth t).get q with
    | none => rfl
    | some n => rw [(h q n).2 ((hm q n).1 hp)] at hr; cases hr

/-- the universe `U` only has to list the links: when it does, "needed" is the universe-free notion -/
theorem C04_required_universe (U : List Path) (req : Path → Bool) (depth : Nat) (t : Tree) (q : Path)
    (hU : ∀ s n, t.get s = some n → n.kind = .link → s ∈ U) :
    Needed U t req depth q ↔ NeededAny t req depth q := by
  unfold Needed NeededAny
  constructor
  · rintro (h | ⟨s, n, _, hl, hr⟩)
    · exact Or.inl h
    · exact Or.inr ⟨s, n, hl, hr⟩
  · rintro (h | ⟨s, n, hl, hr⟩)
    · exact Or.inl h
    · exact Or.inr ⟨s, n, hU s n hl.1 hl.2.1, hl, hr⟩

/-- the same, spelled out per path, on the model's own marking -/
theorem C04_required_get (U : List Path) (req : Path → Bool) (depth : Nat) (t : Tree) (q : Path) :
    (pruneFinal U req depth t).get q =
      match t.get q with
      | some n => if n.kind = .dir || n.wh || req q || (neededSet U t req depth).contains q then some n else none
      | none => none := rfl

/-- nothing is invented or altered -/
theorem C04_required_subset (U : List Path) (req : Path → Bool) (depth : Nat) (t : Tree) (q : Path) (n : Node)
    (h : (pruneFinal U req depth t).get q = some n) : t.get q = some n :=
  pruneFinal_get_some h

/-! ### the full statement fails on the unchanged code: one witness per class (replayed on the implementation from
`corpus/C04/`) -/

def dE (p : Path) (m : Nat := 0o755) : Entry := ⟨p, .dir, false, m, 0, 0, []⟩
def fE (p : Path) (c : Nat := 1) : Entry := ⟨p, .file, false, 0o644, 1, c, []⟩
def wE (p : Path) : Entry := ⟨p, .file, true, 0, 0, 0, []⟩

/-- finding 10: `d/foo` deleted in layer 1, re-created in layer 2: layer 0's `d/foo/old` is back in view 2 -/
def ex10 : List Layer :=
  [[dE ["d"], dE ["d","foo"], fE ["d","foo","old"]], [dE ["d"], wE ["d","foo"]], [dE ["d"], dE ["d","foo"], fE ["d","foo","new"]]]
theorem C04_view_fails_recreate :
    obsOf ((viewOf ex10 2).get ["d","foo","old"]) ≠ obsOf ((specView ex10 2).get ["d","foo","old"]) := by decide +kernel

/-- finding 12: the opaque marker `d/.wh..wh..opq` hides nothing -/
def ex12 : List Layer := [[dE ["d"], fE ["d","x"]], [dE ["d"], wE ["d",".wh..opq"], fE ["d","keep"]]]
theorem C04_view_fails_opaque :
    obsOf ((viewOf ex12 1).get ["d","x"]) ≠ obsOf ((specView ex12 1).get ["d","x"]) := by decide +kernel

/-- finding 29: `a/.wh.b` creates `a` implicitly, the following `.wh.a` is dropped: `a` survives -/
def ex29 : List Layer := [[dE ["a"], fE ["a","b"]], [wE ["a","b"], wE ["a"]]]
theorem C04_view_fails_dropped_entry :
    obsOf ((viewOf ex29 1).get ["a"]) ≠ obsOf ((specView ex29 1).get ["a"]) := by decide +kernel

/-- finding 29 in its mildest form does not arise (the model mirrors the code after fix ac5627f0): `a/y` precedes the
tar's own entry for `a`; the entry overwrites the made-up node (mode 0700), and the tar satisfies `H` -/
def ex29b : List Layer := [[fE ["a","y"], dE ["a"] 0o700]]
example : obsOf ((viewOf ex29b 0).get ["a"]) = .dir 0o700 ∧ H ex29b 0 = true := by decide +kernel

/-- finding 30: whiteout and re-creation of `a/b` in one tar: the new `a/b/new` is hidden by its own layer's whiteout -/
def ex30 : List Layer := [[dE ["a"], dE ["a","b"], fE ["a","b","old"]], [dE ["a"], wE ["a","b"], dE ["a","b"], fE ["a","b","new"]]]
theorem C04_view_fails_wh_recreate :
    obsOf ((viewOf ex30 1).get ["a","b","new"]) ≠ obsOf ((specView ex30 1).get ["a","b","new"]) := by decide +kernel

/-- class `implicit-dir`: layer 1 lists `a/y` without an entry for `a`: view 1 reports `a` with mode 0 instead of layer 0's 0755 -/
def exImpl : List Layer := [[dE ["a"], fE ["a","x"]], [fE ["a","y"]]]
theorem C04_view_fails_implicit_dir :
    obsOf ((viewOf exImpl 1).get ["a"]) ≠ obsOf ((specView exImpl 1).get ["a"]) := by decide +kernel

/-- duplicate member names: `a/x` twice in the tar of layer 1; applying the tar leaves the second entry, the loader keeps
the first (known finding C04/same-layer-duplicate-first-wins) -/
def exDup : List Layer := [[dE ["a"], fE ["a","x"] 1], [dE ["a"], fE ["a","x"] 2, ⟨["a","x"], .file, false, 0o600, 2, 3, []⟩]]
theorem C04_view_fails_duplicate :
    obsOf ((viewOf exDup 1).get ["a","x"]) ≠ obsOf ((specView exDup 1).get ["a","x"]) := by decide +kernel

/-- ... and what the loader shows there is the overlay of the tars with the repeated entry left out, for which `H` holds -/
theorem C04_duplicate_first_wins_witness :
    failingOf exDup 1 = ["ill-dup"] ∧ H (exDup.map (dedupFirst [])) 1 = true ∧
    obsOf ((viewOf exDup 1).get ["a","x"]) = obsOf ((specView (exDup.map (dedupFirst [])) 1).get ["a","x"]) := by decide +kernel

/-- an entry the loader rejects (size limit: C10 forbids showing it; symbolic link out of the root): the specification reads
it as a whiteout of its path (`specEffective`), and so does the loader (`effective`; the model mirrors the code after fix
<P3>).  Layer 1 replaces `a` by a file of MaxFileBytes or more: view 1 has no `a`, layer 0's `a` does not show through -/
def exRej : List (List PEntry) :=
  [[⟨fE ["a"] 1, ["a"], .accept⟩], [⟨⟨["a"], .file, false, 0o644, 100, 2, []⟩, ["a"], .big⟩]]
theorem C04_view_rejected_fixed :
    obsOf ((viewOf (exRej.map effective) 1).get ["a"]) = .absent ∧
    obsOf ((specView (exRej.map specEffective) 1).get ["a"]) = .absent := by decide +kernel

/-- **C04 with rejected entries, partial form**: where `H` holds and reading the rejected entries as whiteouts changes
nothing in view `j` (decided by the driver path by path; it is so whenever no rejected entry has anything older, or of its
own archive, at or beneath its path), the loader's view is the view of the specification's reading. -/
theorem C04_view_rejected_partial (chain : List (List PEntry)) (j : Nat) (h : H (chain.map effective) j = true)
    (hr : ∀ q, obsOf ((specView (chain.map effective) j).get q) = obsOf ((specView (chain.map specEffective) j).get q)) (q : Path) :
    obsOf ((viewOf (chain.map effective) j).get q) = obsOf ((specView (chain.map specEffective) j).get q) := by
  rw [C04_view_partial _ j h q]; exact hr q

/-- the clauses of `H` each witness violates (29 and 30 necessarily overlap: both need a path mentioned twice in one tar) -/
theorem C04_witness_classes :
    failingOf ex10 2 = ["recreate"] ∧ failingOf ex12 1 = ["opaque"] ∧
    failingOf ex29 1 = ["dropped-entry", "wh-recreate", "implicit-dir"] ∧
    failingOf ex30 1 = ["dropped-entry", "wh-recreate"] ∧ failingOf exImpl 1 = ["implicit-dir"] := by decide +kernel

/-! ### non-vacuity: a three-layer image with explicit parents, a deletion two levels above a file, a file replacing a
directory and a symlink satisfies `H` for every view, and its views are not trivial -/
def exOK : List Layer :=
  [ [dE ["a"], dE ["a","b"], fE ["a","b","c"], dE ["e"], fE ["e","f"]],
    [dE ["a"], wE ["a","b"], ⟨["e"], .link, false, 0o777, 0, 0, ["a"]⟩],
    [dE ["a"], fE ["a","n"] 7, dE ["g"] 0o700] ]
example : H exOK 0 = true ∧ H exOK 1 = true ∧ H exOK 2 = true := by decide +kernel
example : obsOf ((viewOf exOK 2).get ["a","b","c"]) = .absent ∧ obsOf ((viewOf exOK 2).get ["e","f"]) = .absent ∧
    obsOf ((viewOf exOK 2).get ["e"]) = .link 0o777 ["a"] ∧ obsOf ((viewOf exOK 2).get ["a","n"]) = .file 0o644 1 7 ∧
    obsOf ((viewOf exOK 0).get ["a","b","c"]) = .file 0o644 1 1 := by decide +kernel
example : HnoWh [] (layersNewestFirst [[dE ["a"], fE ["a","x"]], [fE ["a"] 2]] 1) = true := by decide +kernel

end Scalibr.Overlay
