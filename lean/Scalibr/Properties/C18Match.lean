/-
C18, second entry point: the per-`affected[]` severity selection of `remediation.MatchVuln` (match.go) uses `vulns.IsAffected`
on a one-entry record per `affected[]` entry. Property theorems only.
-/
import Scalibr.Properties.C18
import Scalibr.Spec.MatchVuln
namespace Scalibr.Vulns

/-- On a well-formed record the code's test of one `affected[]` entry (a one-entry record) is the OSV rule. -/
theorem C18_match_entry (known : Nat → Bool) (x : AffS) (p : Pkg)
    (hwf : ∀ r ∈ x.a.ranges, WF r.events = true) :
    isAffected known [x.a] p = specAffectedB known [x.a] p :=
  isAffected_eq_specAffectedB known [x.a] p (by simpa using hwf)

/-- **Selection.** With every range of the record well formed, the severities `matchSeverity` takes for a package are those
of the first `affected[]` entry that affects it by the OSV rule. -/
theorem C18_match_select (known : Nat → Bool) (affected : List AffS) (p : Pkg)
    (hwf : ∀ x ∈ affected, ∀ r ∈ x.a.ranges, WF r.events = true) :
    selectedFor known affected p = specSelectedFor known affected p := by
  rw [selectedFor, Lists.find?_congr fun x hx => C18_match_entry known x p (hwf x hx)]
  rfl

/-- The selection, said declaratively: if the entries before `x` do not affect the package by the OSV rule and `x` does,
`x`'s severities are taken (whatever follows `x`). -/
theorem C18_match_select_first (known : Nat → Bool) (pre post : List AffS) (x : AffS) (p : Pkg)
    (hwf : ∀ y ∈ pre ++ x :: post, ∀ r ∈ y.a.ranges, WF r.events = true)
    (hpre : ∀ y ∈ pre, ¬ specAffected known [y.a] p) (hx : specAffected known [x.a] p) :
    selectedFor known (pre ++ x :: post) p = x.sev := by
  rw [C18_match_select known _ p hwf, specSelectedFor, List.find?_append,
    List.find?_eq_none.mpr fun y hy => by simpa [specAffectedB_iff] using hpre y hy,
    Option.none_or, List.find?_cons_of_pos (p := fun y : AffS => specAffectedB known [y.a] p) ((specAffectedB_iff _ _ _).mpr hx)]

/-- … and if no entry affects the package by the OSV rule, none is taken. -/
theorem C18_match_select_none (known : Nat → Bool) (affected : List AffS) (p : Pkg)
    (hwf : ∀ x ∈ affected, ∀ r ∈ x.a.ranges, WF r.events = true)
    (hnone : ∀ x ∈ affected, ¬ specAffected known [x.a] p) :
    selectedFor known affected p = [] := by
  rw [C18_match_select known _ p hwf, specSelectedFor,
    List.find?_eq_none.mpr fun y hy => by simpa [specAffectedB_iff] using hnone y hy]

/-- Entries for other packages or ecosystems are never selected — whatever their ranges contain (no well-formedness needed). -/
theorem C18_match_other (known : Nat → Bool) (affected : List AffS) (p : Pkg)
    (h : ∀ x ∈ affected, x.a.eco ≠ p.eco ∨ x.a.name ≠ p.name) :
    selectedFor known affected p = [] := by
  rw [selectedFor, List.find?_eq_none.mpr fun y hy => by
    simpa using C18_other known [y.a] p (by simpa using h y hy)]

/-- `MatchVuln` with the selection read off the OSV rule: on well-formed records the model of `MatchVuln` is `specMatchVuln`. -/
theorem C18_matchvuln (score : Nat → Option Int) (known : Nat → Bool) (o : MOpts) (v : VulnM)
    (hwf : ∀ x ∈ v.affected, ∀ r ∈ x.a.ranges, WF r.events = true) :
    matchVuln score known o v = specMatchVuln score known o v := by
  have hs : severities known v = specSeverities known v := by
    simp only [severities, specSeverities, C18_match_select known v.affected _ hwf]
  unfold matchVuln specMatchVuln matchSeverity
  rw [hs]
  cases matchID v o.ignore <;> cases (!o.devDeps && v.devOnly) <;> simp

/-- A top-level severity makes the `affected[]` entries (and `IsAffected`) irrelevant. -/
theorem C18_match_toplevel (known : Nat → Bool) (v : VulnM) (h : v.topSev ≠ []) : severities known v = v.topSev := by
  unfold severities
  cases hv : v.topSev with
  | nil => exact absurd hv h
  | cons a as => simp

/-! Non-vacuity and a witness that the selection matters: two entries for one package, `[2, 6)` with severity 0 and `[6, 10)`
with severity 3; version 7 selects the second entry, version 3 the first, version 11 none. -/
def exAffected : List AffS :=
  [⟨⟨0, 0, [], [⟨.ecosystem, [⟨.intro, 2⟩, ⟨.fixed, 6⟩]⟩]⟩, [0]⟩, ⟨⟨0, 0, [], [⟨.ecosystem, [⟨.fixed, 10⟩, ⟨.intro, 6⟩]⟩]⟩, [3]⟩]
example : ∀ x ∈ exAffected, ∀ r ∈ x.a.ranges, WF r.events = true := by decide
example : (selectedFor (fun e => e < 3) exAffected ⟨0, 0, 3, 3⟩, selectedFor (fun e => e < 3) exAffected ⟨0, 0, 7, 7⟩,
    selectedFor (fun e => e < 3) exAffected ⟨0, 0, 6, 6⟩, selectedFor (fun e => e < 3) exAffected ⟨0, 0, 11, 11⟩,
    selectedFor (fun e => e < 3) exAffected ⟨0, 1, 3, 3⟩) = ([0], [3], [3], [], []) := by decide

end Scalibr.Vulns
