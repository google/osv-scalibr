/-
C10 — Resource limits and cancellation are hard bounds (walk-engine clauses; the image-layer byte
limit is `C10_layer_bytes` in Properties/C10Layer.lean).

NAMING AND CONFIGURATION CLASSES.  A theorem that holds only inside a class of configurations carries the class in its NAME
(`_benign`, `_fatalcfg`, `_limitcfg`, `_cancelcfg`): that is a restriction of the property's quantifier over configurations,
not a relabelling; `_partial` marks a hypothesis that narrows the quantifier over inputs (DistinctNames, one root, `paths = []`,
NoGiFaults, NoReadFaults).  Names without suffix hold for EVERY configuration (at most `NoExtractorPanic` / the matcher's domain law).
  * EVERY configuration (any limit, fatal errors or not, cancellation before / inside any `Extract`, panicking
    extractors, all combinations): the hard bounds `C10_inodes` (processed inodes ≤ MaxInodes), `C10_size`,
    `C10_cancel_walk`, `C10_cancel_same_file`, `C10_cancel_before`.
  * `LimitCfg c` (inode limit set; errors not fatal, no cancellation, no panicking extractor): EXACT theorem
    `C10_inodes_exact_limitcfg` (+ `C10_fails_when_more`, `C10_visits_vs_inodes`).
  * `CancelCfg c k` (cancelled from inside the k-th `Extract`; no inode limit, errors not fatal, no panicking
    extractor): EXACT theorems `C10_cancel_trace_cancelcfg`, `C10_cancel_outcome_cancelcfg`, `C10_cancel_prefix_cancelcfg`, `C10_cancel_between`.
  * Every NON-FATAL configuration without a panicking extractor — including limit + cancellation together and
    cancellation before the scan — is described exactly by `run_trace` (Proofs/WalkTrace.lean), of which the two
    classes above are corollaries.  Combinations with `ErrorOnFSErrors` (limit+fatal, cancellation+fatal) have the
    hard bounds plus `C09_eofs_only_by_failing` (if the scan does not fail with the filesystem error it IS the
    non-fatal scan); configurations with a panicking extractor have only the hard bounds.
All theorems are for every forest, fault plan and option combination; `DomainLaw c.giMatch` (go-git's domain rule)
is the only hypothesis on the gitignore matcher (it is needed even with `useGitignore = false` only because the
refinement lemma is stated once for both settings).
-/
import Scalibr.Proofs.WalkInv
import Scalibr.Proofs.WalkMore
import Scalibr.Spec.Walk
import Scalibr.Proofs.WalkCancel
import Scalibr.Proofs.WalkAnchor
import Scalibr.Properties.C09
namespace Scalibr.Walk

/-- Whatever the forest, fault plans, options and cancellation point: `AfterInodeVisited` — i.e. an inode
being processed — happens at most `MaxInodes` times over the whole scan (all roots together). -/
theorem C10_inodes (c : Cfg) (roots : List (Node × Faults)) (hm : c.maxInodes > 0) :
    (run c roots).visited ≤ c.maxInodes := by
  unfold run
  exact runRoots_visited c roots _ [] [] (by intro _; simp) hm

/-- No file larger than the size limit is ever handed to ANY extractor; a file of exactly the limit is
(see the non-vacuity example). -/
theorem C10_size (c : Cfg) (roots : List (Node × Faults)) (hm : c.maxFileSize > 0) :
    ∀ cl ∈ (run c roots).calls, cl.size ≤ c.maxFileSize := by
  intro cl hcl
  unfold run at hcl
  exact runRoots_sizeInv c roots _ [] [] (by intro x hx; simp at hx) cl hcl hm

/-- Once the context is cancelled, a walk step (a file, a directory with everything below it) starts no
extraction and reports an error, which every enclosing loop passes on. -/
theorem C10_cancel_walk (c : Cfg) (f : Faults) (s : St) (p : Path) (n : Node) (hc : s.cancelled = true) :
    (walkNode c f s p n).2 ≠ .none ∧ (walkNode c f s p n).1.calls = s.calls := by
  have hp := prologue_cancelled c s hc
  generalize hr : prologue c s = r at hp
  obtain ⟨s1, e1⟩ := r
  cases n with
  | file k sz =>
    simp only [walkNode, hr]
    rcases hp with ⟨h | h, h2, _⟩ <;> subst h <;> exact ⟨by simp, h2⟩
  | dir gi es =>
    simp only [walkNode, hr]
    have pop : ∀ e, e ≠ .none → (popOnExit c s1 p e).2 ≠ .none := fun e he => by
      rcases popOnExit_err c s1 p e with h | h <;> rw [h]
      · exact he
      · simp
    rcases hp with ⟨h | h, h2, _⟩ <;> subst h <;>
      exact ⟨pop _ (by simp), (popOnExit_calls c s1 p _).trans h2⟩

/-- … and the extractions still started after a cancellation from inside `Extract` all concern the file
being handled at that moment: the loop over extractors only ever makes attempts for its own file.  (A structural
fact of the loop, independent of cancellation; the cancellation-specific statement is `C10_cancel_trace_cancelcfg`.) -/
theorem C10_cancel_same_file (c : Cfg) (f : Faults) (p : Path) (size : Nat) (rs : List Nat) (s : St) (chk : Bool) :
    ∃ cs, (extractLoop c f p size s rs chk).1.calls = s.calls ++ cs ∧ ∀ cl ∈ cs, cl.path = p := by
  have none : ∃ cs, s.calls = s.calls ++ cs ∧ ∀ cl ∈ cs, cl.path = p := ⟨[], (List.append_nil _).symm, fun _ h => nomatch h⟩
  have turns : ∀ es, ∃ cs, (runAll c f p size s es).1.calls = s.calls ++ cs ∧ ∀ cl ∈ cs, cl.path = p := fun es => by
    obtain ⟨cs, hpre, habs, _, _⟩ := runAll_spec c f p size es s
    refine ⟨cs, congrArg AS.calls habs, fun cl hcl => ?_⟩
    obtain ⟨e, _, rfl⟩ := List.mem_map.mp (hpre.subset hcl)
    rfl
  rw [extractLoop_eq]
  split
  · split
    · split <;> exact none
    · split
      · exact none
      · exact turns _
  · exact turns _

/-- A scan whose context is already cancelled (EVERY configuration, requested paths included, at least one root):
no extraction is attempted and the scan fails — with the context error after reporting exactly ONE inode (the
first `handleFile` call), except in one corner: with `ErrorOnFSErrors` and gitignore handling, an unreadable parent
`.gitignore` of a requested directory is met before any `handleFile` call and fails the scan with the filesystem
error instead (0 inodes). -/
theorem C10_cancel_before (c : Cfg) (hc : c.cancelBefore = true) (r : Node) (f : Faults) (rest : List (Node × Faults)) :
    (run c ((r, f) :: rest)).calls = [] ∧
    (((run c ((r, f) :: rest)).err = .ctx ∧ (run c ((r, f) :: rest)).visited = 1) ∨
     ((run c ((r, f) :: rest)).err = .fs ∧ (run c ((r, f) :: rest)).visited = 0 ∧
       c.errorOnFSErrors = true ∧ c.useGitignore = true ∧ c.paths ≠ [])) := by
  have hfresh : Fresh { cancelled := true, pkgs := [], errs := [], found := [] } := ⟨rfl, rfl, rfl, rfl, rfl⟩
  unfold run
  simp only [runRoots, runRoot_eq, hc]
  cases hps : c.paths with
  | nil =>
    simp only [List.isEmpty_nil, if_true]
    -- the error report of a root that cannot be stat'ed, or the first step of the walk: both fail alike
    have key : CtxOne (if f.statFail [] = true then fserrCall c { cancelled := true, pkgs := [], errs := [], found := [] }
        else walkNode c f { cancelled := true, pkgs := [], errs := [], found := [] } [] r) := by
      split
      · exact fserrCall_fresh c _ hfresh
      · exact walkNode_fresh c f _ [] r hfresh
    generalize (if f.statFail [] = true then fserrCall c _ else walkNode c f _ [] r) = x at key ⊢
    obtain ⟨s1, e1⟩ := x
    obtain ⟨k1, k2, k3⟩ := key
    simp only [] at k1 k2 k3
    subst k1
    simp [k2, k3]
  | cons p ps =>
    simp only [List.isEmpty_cons, Bool.false_eq_true, if_false, walkPaths]
    have key := walkRequested_fresh c f _ r p hfresh
    generalize walkRequested c f _ r p = x at key ⊢
    obtain ⟨s1, e1⟩ := x
    obtain ⟨k0, key⟩ := key
    simp only [] at k0 key
    rcases key with ⟨k1, _, k3⟩ | ⟨k1, k3, k4, k5⟩
    · simp only [] at k1 k3; subst k1; simp [k0, k3]
    · subst k1; simp [k0, k3, k4, k5]

/-- … so for whole-tree scans, or when errors are not fatal, or without gitignore handling:
`err = .ctx ∧ calls = [] ∧ visited = 1`. -/
theorem C10_cancel_before_ctx_partial (c : Cfg) (hc : c.cancelBefore = true)
    (hq : c.paths = [] ∨ c.errorOnFSErrors = false ∨ c.useGitignore = false)
    (r : Node) (f : Faults) (rest : List (Node × Faults)) :
    (run c ((r, f) :: rest)).err = .ctx ∧ (run c ((r, f) :: rest)).calls = [] ∧ (run c ((r, f) :: rest)).visited = 1 := by
  obtain ⟨h0, h | h⟩ := C10_cancel_before c hc r f rest
  · exact ⟨h.1, h0, h.2⟩
  · rcases hq with hq | hq | hq
    · exact absurd hq h.2.2.2.2
    · rw [hq] at h; cases h.2.2.1
    · rw [hq] at h; cases h.2.2.2.1

/-! Non-vacuity: a file of exactly the limit is extracted, one byte more is not. -/
def exC : Cfg := { nExt := 1, required := fun _ _ => true, extract := fun _ _ => {}, maxFileSize := 5,
                   giMatch := fun _ _ _ _ => false }
example : (mustOne exC {} [] ⟨["at"], .reg, 5, []⟩).length = 1 ∧ mustOne exC {} [] ⟨["over"], .reg, 6, []⟩ = [] := by decide

/-! ### exact behaviour at the inode limit and under cancellation (refinement to the specification)

Both follow from `run_trace` (Proofs/WalkTrace.lean): whenever filesystem errors are not fatal and
extractors do not panic, model A behaves — for every forest, fault plan, option combination, limit and
cancellation point — like the sequential machine "count the inode, check the context, make the attempts"
run over `traceScan`, the specification's list of `handleFile` calls. -/

/-- Exact behaviour at the inode limit (class `LimitCfg`).  `visitsScan` (Spec/WalkCount.lean; anchored declaratively
by `C10_visits_vs_inodes`) counts the `handleFile` CALLS of the scan run to the end, which is what the engine's
counter counts — NOT inodes: every inode the walk gets to costs one call, and in addition an entered directory that
cannot be opened, the first failing `ReadDir` of a listing, and a start path that cannot be stat'ed / does not exist
are each reported by one more call that also increments the counter.  The scan fails with the MaxInodes error
EXACTLY when that number exceeds the limit, and reports exactly `min visitsScan MaxInodes` visits.  The counter is
shared by all roots.  For the property's wording in terms of inodes see `C10_inodes` (never more than the limit
are processed), `C10_fails_when_more` (it fails when the forest holds more reachable inodes than the limit) and the
remark at `C10_early_failure_witness` (error reports can make it fail although the inodes alone would fit). -/
theorem C10_inodes_exact_limitcfg (c : Cfg) (hl : LimitCfg c) (hd : DomainLaw c.giMatch) (roots : List (Node × Faults)) :
    (run c roots).err = (if visitsScan c roots > c.maxInodes then .maxInodes else .none) ∧
    (run c roots).visited = min (visitsScan c roots) c.maxInodes := by
  obtain ⟨hm, he, hcb, hca, hx⟩ := hl
  have ht := run_trace c ⟨he, hx⟩ hd roots
  have hlim := runT_limit c hm hca (traceScan c roots) ⟨0, 0, 0, c.cancelBefore, []⟩ hcb rfl (Nat.zero_le _)
  rw [traceScan_length] at hlim
  simp only [Nat.zero_add] at hlim
  exact ⟨ht.1.trans hlim.1, ht.2.1.trans hlim.2⟩

/-- **Calls versus inodes** (no hypothesis on the configuration).  `reachableInodesScan` (Spec/WalkNodes.lean) is the
declarative count of the INODES a scan gets to: the records of `allNodes` (every node of a tree, files and
directories, with the chain of directories above it) all of whose ancestor directories are not excluded, can be
opened and list without failure up to the entry leading on; a requested file counts 1, a start path that cannot be
stat'ed or does not exist counts 0.  Then `visitsScan` = the same enumeration with `1 + secondCalls` per record
(`callsScan`), hence inodes ≤ calls, with EQUALITY when no directory open / read fails and every start path can be
stat'ed and exists. -/
theorem C10_visits_vs_inodes (c : Cfg) (roots : List (Node × Faults)) :
    visitsScan c roots = callsScan c roots ∧ reachableInodesScan c roots ≤ visitsScan c roots ∧
    ((∀ rf ∈ roots, NoWalkFaults rf.2 ∧ (if c.paths.isEmpty then rf.2.statFail [] = false
        else ∀ p ∈ c.paths, rf.2.statFail p = false ∧ lookup rf.1 p ≠ none)) →
      visitsScan c roots = reachableInodesScan c roots) :=
  ⟨visitsScan_anchor c roots, reachableInodesScan_le_visitsScan c roots, visitsScan_eq_reachable' c roots⟩

/-- "… and fails when the tree holds more", exact error (class `LimitCfg`; for every configuration see
`C10_fails_when_more`): if the forest holds more reachable inodes than the
limit, the scan fails with the MaxInodes error (having processed exactly `MaxInodes` of them: `C10_inodes_exact_limitcfg`). -/
theorem C10_fails_when_more_limitcfg (c : Cfg) (hl : LimitCfg c) (hd : DomainLaw c.giMatch) (roots : List (Node × Faults))
    (h : reachableInodesScan c roots > c.maxInodes) : (run c roots).err = .maxInodes := by
  have := (C10_inodes_exact_limitcfg c hl hd roots).1
  have hle := reachableInodesScan_le_visitsScan c roots
  rw [this, if_pos (by omega)]

/-- **Every configuration without a panicking extractor is the sequential machine, unless it fails with the filesystem
error**: the scan ends with the filesystem error (possible only with `ErrorOnFSErrors`), or its attempts, error and
visited-inode count are those `machineOutcome` (Spec/WalkMachine.lean: count the inode — MaxInodes beyond the limit;
report the visit — context error when cancelled; make the call's attempts, the k-th `Extract` cancels) prescribes on
the specification's trace of the configuration with the flag cleared.  Covers limit + cancellation together,
cancellation before the scan, and — through the first disjunct — the fatal combinations. -/
theorem C10_machine_any (c : Cfg) (hx : ∀ e p, (c.extract e p).panics = false) (hd : DomainLaw c.giMatch)
    (roots : List (Node × Faults)) :
    ((run c roots).err = .fs ∧ c.errorOnFSErrors = true) ∨
    ((run c roots).calls, (run c roots).err, (run c roots).visited) = machineOutcome (nonFatal c) roots := by
  have hm := run_trace (nonFatal c) (nonFatal_nf c hx) hd roots
  have key : run (nonFatal c) roots = run c roots →
      ((run c roots).calls, (run c roots).err, (run c roots).visited) = machineOutcome (nonFatal c) roots := by
    intro h
    rw [← h]
    simp only [machineOutcome, Prod.mk.injEq]
    exact ⟨hm.2.2, hm.1, hm.2.1⟩
  cases he : c.errorOnFSErrors
  · exact Or.inr (key (by rw [nonFatal_eq c he]))
  · rcases C09_eofs_only_by_failing c he roots with h | h | h
    · exact Or.inl ⟨h, rfl⟩
    · exact absurd h (run_nopanic c hx roots)
    · exact Or.inr (key h)

/-- **"… and fails when the tree holds more", for EVERY configuration without a panicking extractor** (fatal errors or
not, cancellation before the scan or inside any `Extract`, a size limit — all combinations): with an inode limit set,
if the forest holds more reachable inodes than the limit, the scan does not succeed.  (Which error it reports depends
on what comes first — the limit, a fatal filesystem error or the cancelled context; `C10_fails_when_more_limitcfg`
gives the exact error in class `LimitCfg`.) -/
theorem C10_fails_when_more (c : Cfg) (hx : ∀ e p, (c.extract e p).panics = false) (hd : DomainLaw c.giMatch)
    (roots : List (Node × Faults)) (hm : c.maxInodes > 0) (h : reachableInodesScan c roots > c.maxInodes) :
    (run c roots).err ≠ .none := by
  intro hok
  rcases C10_machine_any c hx hd roots with ⟨hfs, _⟩ | hmach
  · rw [hok] at hfs; cases hfs
  · simp only [machineOutcome, Prod.mk.injEq] at hmach
    obtain ⟨_, herr, hvis⟩ := hmach
    have hnone : (runT (nonFatal c) ⟨0, 0, 0, (nonFatal c).cancelBefore, []⟩ (traceScan (nonFatal c) roots)).2 = .none := by
      rw [← herr]; exact hok
    have hv := runT_ok_visited (nonFatal c) _ _ hnone
    rw [← hvis, traceScan_length] at hv
    simp only [Nat.zero_add] at hv
    have hle := reachableInodesScan_le_visitsScan (nonFatal c) roots
    change reachableInodesScan c roots ≤ _ at hle
    have hb := C10_inodes c roots hm
    omega

/-- … and conversely, when nothing on the walk fails, it fails ONLY then: with no failing directory open / read and
all start paths present, `err = .maxInodes ↔ reachable inodes > limit`. -/
theorem C10_fails_iff_more_partial (c : Cfg) (hl : LimitCfg c) (hd : DomainLaw c.giMatch) (roots : List (Node × Faults))
    (hnf : ∀ rf ∈ roots, NoWalkFaults rf.2 ∧ (if c.paths.isEmpty then rf.2.statFail [] = false
        else ∀ p ∈ c.paths, rf.2.statFail p = false ∧ lookup rf.1 p ≠ none)) :
    (run c roots).err = .maxInodes ↔ reachableInodesScan c roots > c.maxInodes := by
  have h1 := (C10_inodes_exact_limitcfg c hl hd roots).1
  rw [visitsScan_eq_reachable' c roots hnf] at h1
  rw [h1]
  split
  · rename_i h; exact ⟨fun _ => h, fun _ => rfl⟩
  · rename_i h; exact ⟨fun he => (nomatch he), fun h' => absurd h' h⟩

/-- "… once its context is cancelled starts no extraction on any further file … reporting failure whenever
work remained": the context is cancelled from inside the k-th `Extract` (no inode limit, errors not fatal,
no extractor panic).  `mustExtract` = the attempts owed without cancellation; `traceScan` = the
`handleFile` calls of the uncancelled scan in order, each with its attempts (first two conjuncts: it is
`mustExtract` grouped by call, and all attempts of one call concern one file).
* fewer than `k` `Extract` calls owed: never cancelled — success, exactly `mustExtract`, every inode visited;
* otherwise, with `blk` the call in which the k-th `Extract` happens (`pre`/`post` = the calls before/after;
  the decomposition is unique): the scan makes exactly the attempts of `pre` and ALL of `blk` (the remaining
  extractors of the file being handled still run), nothing of `post`; it fails with the context error iff
  a `handleFile` call remained (`post ≠ []`: a further file, directory or error report), which is still
  counted as visited. -/
theorem C10_cancel_trace_cancelcfg (c : Cfg) (k : Nat) (hc : CancelCfg c k) (hd : DomainLaw c.giMatch) (roots : List (Node × Faults)) :
    (traceScan c roots).flatten = mustExtract c roots ∧ (∀ b ∈ traceScan c roots, OnePath b) ∧
    (openedCount (mustExtract c roots) < k →
      (run c roots).err = .none ∧ (run c roots).calls = mustExtract c roots ∧
      (run c roots).visited = visitsScan c roots) ∧
    (k ≤ openedCount (mustExtract c roots) → ∃ pre blk post, traceScan c roots = pre ++ blk :: post ∧
      openedCount pre.flatten < k ∧ k ≤ openedCount (pre.flatten ++ blk) ∧
      (run c roots).calls = pre.flatten ++ blk ∧
      (run c roots).err = (if post = [] then .none else .ctx) ∧
      (run c roots).visited = pre.length + 1 + (if post = [] then 0 else 1)) := by
  obtain ⟨hm, he, hcb, hca, hk, hx⟩ := hc
  have hfl := traceScan_flatten c roots
  have ht := run_trace c ⟨he, hx⟩ hd roots
  have hr := runT_cancel c k hm hca (traceScan c roots) ⟨0, 0, 0, c.cancelBefore, []⟩ hcb (by exact hk)
  simp only [Nat.zero_add, List.nil_append, hfl, traceScan_length] at hr
  refine ⟨hfl, traceScan_onePath c roots, fun h => ?_, fun h => ?_⟩
  · have := hr.1 h
    exact ⟨ht.1.trans this.1, ht.2.2.trans this.2.1, ht.2.1.trans this.2.2⟩
  · obtain ⟨pre, blk, post, hT, h1, h2, h3, h4, h5⟩ := hr.2 h
    exact ⟨pre, blk, post, hT, h1, by rw [openedCount_append]; exact h2, ht.2.2.trans h3, ht.1.trans h4, ht.2.1.trans h5⟩

/-- … and in terms of `mustExtract` alone: the attempts made are a prefix of the attempts owed; the scan
fails — with the context error — whenever an owed attempt was not made; the attempts from the cancelling
one on (`blk`) all concern one file. -/
theorem C10_cancel_prefix_cancelcfg (c : Cfg) (k : Nat) (hc : CancelCfg c k) (hd : DomainLaw c.giMatch) (roots : List (Node × Faults)) :
    ∃ rest, mustExtract c roots = (run c roots).calls ++ rest ∧
      (rest ≠ [] → (run c roots).err = .ctx) ∧
      ((run c roots).err = .none ∨ (run c roots).err = .ctx) ∧
      (openedCount (mustExtract c roots) < k → rest = [] ∧ (run c roots).err = .none) ∧
      (k ≤ openedCount (mustExtract c roots) → ∃ done blk, (run c roots).calls = done ++ blk ∧
        openedCount done < k ∧ k ≤ openedCount (done ++ blk) ∧ OnePath blk) := by
  obtain ⟨hfl, hone, h1, h2⟩ := C10_cancel_trace_cancelcfg c k hc hd roots
  by_cases h : openedCount (mustExtract c roots) < k
  · have := h1 h
    exact ⟨[], by simp [this.2.1], fun h' => absurd rfl h', Or.inl this.1, fun _ => ⟨rfl, this.1⟩, fun h' => by omega⟩
  · obtain ⟨pre, blk, post, hT, hlt, hge, hcalls, herr, _⟩ := h2 (by omega)
    have hops : mustExtract c roots = (run c roots).calls ++ post.flatten := by
      rw [← hfl, hT, hcalls]; simp
    refine ⟨post.flatten, hops, fun hne => ?_, ?_, fun h' => absurd h' h, fun _ => ?_⟩
    · rw [herr, if_neg]
      intro hp; subst hp; exact hne rfl
    · rw [herr]; split
      · exact Or.inl rfl
      · exact Or.inr rfl
    · exact ⟨pre.flatten, blk, hcalls, hlt, hge, hone blk (by rw [hT]; simp)⟩

/-- … and as a function: the attempts, the error and the visited-inode count are exactly what
`cancelOutcome` (Spec/WalkCount.lean: "every `handleFile` call up to and including the one holding the k-th
`Extract`, nothing after it, failure iff a call remained") reads off the specification's trace. -/
theorem C10_cancel_outcome_cancelcfg (c : Cfg) (k : Nat) (hc : CancelCfg c k) (hd : DomainLaw c.giMatch) (roots : List (Node × Faults)) :
    ((run c roots).calls, (run c roots).err, (run c roots).visited) = cancelOutcome k 0 (traceScan c roots) := by
  obtain ⟨hfl, _, h1, h2⟩ := C10_cancel_trace_cancelcfg c k hc hd roots
  by_cases h : openedCount (mustExtract c roots) < k
  · have := h1 h
    rw [cancelOutcome_never k _ 0 (by rw [hfl]; omega), hfl, this.1, this.2.1, this.2.2, traceScan_length]
  · obtain ⟨pre, blk, post, hT, hlt, hge, hcalls, herr, hvis⟩ := h2 (by omega)
    rw [openedCount_append] at hge
    rw [hT, cancelOutcome_split k blk post pre 0 (by omega) (by omega), hcalls, herr, hvis]

/-- **Cancellation "between files".**  The engine looks at the context only at the start of a `handleFile` call, so it
cannot tell at which moment DURING a call the context was cancelled: a cancellation from inside ANY `Extract` of
the j-th call (`cancelAt`) has exactly the outcome of a cancellation arriving between the j-th call and the next one
(`cancelBetween j`: the calls so far complete, nothing later attempted, failure iff a call remained, which is still
counted as visited).  Hence every between-calls cancellation point that follows a call which ran at least one
`Extract` IS one of the modelled `cancelAt` points, and `C10_cancel_outcome_cancelcfg` describes it.
NOT expressible at scan level in this model (nor producible by the harness, whose cancellations are triggered from
inside a fake `Extract`, or before the scan — `cancelBefore`, `C10_cancel_before`): a cancellation arriving after a
call that ran no `Extract` (a directory, an ignored or not required file).  For those points the statements are the
step theorem `C10_cancel_walk` (from ANY cancelled state the next walk step attempts nothing and fails, which every
enclosing loop passes on) together with the hard bounds; the observable difference to the nearest modelled point is
only the number of inodes reported before the failure. -/
theorem C10_cancel_between (k : Nat) (pre : List (List Call)) (blk : List Call) (post : List (List Call))
    (h1 : openedCount pre.flatten < k) (h2 : k ≤ openedCount (pre.flatten ++ blk)) :
    cancelOutcome k 0 (pre ++ blk :: post) = cancelBetween (pre.length + 1) (pre ++ blk :: post) := by
  rw [openedCount_append] at h2
  rw [cancelOutcome_split k blk post pre 0 (by omega) (by omega)]
  have e : pre ++ blk :: post = (pre ++ [blk]) ++ post := by simp
  have ht : (pre ++ blk :: post).take (pre.length + 1) = pre ++ [blk] := by
    rw [e, List.take_left' (by simp)]
  have hd : (pre ++ blk :: post).drop (pre.length + 1) = post := by
    rw [e, List.drop_left' (by simp)]
  simp [cancelBetween, ht, hd]

/-- … and at scan level (class `CancelCfg`): when the k-th `Extract` is owed, the scan's attempts, error and
visited-inode count ARE `cancelBetween j` of the specification's trace, `j` being the `handleFile` call during which the
k-th `Extract` runs — the engine cancelled inside that `Extract` does exactly what a cancellation between call `j` and
call `j+1` must produce.  (Between-calls points after a call WITHOUT any `Extract` remain outside the model: no
theorem at scan level, see above.) -/
theorem C10_cancel_between_run_cancelcfg (c : Cfg) (k : Nat) (hc : CancelCfg c k) (hd : DomainLaw c.giMatch) (roots : List (Node × Faults))
    (hk : k ≤ openedCount (mustExtract c roots)) :
    ∃ j, 1 ≤ j ∧ j ≤ (traceScan c roots).length ∧
      openedCount ((traceScan c roots).take (j - 1)).flatten < k ∧ k ≤ openedCount ((traceScan c roots).take j).flatten ∧
      ((run c roots).calls, (run c roots).err, (run c roots).visited) = cancelBetween j (traceScan c roots) := by
  obtain ⟨_, _, _, h2⟩ := C10_cancel_trace_cancelcfg c k hc hd roots
  obtain ⟨pre, blk, post, hT, hlt, hge, _, _, _⟩ := h2 hk
  have ho := C10_cancel_outcome_cancelcfg c k hc hd roots
  rw [hT] at ho ⊢
  have e : pre ++ blk :: post = (pre ++ [blk]) ++ post := by simp
  refine ⟨pre.length + 1, by omega, by simp, ?_, ?_, ?_⟩
  · simpa using hlt
  · rw [e, List.take_left' (by simp)]; simpa using hge
  · rw [ho]; exact C10_cancel_between k pre blk post hlt hge

/-! Non-vacuity (specification side only).  A tree with 5 inodes to visit (also 5 when directory `d` cannot be
opened: the failure is reported by a second call and `b` is not reached; 6 + 1 with a failing end-of-listing
read of the root and a second root, since the counter is shared) against a limit of 3 / of 5. -/
def exL (n : Nat) : Cfg := { nExt := 1, required := fun _ _ => true, extract := fun _ _ => {}, maxInodes := n,
                             giMatch := fun _ _ _ _ => false }
def exTreeL : Node := .dir none [("a", .file .reg 1), ("d", .dir none [("b", .file .reg 2)]), ("e", .file .reg 3)]
example : LimitCfg (exL 3) ∧ DomainLaw (exL 3).giMatch := ⟨⟨by decide, rfl, rfl, rfl, fun _ _ => rfl⟩, fun _ _ _ _ _ => rfl⟩
example : visitsScan (exL 3) [(exTreeL, {})] = 5 ∧ visitsScan (exL 3) [(exTreeL, { openFail := fun p => p = ["d"] })] = 5 ∧
    visitsScan (exL 3) [(exTreeL, { readEntryFail := fun p k => p = [] ∧ k = 3 }), (.file .reg 1, {})] = 7 := by decide
/-- the theorem at work: over the limit the scan fails after exactly 3 visits, at the limit it succeeds -/
example : (run (exL 3) [(exTreeL, {})]).err = .maxInodes ∧ (run (exL 3) [(exTreeL, {})]).visited = 3 ∧
    (run (exL 5) [(exTreeL, {})]).err = .none := by
  have h3 := C10_inodes_exact_limitcfg (exL 3) ⟨by decide, rfl, rfl, rfl, fun _ _ => rfl⟩ (fun _ _ _ _ _ => rfl) [(exTreeL, {})]
  have h5 := C10_inodes_exact_limitcfg (exL 5) ⟨by decide, rfl, rfl, rfl, fun _ _ => rfl⟩ (fun _ _ _ _ _ => rfl) [(exTreeL, {})]
  rw [h3.1, h3.2, h5.1]
  decide

/-! Two extractors, cancellation from inside the 1st `Extract`: the second extractor still gets file `a`,
file `b` gets nothing, and the scan fails because `b` remained. -/
def exK (k : Nat) : Cfg := { nExt := 2, required := fun _ _ => true, extract := fun _ _ => {}, cancelAt := some k,
                             giMatch := fun _ _ _ _ => false }
def exTree2 : Node := .dir none [("a", .file .reg 1), ("b", .file .reg 2)]
example : CancelCfg (exK 1) 1 ∧ DomainLaw (exK 1).giMatch := ⟨⟨rfl, rfl, rfl, rfl, by decide, fun _ _ => rfl⟩, fun _ _ _ _ _ => rfl⟩
example : traceScan (exK 1) [(exTree2, {})] =
    [[]] ++ [⟨0, ["a"], 1, true⟩, ⟨1, ["a"], 1, true⟩] :: [[⟨0, ["b"], 2, true⟩, ⟨1, ["b"], 2, true⟩]] ∧
    openedCount (mustExtract (exK 1) [(exTree2, {})]) = 4 := by decide
/-- the theorem at work: both extractors get `a`, nothing for `b`, the scan fails; root, `a` and `b` are counted -/
example : (run (exK 1) [(exTree2, {})]).calls = [⟨0, ["a"], 1, true⟩, ⟨1, ["a"], 1, true⟩] ∧
    (run (exK 1) [(exTree2, {})]).err = .ctx ∧ (run (exK 1) [(exTree2, {})]).visited = 3 := by
  have h := C10_cancel_outcome_cancelcfg (exK 1) 1 ⟨rfl, rfl, rfl, rfl, by decide, fun _ _ => rfl⟩ (fun _ _ _ _ _ => rfl) [(exTree2, {})]
  have h' : cancelOutcome 1 0 (traceScan (exK 1) [(exTree2, {})]) = ([⟨0, ["a"], 1, true⟩, ⟨1, ["a"], 1, true⟩], .ctx, 3) := by decide
  rw [h'] at h
  simp only [Prod.mk.injEq] at h
  exact h
/-- cancellation inside the LAST attempt of the LAST file: nothing remained, the scan succeeds -/
example : cancelOutcome 4 0 (traceScan (exK 4) [(exTree2, {})]) = (mustExtract (exK 4) [(exTree2, {})], .none, 3) := by decide
/-- never reached: 4 `Extract` calls owed, cancellation in the 5th -/
example : openedCount (mustExtract (exK 5) [(exTree2, {})]) < 5 := by decide

/-! ### Remark: error reports count against the inode limit (calls ≠ inodes)

Witness: root directory with one sub-directory `d` that cannot be opened — 2 inodes, but 3 `handleFile`
calls (the failing `Open` is reported by a second call for `d`, which increments the engine's counter again).  With
`MaxInodes = 2` the scan FAILS with the MaxInodes error although the tree holds exactly 2 inodes; without the fault it
succeeds.  The property's two clauses hold ("processes no more inodes than the limit": `C10_inodes`; "fails when the
tree holds more": `C10_fails_when_more`), but the failure can come EARLIER than the inode count alone would give:
each error report costs one unit of the budget.  This mirrors `walkDirUnsorted`'s second call into `handleFile`,
where `wc.inodesVisited++` runs before the error is looked at. -/
def exDTree : Node := .dir none [("d", .dir none [])]
def exDFault : Faults := { openFail := fun p => p = ["d"] }
example : reachableInodesScan (exL 2) [(exDTree, exDFault)] = 2 ∧ visitsScan (exL 2) [(exDTree, exDFault)] = 3 ∧
    visitsScan (exL 2) [(exDTree, {})] = 2 := by decide
theorem C10_early_failure_witness :
    (run (exL 2) [(exDTree, exDFault)]).err = .maxInodes ∧ (run (exL 2) [(exDTree, {})]).err = .none ∧
    reachableInodesScan (exL 2) [(exDTree, exDFault)] ≤ (exL 2).maxInodes := by
  have h1 := C10_inodes_exact_limitcfg (exL 2) ⟨by decide, rfl, rfl, rfl, fun _ _ => rfl⟩ (fun _ _ _ _ _ => rfl) [(exDTree, exDFault)]
  have h2 := C10_inodes_exact_limitcfg (exL 2) ⟨by decide, rfl, rfl, rfl, fun _ _ => rfl⟩ (fun _ _ _ _ _ => rfl) [(exDTree, {})]
  rw [h1.1, h2.1]
  decide
/-- the fault-free hypothesis of `C10_visits_vs_inodes` / `C10_fails_iff_more_partial` is satisfiable -/
example : ∀ rf ∈ [(exTreeL, ({} : Faults))], NoWalkFaults rf.2 ∧ (if (exL 3).paths.isEmpty then rf.2.statFail [] = false
    else ∀ p ∈ (exL 3).paths, rf.2.statFail p = false ∧ lookup rf.1 p ≠ none) := by
  intro rf hrf
  simp only [List.mem_singleton] at hrf
  subst hrf
  exact ⟨⟨fun _ => rfl, fun _ _ => rfl⟩, by simp [exL]⟩
/-- `C10_cancel_between` on the example: cancelling inside the 1st `Extract` (file `a`, call 2 of the trace) = cancelling
between call 2 and call 3 -/
example : cancelOutcome 1 0 (traceScan (exK 1) [(exTree2, {})]) = cancelBetween 2 (traceScan (exK 1) [(exTree2, {})]) := by decide
/-- `C10_cancel_before` hypotheses are satisfiable with requested paths -/
example : ({ exK 1 with cancelBefore := true, paths := [["a"]] } : Cfg).cancelBefore = true := rfl

/-! `C10_fails_when_more` / `C10_machine_any` outside the exact classes: inode limit 3 TOGETHER with fatal errors and a
cancellation inside the 1st `Extract`, on the 5-inode tree — more reachable inodes than the limit, so the scan fails;
the machine says how: the context error at the third visit (`a` is extracted, cancelling; `d` is the failing call). -/
def exLC : Cfg := { exL 3 with errorOnFSErrors := true, cancelAt := some 1 }
example : reachableInodesScan exLC [(exTreeL, {})] = 5 ∧
    machineOutcome (nonFatal exLC) [(exTreeL, {})] = ([⟨0, ["a"], 1, true⟩], .ctx, 3) := by decide
example : (run exLC [(exTreeL, {})]).err ≠ .none :=
  C10_fails_when_more exLC (fun _ _ => rfl) (fun _ _ _ _ _ => rfl) _ (by decide) (by decide)

end Scalibr.Walk
