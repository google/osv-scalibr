/-
C09 — Filesystem faults are contained, surfaced, and fatal only on request.
Fault plans are arbitrary predicates on operation sites (stat of a walk root / requested path, open of a
directory, the k-th directory read, open of a file or `.gitignore`, stat of an opened file, the lazy
size stat): every theorem quantifies over ALL plans, i.e. any number of simultaneous faults.

NAMING AND CONFIGURATION CLASSES.  A theorem that holds only inside a class of configurations carries the class in its NAME
(`_benign`, `_fatalcfg`, `_limitcfg`, `_cancelcfg`): that is a restriction of the property's quantifier over configurations,
not a relabelling; `_partial` marks a hypothesis that narrows the quantifier over inputs (DistinctNames, one root, `paths = []`,
NoGiFaults, NoReadFaults).  Names without suffix hold for EVERY configuration (at most `NoExtractorPanic` / the matcher's domain law).
  * `Benign c` (no inode limit, no cancellation, `ErrorOnFSErrors` off, no panicking extractor): EXACT theorems
    `C09_nonfatal_benign`, `C09_contained_run_partial`, `C09_gitignore_unreadable_run_partial`, `C09_surfaced_benign`.
  * `FatalCfg c` (`ErrorOnFSErrors` on; no inode limit, no cancellation, no panicking extractor): EXACT theorems
    `C09_fatal_fatalcfg` / `C09_fatal_declarative_fatalcfg` (fails iff a traversal fault is met) and `C09_fatal_clean_fatalcfg` (no traversal
    fault ⇒ the benign scan: success, attempts, inventory, statuses).
  * EVERY configuration (limits, cancellation, panicking extractors, all combinations): `C09_no_panic`,
    `C09_fatal_step`, and `C09_eofs_only_by_failing` (the flag acts only by making the scan fail) — the latter
    reduces limit+fatal and cancellation+fatal configurations that do not fail to their non-fatal twins, which
    C10's `run_trace` describes exactly when no extractor panics.  Configurations with a panicking extractor have
    only `C09_no_panic`-style statements (and C02's).
Narrowing hypotheses (`NoGiFaults`, `paths = []`) are named in the docstrings and carry `_partial`.

FAULT SITES of the model: stat of a walk root / requested path, open of a directory, the k-th `ReadDir(1)` of a directory
(k = #entries is the end-of-listing call), open of a file or `.gitignore`, `Stat()` on an opened file, the lazy size stat.
There is NO site "the n-th `Read` of an opened file fails": the engine never reads file contents — it opens the file,
stats it and hands the reader to `Extract`; a read error is therefore the EXTRACTOR's business and appears in the model
as that `Extract` returning an error (`ExtractOut.err`), whose consequence (status failed / partial, nothing else
changes) is `C09_statuses_of_calls` / `C02_confined_two_benign`.  One error kind in the model: the engine treats all
kinds alike apart from log levels (the stream injects permission, not-exist and other errors).
"Terminates" is Lean totality of a structural recursion over the finite tree.
-/
import Scalibr.Proofs.WalkSpec
import Scalibr.Proofs.WalkMore
import Scalibr.Proofs.WalkFatal
import Scalibr.Proofs.WalkEofs
import Scalibr.Proofs.WalkContain
import Scalibr.Proofs.WalkAnchor
import Scalibr.Proofs.WalkSpec
namespace Scalibr.Walk

/-- No ENGINE panic: whatever the trees, fault plans, limits, options and cancellation point, a scan ends
with the panic outcome only if an extractor's `Extract` does.
Scope (what "panic" can mean in the model): model A has exactly ONE engine-side panic site — the deferred
`postHandleFile` slicing an empty `wc.gitignores` (`popOnExit`, Model/Walk.lean), which is the crash that
existed before fix 7a773e8c with `UseGitignore` and an early return (inode limit, cancelled context, unreadable
`.gitignore`) — plus the extractor's own panic, which the engine does not recover.  The theorem says the stack
discipline makes that one site unreachable (`walkNode_stack`: every directory pops exactly what it pushed).
Everything else in the engine (nil maps, index arithmetic, the status ticker) has no panic outcome in the model:
for those the statement is vacuous and only the differential stream (every case runs the real engine under
`recover`) speaks. -/
theorem C09_no_panic (c : Cfg) (hx : NoExtractorPanic c) (roots : List (Node × Faults)) :
    (run c roots).err ≠ .panic :=
  run_nopanic c hx roots

/-- With errors not fatal (and no limit / cancellation), NO set of filesystem faults fails the scan.
(False before fixes b4e342f8 and 481727ce: a failing lazy size stat, resp. an unreadable parent
`.gitignore`, failed the whole scan.) -/
theorem C09_nonfatal_benign (c : Cfg) (hb : Benign c) (roots : List (Node × Faults)) (ho : GiOK c) :
    (run c roots).err = .none :=
  (run_spec c hb roots ho).1

/-- Containment: under any fault plan (without unreadable `.gitignore` files) the attempts made are those
of the fault-free scan, minus the files below a directory that cannot be opened, at or after a failing
directory read, or whose size cannot be determined; for every other file the attempt is made exactly as
without faults — only its `opened` flag records whether the file itself could be opened and stat'ed. -/
theorem C09_contained_partial (c : Cfg) (f : Faults) (hg : NoGiFaults f) (above : List GiEntry) (p : Path) (n : Node) :
    mustFrom c f above p n =
      (allFiles p [] n).flatMap fun r =>
        if faultHits c f r then []
        else (mustOne c noFaults above r).map fun cl => { cl with opened := readable f r } := by
  unfold mustFrom
  exact Lists.flatMap_congr (fun r _ => mustOne_contained c f hg above r)

/-- **Containment at engine level** (class `Benign`; narrowing: whole-tree scans `paths = []`, no unreadable
`.gitignore`): composition of `C09_contained_partial` with `C01_calls_benign`, for any number of roots.  The attempts of the scan
are, root by root, the attempts of the FAULT-FREE rule for every file no fault lies on the way to (`faultHits`:
a directory above it cannot be opened, the listing of a directory above it fails at or before the entry leading to
it, its size cannot be determined while a limit is set) — in order, with multiplicity; `opened` records whether the
file itself could be opened and stat'ed.  Nothing for a root that cannot be stat'ed. -/
theorem C09_contained_run_partial (c : Cfg) (hb : Benign c) (ho : GiOK c) (hp : c.paths = []) (roots : List (Node × Faults))
    (hg : ∀ rf ∈ roots, NoGiFaults rf.2) :
    (run c roots).err = .none ∧ (run c roots).calls = roots.flatMap fun rf => containedRoot c rf.2 rf.1 := by
  have h := run_spec c hb roots ho
  refine ⟨h.1, ?_⟩
  rw [h.2]
  unfold mustExtract
  apply Lists.flatMap_congr
  intro rf hrf
  obtain ⟨r, f⟩ := rf
  simp only [mustRoot, hp, List.isEmpty_nil, if_true, containedRoot]
  split
  · rfl
  · unfold mustFrom
    exact Lists.flatMap_congr (fun r _ => mustOne_contained c f (hg _ hrf) [] r)

/-- … where the fault-free instance of the right-hand side is the fault-free specification itself. -/
theorem C09_contained_noFaults (c : Cfg) (hp : c.paths = []) (root : Node) :
    containedRoot c noFaults root = mustRoot c noFaults root := by
  have hng : NoGiFaults noFaults := fun _ => rfl
  simp only [containedRoot, mustRoot, hp, List.isEmpty_nil, if_true]
  have : noFaults.statFail [] = false := rfl
  simp only [this, Bool.false_eq_true, if_false]
  unfold mustFrom
  exact (Lists.flatMap_congr (fun r _ => mustOne_contained c noFaults hng [] r)).symm

/-- **Unreadable `.gitignore`** (the counterpart of `C09_contained_partial`, ANY fault plan): a `.gitignore` that cannot be
opened has exactly the effect of an absent one — the owed attempts are those for the tree from which the unreadable
`.gitignore` contents have been removed (`stripGi`); nothing else is lost and nothing below that directory is
skipped.  (When the unreadable file is itself required by an extractor, its own attempt is owed with
`opened = false`, like any unreadable file.) -/
theorem C09_gitignore_unreadable (c : Cfg) (f : Faults) (above : List GiEntry) (p : Path) (n : Node) :
    mustFrom c f above p (stripGi f p n) = mustFrom c f above p n := by
  unfold mustFrom
  have := allFiles_stripGi f p n []
  simp only [List.map_nil] at this
  rw [this, List.flatMap_map]
  exact Lists.flatMap_congr (fun r _ => mustOne_stripGi c f above r)

/-- … at engine level (class `Benign`; narrowing: `paths = []`; any number of roots): scanning the trees as they are
makes exactly the attempts of scanning the trees with the unreadable `.gitignore` contents removed. -/
theorem C09_gitignore_unreadable_run_partial (c : Cfg) (hb : Benign c) (ho : GiOK c) (hp : c.paths = []) (roots : List (Node × Faults)) :
    (run c roots).calls = (run c (roots.map fun rf => (stripGi rf.2 [] rf.1, rf.2))).calls := by
  rw [(run_spec c hb roots ho).2, (run_spec c hb _ ho).2]
  unfold mustExtract
  rw [List.flatMap_map]
  apply Lists.flatMap_congr
  intro rf _
  obtain ⟨r, f⟩ := rf
  simp only [mustRoot, hp, List.isEmpty_nil, if_true]
  split
  · rfl
  · exact (C09_gitignore_unreadable c f [] [] r).symm

/-- **Containment for ANY fault plan** (no hypothesis: plans mixing unreadable `.gitignore` files with any other
faults included; specification level): what a walk owes under plan `f` is, file by file over the tree with the unreadable
`.gitignore` contents removed (`stripGi`: an unreadable `.gitignore` is an absent one), the FAULT-FREE rule
`mustOne c noFaults` for every file no fault lies on the way to (`faultHits`), with `opened` recording whether the file
itself could be opened and stat'ed. -/
theorem C09_contained_any (c : Cfg) (f : Faults) (above : List GiEntry) (p : Path) (n : Node) :
    mustFrom c f above p n =
      (allFiles p [] (stripGi f p n)).flatMap fun r =>
        if faultHits c f r then []
        else (mustOne c noFaults above r).map fun cl => { cl with opened := readable f r } :=
  mustFrom_contained_any c f above p n

/-- … and at ENGINE level (class `Benign`; ANY fault plans, ANY requested paths, any number of roots): the attempts of
the scan are `containedRootAny` root by root — for a whole-tree scan the right-hand side above; for a requested
directory the same below the `.gitignore` context of the directories above it; for a requested file its fault-free
attempts unless its size stat fails; nothing for a start path that cannot be stat'ed or does not exist. -/
theorem C09_contained_run_any_benign (c : Cfg) (hb : Benign c) (ho : GiOK c) (roots : List (Node × Faults)) :
    (run c roots).err = .none ∧ (run c roots).calls = roots.flatMap fun rf => containedRootAny c rf.2 rf.1 := by
  have h := run_spec c hb roots ho
  refine ⟨h.1, ?_⟩
  rw [h.2]
  unfold mustExtract
  apply Lists.flatMap_congr
  intro rf _
  obtain ⟨r, f⟩ := rf
  exact mustRoot_contained_any c f r

/-- **Statuses and inventory are functions of each root's attempts — EVERY configuration without a panicking
extractor** (inode limit, size limit, cancellation, `ErrorOnFSErrors` on or off): whenever the scan does not fail,
its attempt log splits root by root (`segs`) and the status of extractor `e` for a root is `statusOfCalls` of THAT
root's attempts — failed/partial exactly when one of them could not open / stat its file or its `Extract` returned an
error, partial when in addition one returned inventory (`C09_status_meaning` reads the same definition) — and the
inventory is `pkgsOfCalls` of the same attempts.  `C09_surfaced_benign` is the special case where the attempts are the
specification's. -/
theorem C09_statuses_of_calls (c : Cfg) (hx : ∀ e p, (c.extract e p).panics = false) (roots : List (Node × Faults))
    (hok : (run c roots).err = .none) :
    ∃ segs : List (List Call), segs.length = roots.length ∧ (run c roots).calls = segs.flatten ∧
      (run c roots).statuses = segs.flatMap (fun cur => (List.range c.nExt).map fun e => (e, statusOfCalls c cur e)) ∧
      (run c roots).pkgs = segs.flatMap (pkgsOfCalls c) := by
  unfold run at hok ⊢
  obtain ⟨segs, k1, k2, k3, k4⟩ := runRoots_statuses_of_calls c hx roots _ [] [] hok
  exact ⟨segs, k1, by simpa using k2, by simpa using k3, by simpa using k4⟩

theorem C09_statusSpec_is_statusOfCalls (c : Cfg) (f : Faults) (r : Node) (e : Nat) :
    statusSpec c f r e = statusOfCalls c (mustRoot c f r) e := rfl

/-- Surfacing: in a benign scan the status of extractor `e` for a root is `failed` or `partial` exactly
when one of its attempts there could not open / stat its file or its `Extract` returned an error, and it
is `partial` exactly when, in addition, one of its invocations returned inventory. -/
theorem C09_surfaced_benign (c : Cfg) (hb : Benign c) (roots : List (Node × Faults)) (ho : GiOK c) :
    (run c roots).statuses = roots.flatMap fun (r, f) => (List.range c.nExt).map fun e => (e, statusSpec c f r e) :=
  (run_results c hb roots ho).2

theorem C09_status_meaning (c : Cfg) (f : Faults) (root : Node) (e : Nat) :
    (statusSpec c f root e ≠ .ok ↔
      ∃ cl ∈ mustRoot c f root, cl.ext = e ∧ (cl.opened = false ∨ (c.extract cl.ext cl.path).err = true)) ∧
    (statusSpec c f root e = .part ↔
      (∃ cl ∈ mustRoot c f root, cl.ext = e ∧ (cl.opened = false ∨ (c.extract cl.ext cl.path).err = true)) ∧
      ∃ cl ∈ mustRoot c f root, cl.ext = e ∧ cl.opened = true ∧ (c.extract cl.ext cl.path).isEmpty = false) := by
  have herr : (errsOfCalls c (mustRoot c f root)).contains e = true ↔
      ∃ cl ∈ mustRoot c f root, cl.ext = e ∧ (cl.opened = false ∨ (c.extract cl.ext cl.path).err = true) :=
    List.contains_iff_mem.trans mem_errsOfCalls
  have hfound : (foundOfCalls c (mustRoot c f root)).contains e = true ↔
      ∃ cl ∈ mustRoot c f root, cl.ext = e ∧ cl.opened = true ∧ (c.extract cl.ext cl.path).isEmpty = false :=
    List.contains_iff_mem.trans mem_foundOfCalls
  unfold statusSpec
  simp only []
  constructor
  · rw [← herr]
    cases (errsOfCalls c (mustRoot c f root)).contains e <;> cases (foundOfCalls c (mustRoot c f root)).contains e <;> simp
  · rw [← herr, ← hfound]
    cases (errsOfCalls c (mustRoot c f root)).contains e <;> cases (foundOfCalls c (mustRoot c f root)).contains e <;> simp

/-- Fatal on request: with `ErrorOnFSErrors` (no inode limit, cancellation or extractor panic) the scan
fails with a filesystem error EXACTLY when the walk is told about a filesystem failure — a directory that
cannot be opened or whose listing fails, an unreadable `.gitignore` of a directory it enters, the failing
size stat of a required file, a start path that cannot be stat'ed or does not exist (`traversalFaultScan`,
defined on the trees and fault plans alone). For all forests, fault plans and option combinations. -/
theorem C09_fatal_fatalcfg (c : Cfg) (hb : FatalCfg c) (ho : GiOK c) (roots : List (Node × Faults)) :
    (run c roots).err = (if traversalFaultScan c roots then .fs else .none) := by
  rw [(run_events c hb.2.2.2.2 ho roots).1, ← eventsScan_fault]
  exact (runE_fatal c hb _ _ hb.2.2.1).1

/-- **`traversalFaultScan` anchored declaratively** (no hypothesis): the structural definition used in `C09_fatal_fatalcfg`
equals `toldFaultScan` (Spec/WalkNodes.lean), which is written over ONE enumeration of every node of the tree with
the chain of directories above it (`allNodes`, the analogue of `allFiles`): some root has
  * a start path (the root, or a requested path) that cannot be stat'ed or does not exist, or
  * (gitignore handling on) an unreadable `.gitignore` in a directory above a requested directory, or
  * a node the walk GETS TO (`visitedRec`: every directory above it is not excluded, can be opened, and its
    listing did not fail at or before the entry leading on) at which `handleFile` is told about a failure
    (`toldFault`): a directory that is entered and whose `.gitignore` is unreadable (gitignore on), which cannot be
    opened, or one of whose reads `0 … #entries` fails; or an eligible, not ignored file that some extractor
    requires and whose size stat fails while a size limit is set. -/
theorem C09_fatal_anchor (c : Cfg) (roots : List (Node × Faults)) :
    traversalFaultScan c roots = toldFaultScan c roots := by
  unfold traversalFaultScan toldFaultScan
  congr 1
  funext rf
  exact traversalFaultRoot_anchor c rf.2 rf.1

/-- `C09_fatal_fatalcfg` with the declarative right-hand side. -/
theorem C09_fatal_declarative_fatalcfg (c : Cfg) (hb : FatalCfg c) (ho : GiOK c) (roots : List (Node × Faults)) :
    (run c roots).err = (if toldFaultScan c roots then .fs else .none) := by
  rw [← C09_fatal_anchor]; exact C09_fatal_fatalcfg c hb ho roots

/-- **`ErrorOnFSErrors` acts only by failing** (EVERY configuration — limits, cancellation, panicking extractors —
every forest and fault plan): a scan with the flag set either ends with the filesystem error (or an extractor's
panic), or it is IDENTICAL in every observable — error, inventory, statuses, attempts, visited inodes — to the
scan with the flag cleared.  "Fatal only on request", read from the other side. -/
theorem C09_eofs_only_by_failing (c : Cfg) (he : c.errorOnFSErrors = true) (roots : List (Node × Faults)) :
    (run c roots).err = .fs ∨ (run c roots).err = .panic ∨ run (nonFatal c) roots = run c roots :=
  runRoots_eofs c he roots _ [] []

/-- **Fatal errors, no traversal fault** (class `FatalCfg`): the scan is the benign scan — it succeeds, and its
attempts, inventory and statuses are the benign specification's (so `C09_contained_partial`, `C09_surfaced_benign`,
`C09_status_meaning` describe it: faults that are not traversal faults — a file that cannot be opened or stat'ed
for extraction — are charged to the extractor's status, never fatal). -/
theorem C09_fatal_clean_fatalcfg (c : Cfg) (hb : FatalCfg c) (ho : GiOK c) (roots : List (Node × Faults))
    (hnf : traversalFaultScan c roots = false) :
    (run c roots).err = .none ∧ (run c roots).calls = mustExtract c roots ∧
    (run c roots).pkgs = pkgsOfCalls c (mustExtract c roots) ∧
    (run c roots).statuses = roots.flatMap fun (r, f) => (List.range c.nExt).map fun e => (e, statusSpec c f r e) := by
  have herr := C09_fatal_fatalcfg c hb ho roots
  rw [hnf] at herr
  simp only [Bool.false_eq_true, if_false] at herr
  have hben : Benign (nonFatal c) := ⟨hb.1, rfl, hb.2.2.1, hb.2.2.2.1, hb.2.2.2.2⟩
  rcases C09_eofs_only_by_failing c hb.2.1 roots with h | h | h
  · rw [herr] at h; cases h
  · rw [herr] at h; cases h
  · have hs := run_spec (nonFatal c) hben roots ho
    have hr := run_results (nonFatal c) hben roots ho
    rw [h] at hs hr
    exact ⟨herr, hs.2, hr.1, hr.2⟩

/-- … and step-wise: every failure `handleFile` is told about is returned when errors are fatal (unless the
inode limit or a cancelled context pre-empts it with their own error). -/
theorem C09_fatal_step (c : Cfg) (he : c.errorOnFSErrors = true) (s : St) :
    (fserrCall c s).2 ≠ .none := by
  have hne : (prologue c s).2 ≠ some .none := by
    have := aPro_ne c (abs s)
    rwa [prologue_abs] at this
  rw [fserrCall_snd]
  split
  · rename_i e h
    exact fun h' => hne (by rw [h, h'])
  · simp [he]

/-! Non-vacuity -/
example : FatalCfg { nExt := 1, required := fun _ _ => true, extract := fun _ _ => {}, errorOnFSErrors := true, giMatch := fun _ _ _ _ => false } :=
  ⟨rfl, rfl, rfl, rfl, fun _ _ => rfl⟩
example : traversalFaultScan { nExt := 1, required := fun _ _ => true, extract := fun _ _ => {}, errorOnFSErrors := true, giMatch := fun _ _ _ _ => false }
    [(.dir none [("a", .dir none [("x", .file .reg 1)])], { readEntryFail := fun p k => p = ["a"] && k = 1 })] = true := by decide
example : NoGiFaults { openFail := fun p => p = ["a"] } := by
  intro p
  have : p ++ [".gitignore"] ≠ ["a"] := by
    intro h
    have := congrArg List.getLast? h
    simp at this
  simp [this]
example : faultHits { nExt := 1, required := fun _ _ => true, extract := fun _ _ => {}, giMatch := fun _ _ _ _ => false }
    { openFail := fun p => p = ["a"] } ⟨["a", "x"], .reg, 1, [⟨[], none, 0⟩, ⟨["a"], none, 0⟩]⟩ = true := by decide

/-! more non-vacuity: the `false` side of `C09_fatal_fatalcfg` (a file that cannot be opened for extraction is NOT a traversal
fault: `C09_fatal_clean_fatalcfg` applies), the declarative predicate on the same inputs, and `stripGi` on a tree whose
`.gitignore` is unreadable -/
def exF : Cfg := { nExt := 1, required := fun _ _ => true, extract := fun _ _ => {}, errorOnFSErrors := true, useGitignore := true,
                   giMatch := matcherMatch }
def exFTree : Node := .dir none [("a", .dir (some [⟨"x", false, false⟩]) [("x", .file .reg 1), ("y", .file .reg 1)])]
example : FatalCfg exF ∧ GiOK exF := ⟨⟨rfl, rfl, rfl, rfl, fun _ _ => rfl⟩, matcherMatch_domain⟩
example : traversalFaultScan exF [(exFTree, { openFail := fun p => p = ["a", "y"] })] = false ∧
    toldFaultScan exF [(exFTree, { openFail := fun p => p = ["a", "y"] })] = false := by decide
example : toldFaultScan exF [(exFTree, { openFail := fun p => p = ["a", ".gitignore"] })] = true ∧
    toldFaultScan exF [(exFTree, { readEntryFail := fun p k => p = ["a"] ∧ k = 2 })] = true := by decide
/-- with the `.gitignore` of `a` unreadable (errors not fatal), `a/x` — ignored otherwise — is owed, as in the tree without it -/
example : (mustFrom { exF with errorOnFSErrors := false } {} [] [] exFTree).map (·.path) = [["a", "y"]] ∧
    (mustFrom { exF with errorOnFSErrors := false } { openFail := fun p => p = ["a", ".gitignore"] } [] [] exFTree).map (·.path)
      = [["a", "x"], ["a", "y"]] := by decide

/-! ### Disclosed: a failing SIZE stat of a required file is not charged to any extractor

With a size limit set, the engine stats a file lazily when the first extractor requires it.  If that stat fails and errors are
not fatal (fix b4e342f8 made it non-fatal), the file is skipped with a log line: no attempt is made for ANY extractor, so nothing
reaches an extractor's status (`mustOne = []` because `sizeOk` is false; `statusSpec = .ok`) — although with `ErrorOnFSErrors` the
same failure is a traversal fault and fails the scan (`toldFault`, file case).  The property's surfacing clause speaks of "each
failure to open or parse a required file"; a file that cannot be STAT'ed for the size check is, by the letter, neither — it is
CONTAINED (clause 2: every other file is extracted as without the fault) but not SURFACED.  `C09_surfaced_benign` /
`C09_statuses_of_calls` say exactly this: statuses are a function of the ATTEMPTS, and this file has none.  (Charging the
failure to the extractors that require the file would change which statuses a scan reports.) -/
def exSz : Cfg := { nExt := 1, required := fun _ _ => true, extract := fun _ _ => {}, maxFileSize := 100, giMatch := fun _ _ _ _ => false }
def exSzTree : Node := .dir none [("f", .file .reg 1), ("g", .file .reg 1)]
theorem C09_size_stat_failure_not_surfaced :
    (mustRoot exSz { statFail := fun p => p = ["f"] } exSzTree).map (·.path) = [["g"]] ∧
    statusSpec exSz { statFail := fun p => p = ["f"] } exSzTree 0 = .ok ∧
    toldFaultScan exSz [(exSzTree, { statFail := fun p => p = ["f"] })] = true := by decide

end Scalibr.Walk
