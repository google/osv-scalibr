/-
C20 — Detectors see all extracted packages and their findings are reported intact.

All theorems are for ALL detector lists (detectors are arbitrary functions of the index), all finding
lists — nil entries included — and all inventories; helper lemmas live in `Scalibr.Proofs.Detector` /
`Scalibr.Proofs.Index`. The model is the code after fix e8c67092 (findings are tagged on a copy, a nil
entry fails the scan), so tagging holds for shared finding objects too.

ENTRY CONDITION. `run` / `scanTail` describe `detector.Run` and the tail of `Scan` ENTERED WITH A
LIVE CONTEXT AFTER THE EARLIER PHASES RETURNED NO ERROR: `run` starts its loop with `cancelled := false`, and a
`ScanIn` is what `filesystem.Run` and `standalone.Run` delivered. `NoCancel` speaks of the detectors only. What
happens otherwise is stated, not hidden: `C20_cancelled_at_entry` (context already cancelled when `detector.Run` is
entered, e.g. by the last standalone extractor: no detector runs, no detector status, `ctx.Err()`), and, for the
whole phase sequence — an earlier phase failing, cancellation before the scan or inside any earlier plugin —
`Scalibr.Phases` (C10): `C10_plugins_detector_entry` says which entry state `Scan` hands to the detector loop and
`C10_plugins_detector_models_agree` that the two models of that loop agree from every entry state.

Naming: a theorem with a hypothesis the full statement needs is `…_partial`. Two hypotheses occur:
* `NoCancel` — no detector cancels the scan's context while another detector is still to run (then the
  remaining detectors are skipped by design and the scan fails; `C20_once_prefix` and C10's
  `Scalibr.Phases` cover that case). Without it the statements are false, by design of the code.
The property's sentence about inconsistent FINDINGS is read over all findings a scan collects — those carried by
the extractors' inventories included (`ConsistentAll`). Since fix 89f87523 `Scan` validates them together with the
detectors' (`detector.ValidateAdvisories(sro.Inventory.Findings)`), so the scan-level statements hold at full
strength: `C20_scan_status_partial` (needs only `NoCancel`), `C20_emitted_consistent` and `C20_no_sort_panic`
(no hypothesis at all).
-/
import Scalibr.Proofs.Detector
import Scalibr.Proofs.Index
namespace Scalibr.Detector
open Scalibr.Index

/-! ### detector.Run -/

/-- Each detector's `Scan` is called exactly once, in configuration order, each time with the very
index `Run` was given. -/
theorem C20_once_partial (ds : List Detector) (px : PkgMap) (hn : NoCancel ds) :
    (run ds px).calls = ds.map (fun d => (d.name, px)) := by
  rw [run_nocancel ds px hn]; split <;> rfl

/-- `run` is `detector.Run` entered with a live context (the entry condition of every `C20_*_partial` theorem). -/
theorem C20_entry_live (ds : List Detector) (px : PkgMap) : runFrom false ds px = run ds px := rfl

/-- Entered with the context ALREADY CANCELLED (the last plugin of an earlier phase cancelled it): no detector is
called, no status entry is produced, `Run` returns `ctx.Err()` — unless there is no detector at all. -/
theorem C20_cancelled_at_entry (ds : List Detector) (px : PkgMap) (h : ds ≠ []) :
    (runFrom true ds px).calls = [] ∧ (runFrom true ds px).status = [] ∧ (runFrom true ds px).findings = [] ∧
    (runFrom true ds px).err = some .ctx := by
  cases ds with
  | nil => exact absurd rfl h
  | cons d ds => simp [runFrom, runLoop]

/-- Without any hypothesis: never twice, never out of order, never another index — the calls are a
prefix of the configured detectors (a proper prefix only after a cancellation). -/
theorem C20_once_prefix (ds : List Detector) (px : PkgMap) :
    ∃ k, (run ds px).calls = (ds.take k).map (fun d => (d.name, px)) := by
  obtain ⟨k, hk⟩ := runLoop_calls_prefix px ds {}
  refine ⟨k, ?_⟩
  unfold run
  simp only []
  split
  · simpa using hk
  · split <;> simpa using hk

/-- One status entry per detector, in order: failed iff that detector's `Scan` returned an error —
whether or not the advisories are consistent. -/
theorem C20_status_partial (ds : List Detector) (px : PkgMap) (hn : NoCancel ds) :
    (run ds px).status = specStatus ds px := by
  rw [run_nocancel ds px hn]; split <;> rfl

/-- `validateAdvisories` accepts exactly the consistent finding lists (no nil entry, every finding has an
advisory with an ID, equal IDs carry identical advisories). -/
theorem C20_validate_spec (fs : List (Option Finding)) : validate fs [] = none ↔ Consistent fs :=
  validate_spec fs

/-- Consistent advisories: `Run` succeeds and returns every finding of every detector, in order, untouched
except for the tag naming ITS detector — whatever objects the detectors share (`_partial` is for `NoCancel`).
Since the code (after fix e8c67092) copies, the model's loop is a `flatMap` of
`tagResults`, and `tag = tagCopy` by `rfl`; what this theorem adds over the definition is that validation
lets exactly the consistent lists through and that nothing is dropped (`consistent_no_nil`); that the Go loop
IS this `flatMap` (copies, no write to the detector's object) is the stream's `find=`/`mut=0` comparison. -/
theorem C20_tagged_partial (ds : List Detector) (px : PkgMap) (hn : NoCancel ds)
    (hc : Consistent (specFindings ds px)) :
    (run ds px).findings.map some = specFindings ds px ∧ (run ds px).err = none := by
  rw [run_nocancel ds px hn, (validate_spec _).2 hc]
  exact ⟨consistent_no_nil _ hc, rfl⟩

/-- Two detectors returning the SAME finding object: it is reported twice, once tagged with each
detector (before fix e8c67092 both copies carried the second detector's name). -/
def sharedF : Finding := ⟨1, some ⟨some (0, [7]), 0⟩, 0, [], []⟩
def sharedDs : List Detector :=
  [⟨"d1", fun _ => ([some sharedF], false), false⟩, ⟨"d2", fun _ => ([some sharedF], false), false⟩]
theorem C20_tagged_shared_pointer :
    (run sharedDs []).findings = [tag "d1" sharedF, tag "d2" sharedF] ∧ (run sharedDs []).err = none := by
  refine ⟨by decide, by decide⟩

/-- Inconsistent findings — two findings share an advisory ID but differ in content, a finding lacks an
advisory or an advisory ID, or a detector returned a NIL finding: `Run` returns an error and NO
findings, and still one status per detector. -/
theorem C20_inconsistent_partial (ds : List Detector) (px : PkgMap) (hn : NoCancel ds)
    (hc : ¬ Consistent (specFindings ds px)) :
    (run ds px).err ≠ none ∧ (run ds px).findings = [] ∧ (run ds px).status = specStatus ds px := by
  rw [run_nocancel ds px hn]
  cases hv : validate (specFindings ds px) [] with
  | none => exact absurd ((validate_spec _).1 hv) hc
  | some e => exact ⟨nofun, rfl, rfl⟩

/-- A nil entry in any detector's result is such an inconsistency. -/
theorem C20_nil_finding_partial (ds : List Detector) (px : PkgMap) (hn : NoCancel ds)
    (hnil : ∃ d ∈ ds, none ∈ (d.scan px).1) :
    (run ds px).err ≠ none ∧ (run ds px).findings = [] := by
  have hc : ¬ Consistent (specFindings ds px) := by
    rintro ⟨h, _⟩
    obtain ⟨d, hd, hm⟩ := hnil
    obtain ⟨f, _, _, hx, _, _⟩ := h none (List.mem_flatMap.2 ⟨d, hd, List.mem_map.2 ⟨none, hm, rfl⟩⟩)
    cases hx
  obtain ⟨h1, h2, _⟩ := C20_inconsistent_partial ds px hn hc
  exact ⟨h1, h2⟩

/-- … and conversely an error of `Run` (without cancellation) always means inconsistent findings:
a detector's own error never fails the run. -/
theorem C20_error_iff_partial (ds : List Detector) (px : PkgMap) (hn : NoCancel ds) :
    (run ds px).err = none ↔ Consistent (specFindings ds px) := by
  rw [run_nocancel ds px hn, ← validate_spec]
  cases validate (specFindings ds px) [] <;> simp

/-- What `Run` returns on success holds no nil entry (so giving it as a list of findings loses nothing). -/
theorem C20_run_no_nil_partial (ds : List Detector) (px : PkgMap) (hn : NoCancel ds) (h : (run ds px).err = none) :
    (run ds px).findings.map some = (runLoop px ds {}).findings := by
  rw [(C20_tagged_partial ds px hn ((C20_error_iff_partial ds px hn).1 h)).1, (runLoop_nocancel px ds {} (fun _ => rfl) rfl hn).1]
  rfl

/-! The index laws (`new_getSpecific`, `new_getAllOfType`, `new_getAll`, `new_has`, `new_only`) are proved in
`Scalibr.Proofs.Index`; C14 states them as its own property theorems. -/

/-! ### tail of Scan -/

/-- Every detector is called once, in order, with the index of exactly the packages extracted in this
scan (filesystem ++ standalone), which answers every query as a filter of that list. -/
theorem C20_index_partial (i : ScanIn) (hn : NoCancel i.dets) :
    (scanTail i).calls = i.dets.map (fun d => (d.name, Index.new (i.fsPkgs ++ i.stPkgs))) ∧
    (∀ n t, getSpecific (Index.new (i.fsPkgs ++ i.stPkgs)) n t = specSpecific (i.fsPkgs ++ i.stPkgs) n t) ∧
    (∀ t, (getAllOfType (Index.new (i.fsPkgs ++ i.stPkgs)) t).Perm (specOfType (i.fsPkgs ++ i.stPkgs) t)) ∧
    (getAll (Index.new (i.fsPkgs ++ i.stPkgs))).Perm (specAll (i.fsPkgs ++ i.stPkgs)) :=
  ⟨C20_once_partial _ _ hn, fun n t => new_getSpecific _ n t, fun t => new_getAllOfType _ t, new_getAll _⟩

/-- STATUS, full strength over ALL findings (`_partial` only for `NoCancel`): the scan reports failure exactly when
the findings it collected — the extractors' and the detectors' together — are inconsistent: two of them share an
advisory ID and differ in content, or one lacks an advisory or an advisory ID (or is nil). A failing detector
alone does not fail the scan. -/
theorem C20_scan_status_partial (i : ScanIn) (hn : NoCancel i.dets) :
    (scanTail i).failed = false ↔ ConsistentAll i := by
  obtain ⟨h1, h2⟩ := scanFindings_nocancel i hn
  show (scanFindings i).2.isSome = false ↔ ConsistentAll i
  by_cases hc : ConsistentAll i
  · simp [hc, (h1 hc).2]
  · simpa [hc, Option.isSome_iff_ne_none] using (h2 hc).1

/-- TAGGED, scan level: consistent findings ⇒ the scan succeeds and reports (as a sorted permutation) exactly all of
them — the extractors' as they are, every detector finding tagged with its detector. -/
theorem C20_tagged_scan_partial (i : ScanIn) (hn : NoCancel i.dets) (hc : ConsistentAll i) :
    (scanTail i).failed = false ∧ ((scanTail i).findings.map some).Perm (allFindings i) := by
  refine ⟨(C20_scan_status_partial i hn).2 hc, ?_⟩
  rw [← ((scanFindings_nocancel i hn).1 hc).1]
  exact (isort_perm _ _).map some

/-- Scan level, statuses: the plugin statuses are (a sorted permutation of) the extractors' statuses
plus one entry per detector reflecting whether it failed. -/
theorem C20_status_scan_partial (i : ScanIn) (hn : NoCancel i.dets) :
    (scanTail i).pluginStatus.Perm
      (i.fsStatus ++ i.stStatus ++ specStatus i.dets (Index.new (i.fsPkgs ++ i.stPkgs))) := by
  unfold scanTail
  simp only [C20_status_partial i.dets _ hn]
  exact isort_perm _ _

/-- NEVER INCONSISTENT — for every scan, with or without cancellation, whatever extractors and detectors return: the
findings a scan emits are consistent (every one has an advisory with an ID, equal IDs carry identical advisories).
"The scan reports failure INSTEAD OF emitting inconsistent findings." -/
theorem C20_emitted_consistent (i : ScanIn) : Consistent ((scanTail i).findings.map some) := by
  have h := scanFindings_consistent i
  unfold scanTail
  simp only []
  exact consistent_perm _ _ ((isort_perm findingLt (scanFindings i).1).symm.map some) h

/-- INCONSISTENT, scan level, over ALL findings: the scan reports failure and emits no detector finding; what it
still emits is nothing at all, or — when the detectors' findings were the inconsistent ones and `detector.Run`
already discarded them — the extractors' findings, consistent among themselves (`C20_emitted_consistent`). -/
theorem C20_inconsistent_scan_partial (i : ScanIn) (hn : NoCancel i.dets) (hc : ¬ ConsistentAll i) :
    (scanTail i).failed = true ∧
    ((scanTail i).findings = [] ∨ (scanTail i).findings.Perm (i.fsFindings ++ i.stFindings)) := by
  obtain ⟨he, hfs⟩ := (scanFindings_nocancel i hn).2 hc
  refine ⟨by simpa [scanTail, Option.isSome_iff_ne_none] using he, ?_⟩
  show isort findingLt (scanFindings i).1 = [] ∨ (isort findingLt (scanFindings i).1).Perm _
  rcases hfs with h | h <;> rw [h]
  · exact Or.inl rfl
  · exact Or.inr (isort_perm _ _)

/-- the two inputs of the repaired defect (known finding C20/extractor-findings-unvalidated until fix 89f87523): an
extractor's finding and a detector's share an advisory ID and differ in content; an extractor's finding lacks an
advisory (alone, and next to another one, where `sortResults` would dereference nil) — failure, no findings, no panic -/
def exfI : ScanIn :=
  ⟨[], [⟨1, some ⟨some (0, [7]), 0⟩, 1, [], []⟩], [], [], [], [],
   [⟨"d", fun _ => ([some ⟨2, some ⟨some (0, [7]), 1⟩, 2, [], []⟩], false), false⟩]⟩
def exfJ (n : Nat) : ScanIn :=
  ⟨[], (List.range n).map fun k => ⟨k, none, k, [], []⟩, [], [], [], [], []⟩
theorem C20_extractor_findings_validated_witness :
    (scanTail exfI).failed = true ∧ (scanTail exfI).findings = [] ∧
    (scanTail (exfJ 1)).failed = true ∧ (scanTail (exfJ 1)).findings = [] ∧
    (scanTail (exfJ 2)).failed = true ∧ (scanTail (exfJ 2)).findings = [] ∧ (scanTail (exfJ 2)).panics = false := by
  refine ⟨by decide, by decide, by decide, by decide, by decide, by decide, by decide⟩

/-- UNREACHABLE: `sortResults` never sees a finding without advisory or advisory ID — for EVERY scan (no hypothesis):
what reaches it passed `ValidateAdvisories` or is empty. The `panics` outcome of the model cannot occur. -/
theorem C20_no_sort_panic (i : ScanIn) : (scanTail i).panics = false := by
  have hk := consistent_keyed _ (scanFindings_consistent i)
  unfold scanTail
  simp only []
  have : ((scanFindings i).1.any fun f => (sortKey f).isNone) = false := by
    rw [List.any_eq_false]; intro f hf
    have := hk f hf
    cases h : sortKey f <;> simp_all
  simp [this]

/-! ### the gate in front of the phases -/

/-- GATE. `Scan` runs its phases — hence any detector at all — exactly when the specification's four conditions hold, and then the
result is the one of `scanTail` (to which every theorem above applies). -/
theorem C20_gate_runs_iff (e v : Bool) (n : Nat) (p : Bool) (i : ScanIn) :
    (∃ o, scanHead (preCheck e v n p) i = .ok o) ↔ Runs e v n p := by
  rw [← preCheck_none_iff]
  cases preCheck e v n p <;> simp [scanHead]

/-- …and otherwise NOTHING runs: the outcome is the bare error (no `ScanOut`, so no detector call, no finding, no package, no plugin
status), and the error is the first unmet condition in the order enable, requirements, roots, files. -/
theorem C20_gate_blocked (e v : Bool) (n : Nat) (p : Bool) (i : ScanIn) (h : ¬ Runs e v n p) :
    ∃ err, scanHead (preCheck e v n p) i = .error err ∧ specReason e v n p = some err := by
  rw [← preCheck_none_iff] at h
  rw [← preCheck_eq_specReason]
  cases hp : preCheck e v n p with
  | none => exact absurd hp h
  | some err => exact ⟨err, rfl, rfl⟩

theorem C20_gate_ok (i : ScanIn) (e v : Bool) (n : Nat) (p : Bool) (h : Runs e v n p) :
    scanHead (preCheck e v n p) i = .ok (scanTail i) ∧ runsB e v n p = true := by
  rw [(preCheck_none_iff e v n p).2 h]
  obtain ⟨rfl, rfl, h0, h1⟩ := h
  exact ⟨rfl, by cases p <;> simp [runsB, h0, h1]⟩

/-! ### non-vacuity -/

def exA : Adv := ⟨some (1, [5]), 3⟩
def exB : Adv := ⟨some (1, [6]), 4⟩
/-- three detectors: two report the same advisory (identical bodies), one of them also fails with an
error, the third looks a package up in the index and reports one finding per hit -/
def exDs : List Detector :=
  [⟨"d1", fun _ => ([some ⟨1, some exA, 0, [], []⟩], false), false⟩,
   ⟨"d2", fun _ => ([some ⟨2, some exA, 0, [1], ["stale"]⟩, some ⟨3, some exB, 9, [], []⟩], true), false⟩,
   ⟨"d3", fun px => ((getSpecific px "n" "t").map fun p => some ⟨10 + p.id, some exB, p.id, [2], []⟩, false), false⟩]
def exPkgs : List Pkg := [⟨0, some ("t", "n")⟩, ⟨1, none⟩, ⟨2, some ("t", "m")⟩, ⟨3, some ("t", "n")⟩]

/-- the LAST detector may cancel the context: nothing is skipped -/
example : NoCancel [⟨"a", fun _ => ([], false), false⟩, ⟨"b", fun _ => ([], false), true⟩] := by
  intro d hd; simp at hd; rw [hd]
example : NoCancel exDs := by intro d hd; simp [exDs] at hd; rcases hd with rfl | rfl | rfl <;> rfl
example : consistentB (specFindings exDs (Index.new exPkgs)) = true := by decide
example : ((run exDs (Index.new exPkgs)).findings.map fun f => (f.ptr, f.detectors)) =
    [(1, ["d1"]), (2, ["d2"]), (3, ["d2"]), (10, ["d3"]), (13, ["d3"])] := by decide
example : (run exDs (Index.new exPkgs)).status = [⟨"d1", .succeeded⟩, ⟨"d2", .failed⟩, ⟨"d3", .succeeded⟩] := by decide
/-- inconsistent inputs exist: same ID with a different body; a nil entry -/
example : consistentB [some ⟨1, some ⟨some (1, [5]), 3⟩, 0, [], []⟩, some ⟨2, some ⟨some (1, [5]), 4⟩, 0, [], []⟩] = false := by decide
example : (run [⟨"d", fun _ => ([some sharedF, none], false), false⟩] []).err = some .nilFinding ∧
    (run [⟨"d", fun _ => ([some sharedF, none], false), false⟩] []).findings = [] := by
  refine ⟨by decide, by decide⟩

end Scalibr.Detector
