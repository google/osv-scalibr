/-
C19 (and, at Scan level, C01's "invoked exactly once / the inventory is exactly the union"): two set-union clauses.

* RESOLVING A LIST OF NAMES (`ExtractorsFromNames` / `DetectorsFromNames`, for detectors, filesystem and standalone
  extractors alike) is the set union of the single resolutions and yields no plugin twice, however the names overlap
  (group + member, group + group, `all` + anything, member before / after its group, the same name twice).
* AUTO-ENABLING (`ScanConfig.EnableRequiredExtractors`) is an idempotent union preserving first occurrence: after it no
  extractor name occurs twice in either list — so no extractor runs twice on a file and no package is reported twice for
  that reason —, every required name is enabled, and the explicitly enabled extractors are kept, first, in order.
General theorems (all tables / all lists) + their instances over the registry REGENERATED from /repo on every run.
Tie: the `names`, `enab` cases of harness/cmd/c19gen against lean/Drivers/C19.lean (a real `scalibr.New().Scan` counting
`Extract` calls for `enab`). Helper lemmas: `Scalibr.Proofs.Registry`.
-/
import Scalibr.Proofs.RegistryGen
namespace Scalibr.Registry
open Scalibr.Gen.Registry

/-! ### resolving a list of names -/

/-- For every name table whose keys are distinct and in which a plugin name identifies the plugin: whatever list of names
`…FromNames` accepts, the result is the set union of what the names stand for, and no plugin name occurs twice. -/
theorem C19_resolves_list_partial (t : Table) (hk : KeysNodup t) (hdet : NameDetermines t) (names : List String) (r : List Plugin)
    (h : fromNames t names = .ok r) : ResolvesTo t names r := by
  obtain ⟨h1, h2⟩ := fromNamesLoop_spec t hk hdet names [] r (by simp) (by simp) h
  exact ⟨h1, fun p => by simpa using h2 p⟩

/-- … and it refuses a list exactly when some name is not a key. -/
theorem C19_resolves_list_error (t : Table) (names : List String) :
    (∃ n, fromNames t names = .error n) ↔ ∃ n ∈ names, t.lookup n = none := by
  have key : ∀ (names : List String) (res : List Plugin),
      (∃ n, fromNamesLoop t names res = .error n) ↔ ∃ n ∈ names, t.lookup n = none := by
    intro names
    induction names with
    | nil => intro res; simp [fromNamesLoop]
    | cons n ns ih =>
      intro res
      unfold fromNamesLoop
      cases hl : t.lookup n with
      | none => exact ⟨fun _ => ⟨n, by simp, hl⟩, fun _ => ⟨n, rfl⟩⟩
      | some ms =>
        simp only [List.mem_cons, exists_eq_or_imp, hl, reduceCtorEq, false_or]
        exact ih _
  exact key names []

/-- the three regenerated registries are such tables -/
theorem C19_registry_names_determine :
    (KeysNodup fsNames ∧ NameDetermines fsNames) ∧ (KeysNodup stNames ∧ NameDetermines stNames) ∧
    (KeysNodup detNames ∧ NameDetermines detNames) :=
  ⟨⟨fs_ok.keys, fs_ok.nameDetermines⟩, ⟨st_ok.keys, st_ok.nameDetermines⟩, ⟨det_ok.keys, det_ok.nameDetermines⟩⟩

/-- Over the real registry: every accepted list of filesystem-extractor / standalone-extractor / detector names resolves to
the set union of the single names, no plugin twice. -/
theorem C19_resolves_list (names : List String) (r : List Plugin) :
    (fromNames fsNames names = .ok r → ResolvesTo fsNames names r) ∧
    (fromNames stNames names = .ok r → ResolvesTo stNames names r) ∧
    (fromNames detNames names = .ok r → ResolvesTo detNames names r) :=
  ⟨C19_resolves_list_partial _ C19_registry_names_determine.1.1 C19_registry_names_determine.1.2 names r,
   C19_resolves_list_partial _ C19_registry_names_determine.2.1.1 C19_registry_names_determine.2.1.2 names r,
   C19_resolves_list_partial _ C19_registry_names_determine.2.2.1 C19_registry_names_determine.2.2.2 names r⟩

/-- what the seeded `DetectorsFromNames` got wrong, as a witness on the registry: a group and one of its members -/
example : (fromNames detNames ["weakcreds", "all"]).toOption.map (·.length) = some (allPlugins detAll).length := by decide +kernel

/-! ### auto-enabling required extractors -/

/-- For all name tables, all explicitly enabled lists (without a name twice) and all detectors with any
`RequiredExtractors()` lists — overlapping between detectors, repeated inside one list, already enabled explicitly, of the
filesystem or the standalone kind: after `EnableRequiredExtractors`
* no extractor name occurs twice in the filesystem list nor in the standalone list,
* the explicitly enabled extractors are still there, first and in order (a prefix),
* every required name is enabled (in at least one of the two lists). -/
theorem C19_enable_once_partial (fsT stT : Table) (fs st dets : List Plugin) (c : Cfg)
    (hfs : (fs.map (·.name)).Nodup) (hst : (st.map (·.name)).Nodup)
    (h : enableRequired fsT stT fs st dets = .ok c) :
    (c.fs.map (·.name)).Nodup ∧ (c.st.map (·.name)).Nodup ∧ fs <+: c.fs ∧ st <+: c.st ∧
    ∀ d ∈ dets, ∀ e ∈ d.required, e ∈ c.fs.map (·.name) ∨ e ∈ c.st.map (·.name) := by
  unfold enableRequired at h
  have hi : EnInv ⟨fs, st, fs.map (·.name) ++ st.map (·.name)⟩ :=
    ⟨hfs, hst, fun n hn => by simpa using hn, fun n hn => by simpa using hn⟩
  rw [enableDets_eq] at h
  obtain ⟨i, p, q, _, e⟩ := enableList_inv fsT stT _ _ c hi h
  exact ⟨i.fsNodup, i.stNodup, p, q, fun d hd x hx => i.complete x (e x (List.mem_flatMap.mpr ⟨d, hd, hx⟩))⟩

/-- IDEMPOTENT: enabling again changes nothing. -/
theorem C19_enable_idempotent (fsT stT : Table) (fs st dets : List Plugin) (c : Cfg)
    (hfs : (fs.map (·.name)).Nodup) (hst : (st.map (·.name)).Nodup)
    (h : enableRequired fsT stT fs st dets = .ok c) :
    ∃ c', enableRequired fsT stT c.fs c.st dets = .ok c' ∧ c'.fs = c.fs ∧ c'.st = c.st := by
  obtain ⟨_, _, _, _, hreq⟩ := C19_enable_once_partial fsT stT fs st dets c hfs hst h
  -- every required name is already in `enabled`, so every step is the `continue` branch
  have key : ∀ (es : List String) (k : Cfg), (∀ e ∈ es, e ∈ k.enabled) → enableList fsT stT k es = .ok k := by
    intro es k
    induction es with
    | nil => intro _; rfl
    | cons e es ih =>
      intro he
      have : k.enabled.contains e = true := by simpa using he e (by simp)
      simp only [enableList, enableOne, this, if_true]
      exact ih fun x hx => he x (by simp [hx])
  refine ⟨⟨c.fs, c.st, c.fs.map (·.name) ++ c.st.map (·.name)⟩, ?_, rfl, rfl⟩
  rw [enableRequired, enableDets_eq]
  refine key _ _ fun e he => ?_
  obtain ⟨d, hd, he'⟩ := List.mem_flatMap.mp he
  simpa using hreq d hd e he'

/-- the shape of the seeded defect: two detectors require the same extractor, which is not enabled explicitly — it is
enabled ONCE (and a name repeated inside one list, or enabled explicitly, changes nothing) -/
example :
    let w : Plugin := ⟨"python/wheelegg", ⟨.any, .any, false, false⟩, []⟩
    let d := fun (n : String) (r : List String) => (⟨n, ⟨.any, .any, false, false⟩, r⟩ : Plugin)
    (enableRequired [("python/wheelegg", [w])] [] [] [] [d "d1" ["python/wheelegg", "python/wheelegg"], d "d2" ["python/wheelegg"]]).toOption.map
      (fun c => c.fs.map (·.name)) = some ["python/wheelegg"] := by decide

end Scalibr.Registry
