/-
C16(c) — the status ticker of the filesystem walk.  This module is the only one that imports the table
regenerated from extractor/filesystem/*.go on every run (lean/Scalibr/Gen/Ticker.lean, written by
/verif/translator/cmd/tickerdump); it is built and audited separately from Properties/C16.lean, so a source change
that breaks `C16_ticker_guarded` fails exactly this obligation.
-/
import Scalibr.Gen.Ticker
import Scalibr.Proofs.Ticker
namespace Scalibr.C16

/-! ## (c) the status ticker -/
open Scalibr.Gen.Ticker in
/-- **C16_ticker_guarded.** Over the table regenerated from extractor/filesystem/*.go: the translator understood
every lock region; `printStatus` runs on the ticker goroutine (it is reached from the `go func` in `RunFS`); and for
every pair of accesses to the same `walkContext` field, one on the ticker goroutine and one on the walking
goroutine, at least one of them a write (initialisation of the not-yet-shared object excepted), BOTH are lexically
between `statusMu.Lock()` and the matching `Unlock()` / deferred `Unlock()`.  The fields concerned are exactly
`inodesVisited`, `extractCalls`, `currentPath` … (whatever `sharedFields` evaluates to now) and there is at least one.
Side condition on goroutine lifetimes (Model/Ticker.lean): one ticker per `RunFS`, signalled but NOT joined, one `walkContext` for all roots of
a `Run` — so "written in `RunFS` before the goroutine starts" is ordered by the `go` statement only w.r.t. the SAME root's ticker and counts
here as an ordinary (unguarded unless under `statusMu`) walker-side write: it races with the previous root's ticker.  Only the `walkContext`
literal of `InitWalkContext` is exempt. -/
theorem C16_ticker_guarded :
    table.wellFormed = true ∧
    (funcs.idxOf "printStatus") ∈ tickerFuncs ∧ (funcs.idxOf "handleFile") ∈ walkerFuncs ∧
    table.conflictsGuarded = true ∧ table.sharedFields ≠ [] :=
  ⟨by decide +kernel, by decide +kernel, by decide +kernel,
   table.conflictsGuarded_eq.trans (by decide +kernel), table.sharedFields_ne_nil (by decide +kernel)⟩

/-
The stronger reading of the design entry — "every field accessed by printStatus that is also written by a
walker-side function is accessed only under statusMu at EVERY site" (`Table.allSitesGuarded`) — does not hold for
the unchanged code and is not needed for race freedom: `handleFile` reads `wc.inodesVisited` for the MaxInodes
test right after releasing the lock, and `RunFS` reads `inodesVisited`/`extractCalls` for its final log line;
both run on the walking goroutine, which is the only writer of these fields, and the ticker only reads them.
The translator prints the number of such sites into the evidence (`unguarded_sites_of_shared_fields`).
-/

end Scalibr.C16
