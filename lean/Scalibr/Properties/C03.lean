/-
C03 — Well-formed package databases are reported completely and exactly.
Property theorems only; models in `Scalibr.Model.Parsers.*`, specifications (renderers, `WF`, `installed`)
in `Scalibr.Spec.Parsers.*`, helper lemmas in `Scalibr.Proofs.Parsers.*`.

(a) line formats: `parse (render ℓ rs) = .ok (installed rs)` for ALL record lists `rs` (so for every order of a
package set — `rs` is an arbitrary list and the result keeps its order) and ALL layouts `ℓ`: per-line LF/CRLF,
final newline or not, any number of blank lines where the format allows them, comments, unrelated fields.
-/
import Scalibr.Proofs.Parsers.Apk
import Scalibr.Proofs.Parsers.Gradle
import Scalibr.Proofs.Lockfiles
import Scalibr.Proofs.Parsers.Gemfile
import Scalibr.Proofs.Parsers.Dpkg
import Scalibr.Proofs.Parsers.Requirements
import Scalibr.Proofs.Parsers.GoShape
import Scalibr.Proofs.Parsers.RequirementsTree
namespace Scalibr.Parsers

/-! ### apk `installed` -/

/-- Every well-formed apk database, in every layout, is read back exactly: the (name, version) pairs of all
records, in file order, nothing dropped, duplicated, merged or invented. Unbounded in the number of records,
fields, blank lines and in line lengths up to the scanner's limit. -/
theorem C03_apk (ℓ : Apk.Layout) (rs : List Apk.GRec) (hwf : Apk.WF rs) (hl : Apk.LayoutOK ℓ rs) :
    Apk.parse (Apk.render ℓ rs) = .ok (Apk.installed rs) := by
  unfold Apk.parse Apk.render
  rw [scan_unlines _ _ _ (Apk.fileLines_clean ℓ rs hwf) (Apk.fileLines_endsOK ℓ rs hl)]
  show (match Apk.run (Apk.fileLines ℓ rs) [] with | none => Outcome.err | some ps => .ok ps) = _
  rw [Apk.run_fileLines ℓ rs hwf]

/-- non-vacuity: three records, unrelated fields in every position, `V:` before `P:` in one, two leading blank
lines, gaps of 1 and 3 blank lines, CRLF on some lines, no final newline -/
def Apk.exRecs : List Apk.GRec :=
  [ { name := "musl".toList, ver := "1.2.4-r2".toList, pre := [("C".toList, "Q1abc=".toList)], post := [("A".toList, "x86_64".toList)] },
    { name := "busybox".toList, ver := "1.36.1-r5".toList, mid := [("o".toList, "busybox".toList), ("m".toList, "a <b@c>".toList)], vFirst := true },
    { name := "zlib".toList, ver := "1.3-r0".toList, post := [("".toList, "odd:value".toList)] } ]
def Apk.exLayout : Apk.Layout := { lead := 2, gap := fun i => 2 * i, tail := 0, eols := ⟨[true, false, true], false⟩ }
/- The test vectors of this file are closed by kernel evaluation. A string literal is `String.ofList` of its characters by definition,
whereas evaluating `String.toList` on it decodes UTF-8 by well-founded recursion, which the kernel does slowly: so the literals are first
rewritten to character lists with `String.toList_ofList`. -/
private theorem Apk.ex_wf : Apk.WF Apk.exRecs ∧ Apk.LayoutOK Apk.exLayout Apk.exRecs := by
  unfold Apk.exRecs; repeat rw [String.toList_ofList]
  decide +kernel
example : Apk.WF Apk.exRecs ∧ Apk.LayoutOK Apk.exLayout Apk.exRecs := Apk.ex_wf
example : Apk.parse (Apk.render Apk.exLayout Apk.exRecs)
    = .ok [("musl".toList, "1.2.4-r2".toList), ("busybox".toList, "1.36.1-r5".toList), ("zlib".toList, "1.3-r0".toList)] :=
  C03_apk _ _ Apk.ex_wf.1 Apk.ex_wf.2

/-! ### gradle.lockfile -/

/-- Every well-formed `gradle.lockfile`, in every layout (comments, the `empty=` line, blank or white-space-only
lines anywhere, white space around each dependency line, LF/CRLF per line, final newline or not), is read back
exactly: `group:artifact` and version of every dependency line, in order. -/
theorem C03_gradle (ℓ : Gradle.Layout) (rs : List Gradle.GRec) (hwf : Gradle.WF rs)
    (hlw : Gradle.LayoutWF ℓ rs.length) (hl : Gradle.LayoutOK ℓ rs) :
    Gradle.parse (Gradle.render ℓ rs) = .ok (Gradle.installed rs) := by
  obtain ⟨hclean, hlines⟩ := Gradle.filterMap_fileLines ℓ rs hwf hlw
  rw [Gradle.parse_eq]
  unfold Gradle.render
  rw [scan_unlines _ _ _ hclean hl]
  simp only [hlines, Bool.false_eq_true, if_false]

/-- non-vacuity: three dependencies, a header comment, the `empty=` line, indented and blank lines, CRLF -/
def Gradle.exRecs : List Gradle.GRec :=
  [ { group := "com.google.guava".toList, artifact := "guava".toList, ver := "31.1-jre".toList, confs := "compileClasspath,runtimeClasspath".toList },
    { group := "org.slf4j".toList, artifact := "slf4j-api".toList, ver := "1.7.36".toList, lead := "  ".toList, trail := " \t".toList },
    { group := "edu.x".toList, artifact := "empty".toList, ver := "2:0".toList, confs := [] } ]
def Gradle.exLayout : Gradle.Layout :=
  { before := fun i => if i = 0 then [.comment [] " This is a Gradle generated file".toList, .comment "  ".toList []] else [.blank " ".toList, .blank []],
    after := [.emptyConf [] "annotationProcessor".toList], eols := ⟨[true, true, false, true], false⟩ }
private theorem Gradle.ex_wf :
    Gradle.WF Gradle.exRecs ∧ Gradle.LayoutWF Gradle.exLayout 3 ∧ Gradle.LayoutOK Gradle.exLayout Gradle.exRecs := by
  unfold Gradle.exRecs Gradle.exLayout; repeat rw [String.toList_ofList]
  decide +kernel
example : Gradle.WF Gradle.exRecs ∧ Gradle.LayoutWF Gradle.exLayout 3 ∧ Gradle.LayoutOK Gradle.exLayout Gradle.exRecs := Gradle.ex_wf
example : Gradle.parse (Gradle.render Gradle.exLayout Gradle.exRecs)
    = .ok [("com.google.guava:guava".toList, "31.1-jre".toList), ("org.slf4j:slf4j-api".toList, "1.7.36".toList), ("edu.x:empty".toList, "2:0".toList)] := by
  rw [C03_gradle _ _ Gradle.ex_wf.1 Gradle.ex_wf.2.1 Gradle.ex_wf.2.2]
  unfold Gradle.exRecs; repeat rw [String.toList_ofList]
  rfl

/-! ### Gemfile.lock -/

/-- Every well-formed `Gemfile.lock`, in every layout (sections in any order, any number of blank lines before
each section and inside it, option / dependency / version lines of any indentation other than 0 and 4, LF/CRLF
per line, final newline or not), is read back exactly: name and version (platform stripped) of every four-space
entry of the source sections GIT, GEM, PATH and PLUGIN SOURCE, in file order — and nothing from other sections. -/
theorem C03_gemfile (ℓ : Gemfile.Layout) (secs : List Gemfile.GSec) (hwf : Gemfile.WF secs) (hl : Gemfile.LayoutOK ℓ secs) :
    Gemfile.parse (Gemfile.render ℓ secs) = .ok (Gemfile.installed secs) := by
  have hclean : ∀ l ∈ Gemfile.fileLines ℓ secs, cleanLine l := Gemfile.bodyLines_clean ℓ.lead secs hwf 0
  rw [Gemfile.parse_eq]
  unfold Gemfile.render
  rw [scan_unlines _ _ _ hclean hl]
  simp only [Gemfile.fileLines, Gemfile.gemSections_body ℓ.lead secs hwf 0 none [], Gemfile.flush, List.nil_append,
    Gemfile.pkgsOf_toSec secs hwf, Bool.false_eq_true, if_false]

/-- non-vacuity: a GIT and a GEM section (three gems, one with a platform, dependency lines below them), the
usual trailing sections, and a non-source section whose four-space entry is NOT an installed gem, in last position -/
def Gemfile.exSecs : List Gemfile.GSec :=
  [ ⟨"GIT".toList, [.aux 2 "remote: https://github.com/a/b.git".toList, .aux 2 "revision: 0123abc".toList, .aux 2 "specs:".toList,
      .spec "mygem".toList "0.1.0".toList none, .aux 6 "racc (~> 1.4)".toList, .blank]⟩,
    ⟨"GEM".toList, [.aux 2 "remote: https://rubygems.org/".toList, .aux 2 "specs:".toList,
      .spec "nokogiri".toList "1.13.3".toList (some "x86_64-linux".toList), .aux 6 "racc (~> 1.4)".toList,
      .spec "racc".toList "1.6.0".toList none]⟩,
    ⟨"DEPENDENCIES".toList, [.aux 2 "mygem!".toList, .aux 2 "nokogiri".toList]⟩,
    ⟨"BUNDLED WITH".toList, [.aux 3 "2.3.7".toList]⟩,
    ⟨"CHECKSUMS".toList, [.spec "notinstalled".toList "9.9".toList none]⟩ ]
def Gemfile.exLayout : Gemfile.Layout := { lead := fun i => if i = 0 then 0 else i, eols := ⟨[false, true, true], false⟩ }
private theorem Gemfile.ex_wf : Gemfile.WF Gemfile.exSecs ∧ Gemfile.LayoutOK Gemfile.exLayout Gemfile.exSecs := by
  unfold Gemfile.exSecs; repeat rw [String.toList_ofList]
  decide +kernel
example : Gemfile.WF Gemfile.exSecs ∧ Gemfile.LayoutOK Gemfile.exLayout Gemfile.exSecs := Gemfile.ex_wf
example : Gemfile.parse (Gemfile.render Gemfile.exLayout Gemfile.exSecs)
    = .ok [("mygem".toList, "0.1.0".toList), ("nokogiri".toList, "1.13.3".toList), ("racc".toList, "1.6.0".toList)] :=
  C03_gemfile _ _ Gemfile.ex_wf.1 Gemfile.ex_wf.2

/-! ### dpkg `status` -/

/-- Every well-formed dpkg status database, in every layout — stanzas in any order, the fields of a stanza in
ANY order (a permutation), field names in any letter case, any white space after the colon, unrelated fields with
continuation lines (which may themselves look like `Package:` / `Version:` / `Status:` lines), any number of blank
lines between stanzas and at either end, LF/CRLF per line, the last stanza with or without a final newline — is
read back exactly: (name, version) of the stanzas whose status ends in `installed`, in file order; stanzas the
database marks otherwise (config-files, half-installed, not-installed, …) are the only ones left out, wherever
they stand (first, last, alone). -/
theorem C03_dpkg (ℓ : Dpkg.Layout) (rs : List Dpkg.GRec) (hwf : Dpkg.WF rs) (hl : Dpkg.LayoutOK ℓ rs) :
    Dpkg.parse (Dpkg.render ℓ rs) = .ok (Dpkg.installed rs) := by
  have hclean := Dpkg.fileLines_clean ℓ rs hwf
  rw [Dpkg.parse_eq]
  unfold Dpkg.render
  rw [Dpkg.rlines_unlines _ (fun l h => ⟨(hclean l h).1, (hclean l h).2.1⟩) _ _ (Dpkg.fileLines_endsOK ℓ rs hwf hl)]
  show (match Dpkg.run (Dpkg.fileLines ℓ rs) [] with | some ps => Outcome.ok ps | none => .err) = _
  rw [Dpkg.run_fileLines ℓ rs hwf]

/-- non-vacuity: three stanzas — fields in dpkg's own order with a multi-line Description whose continuation
lines look like fields; a stanza with lower-case keys, `Version` first and a Source field; and, in LAST position and
without a final newline, a package that is NOT installed (`deinstall ok config-files`) and, as usual for such records,
has no `Version` field at all -/
def Dpkg.exRecs : List Dpkg.GRec :=
  [ { name := "libc6".toList, ver := "2.36-9+deb12u4".toList,
      extras := [⟨"Architecture".toList, [' '], "amd64".toList, []⟩,
                 ⟨"Description".toList, [' '], "GNU C Library".toList, [" Package: fake".toList, " .".toList, "\tVersion: 0".toList]⟩],
      fields := [⟨"Package".toList, [' '], "libc6".toList, []⟩, ⟨"Status".toList, [' '], "install ok installed".toList, []⟩,
                 ⟨"Architecture".toList, [' '], "amd64".toList, []⟩, ⟨"Version".toList, [' '], "2.36-9+deb12u4".toList, []⟩,
                 ⟨"Description".toList, [' '], "GNU C Library".toList, [" Package: fake".toList, " .".toList, "\tVersion: 0".toList]⟩] },
    { name := "adduser".toList, ver := "3.134".toList, want := "hold".toList, source := some "adduser-src (3.134)".toList,
      keyP := "package".toList, keyV := "VERSION".toList, sepV := [], sepP := [' ', '\t'],
      fields := [⟨"VERSION".toList, [], "3.134".toList, []⟩, ⟨"Source".toList, [' '], "adduser-src (3.134)".toList, []⟩,
                 ⟨"package".toList, [' ', '\t'], "adduser".toList, []⟩, ⟨"Status".toList, [' '], "hold ok installed".toList, []⟩] },
    { name := "oldpkg".toList, ver := [], want := "deinstall".toList, state := "config-files".toList,
      fields := [⟨"Package".toList, [' '], "oldpkg".toList, []⟩, ⟨"Status".toList, [' '], "deinstall ok config-files".toList, []⟩] } ]
def Dpkg.exLayout : Dpkg.Layout := { lead := 1, gap := fun i => i, tail := 0, eols := ⟨[true, false, true, true], false⟩ }
private theorem Dpkg.ex_wf : Dpkg.WF Dpkg.exRecs ∧ Dpkg.LayoutOK Dpkg.exLayout Dpkg.exRecs := by
  unfold Dpkg.exRecs; repeat rw [String.toList_ofList]
  decide +kernel
example : Dpkg.WF Dpkg.exRecs ∧ Dpkg.LayoutOK Dpkg.exLayout Dpkg.exRecs := Dpkg.ex_wf
example : Dpkg.parse (Dpkg.render Dpkg.exLayout Dpkg.exRecs)
    = .ok [("libc6".toList, "2.36-9+deb12u4".toList), ("adduser".toList, "3.134".toList)] :=
  C03_dpkg _ _ Dpkg.ex_wf.1 Dpkg.ex_wf.2

/-! ### requirements.txt (core) -/

/-- Every well-formed core `requirements.txt` — one requirement per line: a PEP 508 name (dotted, one-character
and `-C`-containing names included, cf. fixes c0539e29 and 0b3783b7), optional extras, one of `==` `===` `>=` `<=`
`~=` with any white space around it or no operator at all, an optional trailing comment, leading white space —
in every layout (requirements in any order; blank, white-space-only, comment and global-option lines anywhere;
LF/CRLF per line; final newline or not) is read back exactly: every name with the version its operator names
(empty for a bare name), in file order. Environment markers, per-requirement options and backslash continuations
are outside this theorem (differential stream only) — hence `_partial`: `WF` is a proper subset of the requirements grammar
(no `!=` / `<` / `>` / version lists / markers / options / continuations / `name @ url`). -/
theorem C03_requirements_partial (ℓ : Requirements.Layout) (rs : List Requirements.GRec) (hwf : Requirements.WF rs)
    (hlw : Requirements.LayoutWF ℓ rs.length) (hl : Requirements.LayoutOK ℓ rs) :
    Requirements.parse (Requirements.render ℓ rs) = .ok (Requirements.installed rs) :=
  Requirements.parse_render ℓ rs hwf hlw hl

/-- non-vacuity: a dotted name with extras and spaces around `==`, a one-character name with `>=` and a trailing
comment, a `-C`-containing name, a bare name; header comment, `-r` line, blank lines; CRLF; no final newline -/
def Requirements.exRecs : List Requirements.GRec :=
  [ { name := "zope.interface".toList, ver := "5.0".toList, extras := some "test, docs".toList, sp1 := [' '], sp2 := [' '] },
    { name := "q".toList, op := .ge, ver := "1!2.0.post1".toList, comment := some (" \t".toList, " via x == 9".toList) },
    { name := "Flask-Cors".toList, op := .eq3, ver := "3.0.10".toList, lead := "  ".toList },
    { name := "requests".toList, op := .bare, ver := [] } ]
def Requirements.exLayout : Requirements.Layout :=
  { before := fun i => if i = 0 then [.comment [] " generated".toList, .option "r base.txt".toList] else [.blank [], .blank "  ".toList],
    after := [.comment "  ".toList "end".toList], eols := ⟨[true, false, true], false⟩ }
private theorem Requirements.ex_wf : Requirements.WF Requirements.exRecs ∧ Requirements.LayoutWF Requirements.exLayout 4 ∧
    Requirements.LayoutOK Requirements.exLayout Requirements.exRecs := by
  unfold Requirements.exRecs Requirements.exLayout; repeat rw [String.toList_ofList]
  decide +kernel
example : Requirements.WF Requirements.exRecs ∧ Requirements.LayoutWF Requirements.exLayout 4 ∧
    Requirements.LayoutOK Requirements.exLayout Requirements.exRecs := Requirements.ex_wf
example : Requirements.parse (Requirements.render Requirements.exLayout Requirements.exRecs)
    = .ok [("zope.interface".toList, "5.0".toList), ("q".toList, "1!2.0.post1".toList),
           ("Flask-Cors".toList, "3.0.10".toList), ("requests".toList, [])] :=
  C03_requirements_partial _ _ Requirements.ex_wf.1 Requirements.ex_wf.2.1 Requirements.ex_wf.2.2

/-! #### requirements files that include each other (`-r`) -/

/-- **C03, requirements.txt with `-r` includes.** For every finite set of well-formed requirements files (`files`, the
file system; core grammar of `C03_requirements_partial` plus `-r <path>` lines, each file with its own layout) and every
well-formed top-level file, `Extract` — the byte-level model `extractAll` over the path → content map — reports the
pins of the top-level file with locations `[top]`, followed, for the files of some list `order`, by the pins of that
file with locations `[top, file]`; `order` has no duplicates and holds exactly the paths other than the top-level one that
are REACHABLE (`Reach`): existing files named by an include line of a reachable file, the operand being resolved
against the directory of the file that contains the line. So every reachable file's pins are reported exactly once —
whatever the depth of the chain, the number of routes to a file, cycles, or same-named files in other directories —
and nothing else is reported. `_partial`: per-file grammar as in `C03_requirements_partial`; include operands are
made of letters, digits, `_`, `.`, `-` and `/`, not starting with '-'; only the `-r` spelling is an include (`--requirement` and `-c` lines are
option lines for the extractor); `resolve` (= `filepath.Join(filepath.Dir(including), operand)`) is the model's path
arithmetic, validated against the Go functions by the stream. -/
theorem C03_requirements_tree_partial (files : List Requirements.FileSpec) (top : Requirements.FileSpec)
    (hwf : ∀ f ∈ top :: files, Requirements.WFfile f) :
    ∃ order : List Line,
      Requirements.extractAll (Requirements.filesOf files) top.path (Requirements.content top)
        = .ok ((Requirements.installed top.rs).map (fun x => (x.1, x.2, [top.path]))
               ++ order.flatMap (Requirements.pinsAt files top.path))
      ∧ order.Nodup ∧ ∀ p, p ∈ order ↔ (p ≠ top.path ∧ Requirements.Reach files top p) :=
  Requirements.extractAll_render files top hwf

/-- the same with a CHECKED enumeration of the reachable files (what the driver of the stream evaluates): if `ps` passes
`isReachCert`, the scan reports a permutation of `expectedTree files top ps` — the top-level pins and, once per reachable
file, that file's pins with their two locations -/
theorem C03_requirements_tree_cert_partial (files : List Requirements.FileSpec) (top : Requirements.FileSpec)
    (hwf : ∀ f ∈ top :: files, Requirements.WFfile f) (ps : List Line) (hc : Requirements.isReachCert files top ps = true) :
    ∃ out, Requirements.extractAll (Requirements.filesOf files) top.path (Requirements.content top) = .ok out
      ∧ out.Perm (Requirements.expectedTree files top ps) := by
  obtain ⟨order, hout, hnd, hmem⟩ := C03_requirements_tree_partial files top hwf
  obtain ⟨hnd', hmem'⟩ := Requirements.reachCert_iff files top ps hc
  have hperm : order.Perm ps := (List.perm_ext_iff_of_nodup hnd hnd').mpr (fun p => by rw [hmem p, hmem' p])
  exact ⟨_, hout, List.Perm.append_left _ (List.Perm.flatMap_right _ hperm)⟩

/-- fuel adequacy of the include work list on ARBITRARY file contents (no well-formedness): the Go loop has no
bound; above `walkFuel` the result of the model does not depend on the fuel -/
theorem C03_requirements_walk_fuel_adequate (fs : Requirements.Files) (q : List Line) (top : Line) (k : Nat) :
    Requirements.walk (Requirements.visit fs) (Requirements.walkFuel fs q + k) q [top]
      = Requirements.walk (Requirements.visit fs) (Requirements.walkFuel fs q) q [top] :=
  Requirements.walk_fuel_adequate fs q top k

/-- non-vacuity: `requirements.txt` includes `reqs/base.txt` (and a file that does not exist); `reqs/base.txt` includes
`pinned.txt` — its neighbour `reqs/pinned.txt`, NOT the same-named decoy next to the top-level file — and
`../common/shared.txt`, which includes `../requirements.txt` (a cycle back to the top) and `../reqs/base.txt` (a second route) -/
def Requirements.exTop : Requirements.FileSpec :=
  { path := "requirements.txt".toList, rs := [{ name := "top".toList, ver := "1".toList }],
    ℓ := { before := fun _ => [.incl [' '] "reqs/base.txt".toList, .incl [] "missing.txt".toList, .option "-requirement pinned.txt".toList] } }
def Requirements.exFiles : List Requirements.FileSpec :=
  [ { path := "reqs/base.txt".toList, rs := [{ name := "base".toList, ver := "2".toList }],
      ℓ := { after := [.incl [' '] "pinned.txt".toList, .incl ['\t'] "../common/shared.txt".toList] } },
    { path := "reqs/pinned.txt".toList, rs := [{ name := "leaf".toList, ver := "3.0".toList }], ℓ := {} },
    { path := "pinned.txt".toList, rs := [{ name := "decoy".toList, ver := "0".toList }], ℓ := {} },
    { path := "common/shared.txt".toList, rs := [{ name := "shared".toList, op := .ge, ver := "4".toList }],
      ℓ := { before := fun _ => [.incl [' '] "../requirements.txt".toList, .incl [' '] "../reqs/base.txt".toList] } },
    { path := "requirements.txt".toList, rs := [{ name := "top".toList, ver := "1".toList }], ℓ := {} } ]
example : ∀ f ∈ Requirements.exTop :: Requirements.exFiles, Requirements.WFfile f := by
  unfold Requirements.exTop Requirements.exFiles; repeat rw [String.toList_ofList]
  decide +kernel
example : Requirements.extractAll (Requirements.filesOf Requirements.exFiles) Requirements.exTop.path (Requirements.content Requirements.exTop)
    = .ok [("top".toList, "1".toList, ["requirements.txt".toList]),
           ("base".toList, "2".toList, ["requirements.txt".toList, "reqs/base.txt".toList]),
           ("leaf".toList, "3.0".toList, ["requirements.txt".toList, "reqs/pinned.txt".toList]),
           ("shared".toList, "4".toList, ["requirements.txt".toList, "common/shared.txt".toList])] := by
  unfold Requirements.exTop Requirements.exFiles; repeat rw [String.toList_ofList]
  decide +kernel

end Scalibr.Parsers

/-! ## (b) formats decoded by a library: the record loop over the decoded document equals a comprehension

LEVEL of these theorems: they start at the DECODED document (the Go struct the extractor ranges over). None of them covers a
layout clause of the property (record order in the file, CRLF, trailing newline, blank lines, comments, unrelated fields):
the decoder (encoding/json, BurntSushi/toml, x/mod/modfile) is trusted and not a Lean parameter; those clauses are checked
for these seven formats only by the generator/oracle stream. What IS proved is the part of "none dropped, duplicated, merged
or invented" that the extractor's own loop is responsible for: de-duplication keys, last/first-write-wins, flattening,
alias / file: / git handling, replace directives. What an entry denotes (`depEntry`, `pkgEntry`, `GoMod.step`) is taken from
the model — i.e. these are refinement statements "loop = fold of per-entry function", not an independent grammar of aliases
or of go.mod replace semantics (the go command's rule is stated separately, `GoMod.goFinal` / `expectedGo`, and is what the oracle uses;
the extractor's loop — wildcard directives matched against the module as required, then the version-specific ones; the model mirrors the code after fix 22707b48 — follows it);
the theorems that rest on such a per-entry function carry `_model_semantics` in their names (`C03_packagelock*`, `C03_gomod*`).
`C03_pipfile` (`Pipfile.pinned`) and `C03_pkgslock` (`PackagesLock.listed`: distinct (id, resolved version) PAIRS over all target
frameworks) have spec-side definitions of their own.

LAYOUT CLAUSES, said plainly: for package-lock.json, composer.lock, Cargo.lock, poetry.lock, Pipfile.lock, packages.lock.json and
go.mod NOTHING in Lean speaks about key order, white space, indentation, CRLF, a final newline, comments or unrelated fields. Those
clauses rest on the decoder (encoding/json, BurntSushi/toml, golang.org/x/mod/modfile) — trusted, not modelled — and are
exercised by the generator/oracle stream only (c03gen writes every such layout; the document the extractor's own decoder makes of it is
what the Lean side sees). For four of the formats the stream's expected list is computed by the Lean Spec from that document
(`PackageLock.expected`, `Pipfile.expected`, `PackagesLock.expected`, `GoMod.expected`; theorems `C03_*_expected*`: the scan
reports a permutation of it); for composer / Cargo / poetry the loop is append / map and the expected list is the generator's. -/
namespace Scalibr.Lockfiles
open Scalibr.Parsers

/-! ### package-lock.json (v1: nested `dependencies`; v2/v3: `packages`) -/

/-- `Extract` on any decoded package-lock never panics and returns the values of a map with pairwise distinct
de-duplication keys in which a (key, details) pair is present exactly when it is the LAST write to its key
among the entries the document lists (flattened tree / packages map, aliases, file: and git versions resolved
by `depEntry` / `pkgEntry`). Nothing is invented, nothing with a fresh key is dropped. -/
theorem C03_packagelock_model_semantics (d : PackageLock.Doc) :
    ∃ m : PackageLock.PMap, PackageLock.extract d = .ok (m.map (·.2)) ∧ (keys m).Nodup ∧
      ∀ k x, (k, x) ∈ m ↔ lastOf (PackageLock.writes d) k = some x := by
  unfold PackageLock.extract PackageLock.writes
  cases hp : d.packages with
  | some ps =>
    refine ⟨PackageLock.parsePackages ps, rfl, ?_⟩
    rw [PackageLock.parsePackages_eq]
    exact insertAll_spec _
  | none =>
    obtain ⟨m, hm, hn, hl⟩ := PackageLock.parseDeps_spec d.dependencies [] (by simp [keys])
    refine ⟨m, by simp [hm], hn, fun k x => ?_⟩
    rw [mem_iff_lookup m hn, hl k, lookup_nil]
    cases lastOf (PackageLock.flatDeps d.dependencies) k <;> simp

/-- the executable form the driver evaluates: the scan reports the values of a permutation of `PackageLock.expected d` -/
theorem C03_packagelock_expected_model_semantics (d : PackageLock.Doc) :
    ∃ m : PackageLock.PMap, PackageLock.extract d = .ok (m.map (·.2)) ∧ m.Perm (PackageLock.expected d) := by
  obtain ⟨m, h1, h2, h3⟩ := C03_packagelock_model_semantics d
  exact ⟨m, h1, perm_tabulate m _ _ h2 h3 fun k x h => List.mem_map.mpr ⟨(k, x), lastOf_mem _ k x h, rfl⟩⟩

/-- When entries that share a de-duplication key agree (the same package listed at several places of the tree),
the reported set is exactly the set of listed entries. -/
theorem C03_packagelock_exact_model_semantics (d : PackageLock.Doc)
    (hc : ∀ e ∈ PackageLock.writes d, ∀ e' ∈ PackageLock.writes d, e.1 = e'.1 → e.2 = e'.2) :
    ∃ m : PackageLock.PMap, PackageLock.extract d = .ok (m.map (·.2)) ∧ (keys m).Nodup ∧
      ∀ e, e ∈ m ↔ e ∈ PackageLock.writes d := by
  obtain ⟨m, h1, h2, h3⟩ := C03_packagelock_model_semantics d
  refine ⟨m, h1, h2, fun e => ?_⟩
  obtain ⟨k, x⟩ := e
  rw [h3]
  exact ⟨lastOf_mem _ k x, fun h => lastOf_of_mem _ k x h (fun e' he' hk => hc e' he' (k, x) h hk)⟩

/-- non-vacuity + the alias fix 7578723d: a v1 tree with a nested duplicate, an alias with and without version,
a file: dependency and a git dependency -/
def PackageLock.exDoc : PackageLock.Doc :=
  ⟨none, [ .mk "a".toList "1.0.0".toList [] [ .mk "b".toList "2.0.0".toList [] [] ],
           .mk "b".toList "2.0.0".toList [] [],
           .mk "al".toList "npm:real@3.0.0".toList [] [],
           .mk "al2".toList "npm:foo".toList [] [],
           .mk "loc".toList "file:../x".toList [] [],
           .mk "g".toList "git+https://github.com/a/g.git#abc".toList "abc".toList [] ]⟩
example : PackageLock.extract PackageLock.exDoc = .ok
    [⟨"b".toList, "2.0.0".toList, []⟩, ⟨"a".toList, "1.0.0".toList, []⟩, ⟨"real".toList, "3.0.0".toList, []⟩,
     ⟨"foo".toList, [], []⟩, ⟨"loc".toList, [], []⟩, ⟨"g".toList, [], "abc".toList⟩] := by
  unfold PackageLock.exDoc; repeat rw [String.toList_ofList]
  decide +kernel
example : ∀ e ∈ PackageLock.writes PackageLock.exDoc, ∀ e' ∈ PackageLock.writes PackageLock.exDoc, e.1 = e'.1 → e.2 = e'.2 := by
  unfold PackageLock.exDoc; repeat rw [String.toList_ofList]
  decide +kernel

/-! ### composer.lock, Cargo.lock, poetry.lock: DEFINITIONAL

For these three formats the extractor's record loop is `append` / `map` over the decoded arrays, and so is the model: the
three statements below are restatements of the model definitions (`rfl` / one `simp`), kept only so that the driver's use of
`Composer.extract` / `Cargo.extract` / `Poetry.extract` has a named reference. They carry NO property content of their own:
for these formats the whole of C03 sits in the trusted JSON / TOML decoder and is checked only by the generator/oracle
stream (all layouts, through the real Extract). They are not counted as proof obligations of C03 (checks/c03.py lists them
under `definitional`). -/

theorem C03_composer (d : Composer.Doc) :
    Composer.extract d = d.packages ++ d.packagesDev ∧
    ∀ p, (Composer.extract d).count p = d.packages.count p + d.packagesDev.count p := by
  refine ⟨rfl, fun p => ?_⟩
  simp [Composer.extract, List.count_append]

theorem C03_cargo (pkgs : List NV) : Cargo.extract pkgs = pkgs :=
  List.map_id'' (fun _ => rfl) pkgs

theorem C03_poetry (pkgs : List NV) : Poetry.extract pkgs = pkgs :=
  List.map_id'' (fun _ => rfl) pkgs

/-! ### Pipfile.lock -/

/-- `Extract` never panics; the reported packages are pairwise distinct; each comes from a pinned (`==version`)
entry of `default` or `develop` (nothing invented), and for every pinned entry the package stored under its
`name@version` key is reported (nothing dropped; the first entry of a key stays). -/
theorem C03_pipfile (d : Pipfile.Doc) :
    ∃ m : List (Str × NV), Pipfile.extract d = .ok (m.map (·.2)) ∧ (keys m).Nodup ∧ (m.map (·.2)).Nodup ∧
      ∀ k nv, (k, nv) ∈ m ↔ lookup ((d.default ++ d.develop).filterMap Pipfile.pinnedKV) k = some nv := by
  obtain ⟨hn, hl⟩ := insertFirst_spec ((d.default ++ d.develop).filterMap Pipfile.pinnedKV) ([] : List (Str × NV)) (by simp [keys])
  refine ⟨_, Pipfile.extract_eq d, hn, values_nodup _ Pipfile.keyNV (fun e he => ?_) hn,
    fun k nv => by rw [mem_iff_lookup _ hn, hl, lookup_nil]⟩
  obtain ⟨k, nv⟩ := e
  have hm := (mem_iff_lookup _ hn k nv).mp he
  rw [hl, lookup_nil] at hm
  have hm := mem_of_lookup _ _ _ hm
  simp only [List.mem_filterMap, Pipfile.pinnedKV, Option.map_eq_some_iff] at hm
  obtain ⟨_, _, nv', _, h⟩ := hm
  cases h; rfl

/-- the executable form the driver evaluates: the scan reports the values of a permutation of `Pipfile.expected d` -/
theorem C03_pipfile_expected (d : Pipfile.Doc) :
    ∃ m : List (Str × NV), Pipfile.extract d = .ok (m.map (·.2)) ∧ m.Perm (Pipfile.expected d) := by
  obtain ⟨m, h1, h2, _, h4⟩ := C03_pipfile d
  exact ⟨m, h1, perm_tabulate m _ _ h2 h4 fun k x h => List.mem_map.mpr ⟨(k, x), mem_of_lookup _ k x h, rfl⟩⟩

/-! ### packages.lock.json (after fix 455d5282) -/

/-- every (id, resolved version) pair listed under any target framework is reported, exactly once: membership is over
PAIRS — one id resolved to different versions under two target frameworks is two packages (`listed`, `expected`: Spec) -/
theorem C03_pkgslock (d : PackagesLock.Doc) :
    (PackagesLock.extract d).Nodup ∧ ∀ p, p ∈ PackagesLock.extract d ↔ p ∈ PackagesLock.listed d := by
  obtain ⟨h1, h2⟩ := foldl_addOnce (PackagesLock.entries d) [] List.nodup_nil
  exact ⟨h1, fun p => by rw [PackagesLock.extract, h2, PackagesLock.entries_eq_listed]; simp⟩

/-- the executable form the driver evaluates: the scan reports a permutation of the distinct listed pairs -/
theorem C03_pkgslock_expected (d : PackagesLock.Doc) : (PackagesLock.extract d).Perm (PackagesLock.expected d) :=
  perm_dedup_of_nodup _ _ (C03_pkgslock d).1 (C03_pkgslock d).2

/-- the same id at two versions under two frameworks is two packages; at the same version, one -/
example : PackagesLock.extract [("net6.0".toList, [("A".toList, "1.0".toList, "Direct".toList)]), ("net8.0".toList, [("A".toList, "2.0".toList, "Direct".toList), ("B".toList, "3".toList, "Transitive".toList)]),
    ("net48".toList, [("B".toList, "3".toList, "CentralTransitive".toList)])]
    = [⟨"A".toList, "1.0".toList⟩, ⟨"A".toList, "2.0".toList⟩, ⟨"B".toList, "3".toList⟩] := by
  repeat rw [String.toList_ofList]
  decide +kernel

/-- a project reference (`"type": "Project"`, no `resolved`) is not reported: the model mirrors the code after fix 455d5282
(finding class C03/pkgslock-project-reference) -/
theorem C03_pkgslock_project_skipped :
    PackagesLock.extract [("net6.0".toList, [("mylib".toList, [], "Project".toList), ("A".toList, "1.0".toList, "Direct".toList)])]
      = [⟨"A".toList, "1.0".toList⟩] := by
  repeat rw [String.toList_ofList]
  decide +kernel

/-! ### go.mod -/

/-- The reported packages are pairwise distinct and are exactly: what every `require` line ends up as after
the `replace` directives (`finalOf`), plus `stdlib` at the toolchain / go version when there is one. A require
line whose own key is the stdlib key would be overwritten by the stdlib entry (it cannot come out of
`modfile.Parse`, which rejects an empty version; the clause is kept so that the statement is unconditional). -/
theorem C03_gomod_model_semantics (d : GoMod.Doc) :
    (GoMod.extract d).Nodup ∧
    ∀ nv, nv ∈ GoMod.extract d ↔
      ((GoMod.stdlibVersion d ≠ [] ∧ nv = ⟨"stdlib".toList, GoMod.stdlibVersion d⟩) ∨
       ∃ r ∈ d.requires, (GoMod.stdlibVersion d = [] ∨ GoMod.keyOf r ≠ GoMod.stdlibKey) ∧ nv = GoMod.finalOf d r) := by
  obtain ⟨h1, h2⟩ := GoMod.extract_spec d
  refine ⟨h1, fun nv => ?_⟩
  rw [h2 nv]
  simp only [GoMod.mem_kmap]
  constructor
  · rintro ⟨kv, (⟨hs, rfl⟩ | ⟨r, hr, hc, rfl⟩), rfl⟩
    · exact Or.inl ⟨hs, rfl⟩
    · exact Or.inr ⟨r, hr, hc, rfl⟩
  · rintro (⟨hs, rfl⟩ | ⟨r, hr, hc, rfl⟩)
    · exact ⟨_, Or.inl ⟨hs, rfl⟩, rfl⟩
    · exact ⟨_, Or.inr ⟨r, hr, hc, rfl⟩, rfl⟩

/-- non-vacuity: two requires, one replaced with its version, one directive for a version that is not required,
one unversioned directive, a toolchain line -/
def GoMod.exDoc : GoMod.Doc :=
  { requires := [("github.com/a/b".toList, "v1.2.3".toList), ("golang.org/x/net".toList, "v0.36.0".toList), ("example.com/c".toList, "v2.0.0+incompatible".toList)],
    replaces := [⟨"github.com/a/b".toList, "v1.2.3".toList, "example.org/fork/b".toList, "v1.2.4".toList⟩,
                 ⟨"golang.org/x/net".toList, "v0.1.0".toList, "example.org/fork/net".toList, "v9.9.9".toList⟩,
                 ⟨"example.com/c".toList, [], "example.org/fork/c".toList, "v2.0.1".toList⟩],
    goVersion := "1.22".toList, toolchain := "go1.23.4-custom".toList }
example : GoMod.extract GoMod.exDoc =
    [⟨"example.org/fork/b".toList, "1.2.4".toList⟩, ⟨"golang.org/x/net".toList, "0.36.0".toList⟩,
     ⟨"example.org/fork/c".toList, "2.0.1".toList⟩, ⟨"stdlib".toList, "1.23.4".toList⟩] := by
  unfold GoMod.exDoc; repeat rw [String.toList_ofList]
  decide +kernel

/-- the executable form the driver evaluates: the scan reports a permutation of `GoMod.expected d` -/
theorem C03_gomod_expected_model_semantics (d : GoMod.Doc) : (GoMod.extract d).Perm (GoMod.expected d) := by
  obtain ⟨h1, h2⟩ := C03_gomod_model_semantics d
  refine perm_dedup_of_nodup _ _ h1 fun nv => ?_
  rw [h2 nv]
  simp only [List.mem_append, List.mem_map, List.mem_filter, decide_eq_true_eq]
  constructor
  · rintro (⟨hs, rfl⟩ | ⟨r, hr, hc, rfl⟩)
    · left; simp [hs]
    · right; exact ⟨r, ⟨hr, hc⟩, rfl⟩
  · rintro (h | ⟨r, ⟨hr, hc⟩, rfl⟩)
    · left
      by_cases hs : GoMod.stdlibVersion d ≠ []
      · simp only [hs, ne_eq, not_false_eq_true, if_true, List.mem_singleton] at h
        exact ⟨hs, h⟩
      · simp [hs] at h
    · right; exact ⟨r, hr, hc, rfl⟩

/-- go.mod of a module older than go 1.17 with a readable go.sum next to it: the scan reports, once each, the packages of go.mod and
every module go.sum lists (`sumEntry`: version without the leading "v", `/go.mod` hash lines skipped) — a permutation of `expectedSum`.
Without go.sum, with a go.sum line that does not have three fields, or from go 1.17 on: the go.mod result alone. -/
theorem C03_gomod_sum_model_semantics (d : GoMod.Doc) (older : Bool) (sum : GoMod.Sum) :
    (GoMod.extractWithSum d older sum).Perm (GoMod.expectedSum d older sum) := by
  unfold GoMod.extractWithSum GoMod.expectedSum
  cases older with
  | false => exact C03_gomod_expected_model_semantics d
  | true =>
    cases sum with
    | none => exact C03_gomod_expected_model_semantics d
    | some es =>
      obtain ⟨h1, h2⟩ := foldl_addSum (es.filterMap GoMod.sumEntry) (GoMod.extract d) (C03_gomod_model_semantics d).1
      refine perm_dedup_of_nodup _ _ h1 fun p => ?_
      rw [h2 p, List.mem_append]
      have hp := (C03_gomod_expected_model_semantics d).mem_iff (a := p)
      rw [hp]

end Scalibr.Lockfiles
