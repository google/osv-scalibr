/-
C02 — engine-level part: what the walk-engine model says about an extractor that fails or panics (the parsers'
totality is `Properties/C02.lean`).  The statements follow from the walk-engine results `run_nopanic`, `run_spec`,
`run_results` and `C09_status_meaning`.
-/
import Scalibr.Properties.C09
namespace Scalibr.Walk

/-- The engine has no `recover`: a scan ends in a panic ONLY IF some extractor's `Extract` panics on some
path — whatever the trees, fault plans, limits, options and cancellation point. (Contrapositive of
`C09_no_panic`.) -/
theorem C02_panic_only_from_extractor (c : Cfg) (roots : List (Node × Faults)) (h : (run c roots).err = .panic) :
    ∃ e p, (c.extract e p).panics = true := by
  apply Classical.byContradiction
  intro hn
  have hx : NoExtractorPanic c := by
    intro e p
    cases hp : (c.extract e p).panics with
    | false => rfl
    | true => exact absurd ⟨e, p, hp⟩ hn
  exact run_nopanic c hx roots h

/-- **Confinement.** In a scan without limits / cancellation / fatal-errors option and with extractors that do
not panic, whatever `Extract` returns for extractor `e0` on file `p0` (an error, a partial inventory, nothing):
the scan itself does not fail; the invocations made are exactly the ones the specification owes (`mustExtract`,
which never looks at an `Extract` result); the packages NOT produced by (`e0`, `p0`) are exactly what the other
invocations returned; and an extractor's status is `failed`/`partial` exactly when one of ITS OWN attempts
failed. -/
theorem C02_confined_benign (c : Cfg) (hb : Benign c) (roots : List (Node × Faults)) (ho : GiOK c) (e0 : Nat) (p0 : Path) :
    (run c roots).err = .none ∧
    (run c roots).calls = mustExtract c roots ∧
    (run c roots).pkgs.filter (fun k => !(k.ext = e0 && k.loc = p0))
      = pkgsOfCalls c ((mustExtract c roots).filter fun cl => !(cl.ext = e0 && cl.path = p0)) ∧
    (run c roots).statuses = roots.flatMap (fun (r, f) => (List.range c.nExt).map fun e => (e, statusSpec c f r e)) ∧
    ∀ (f : Faults) (root : Node) (e : Nat), statusSpec c f root e ≠ .ok ↔
      ∃ cl ∈ mustRoot c f root, cl.ext = e ∧ (cl.opened = false ∨ (c.extract cl.ext cl.path).err = true) := by
  obtain ⟨h1, h2⟩ := run_spec c hb roots ho
  obtain ⟨h3, h4⟩ := run_results c hb roots ho
  refine ⟨h1, h2, ?_, h4, fun f root e => (C09_status_meaning c f root e).1⟩
  rw [h3, pkgsOfCalls_filter]

/-- **Confinement, two-scan form (C02, second sentence, at full strength on the engine model).**
Take any scan without limits / cancellation / fatal-errors option, and change NOTHING but the outcome of `Extract`
for one extractor `e0` on one file `p0` — to an error, a partial inventory, an empty result, anything but a panic.
Then the second scan also completes; it makes exactly the same extraction attempts; every package that does not come
from (`e0`, `p0`) is reported identically, in the same order; and the status of every OTHER extractor, in every root,
is the same. -/
theorem C02_confined_two_benign (c : Cfg) (hb : Benign c) (roots : List (Node × Faults)) (hg : GiOK c)
    (e0 : Nat) (p0 : Path) (out : ExtractOut) (ho : out.panics = false) :
    let c' := withOutcome c e0 p0 out
    (run c' roots).err = .none ∧ (run c roots).err = .none ∧
    (run c' roots).calls = (run c roots).calls ∧
    (run c' roots).pkgs.filter (fun k => !(k.ext = e0 && k.loc = p0))
      = (run c roots).pkgs.filter (fun k => !(k.ext = e0 && k.loc = p0)) ∧
    (run c' roots).statuses.filter (fun x => x.1 != e0) = (run c roots).statuses.filter (fun x => x.1 != e0) := by
  intro c'
  have hb' : Benign c' := withOutcome_benign hb e0 p0 out ho
  have hg' : GiOK c' := hg
  obtain ⟨a1, a2⟩ := run_spec c hb roots hg
  obtain ⟨b1, b2⟩ := run_spec c' hb' roots hg'
  obtain ⟨a3, a4⟩ := run_results c hb roots hg
  obtain ⟨b3, b4⟩ := run_results c' hb' roots hg'
  refine ⟨b1, a1, ?_, ?_, ?_⟩
  · rw [a2, b2]; rfl
  · rw [a3, b3, pkgsOfCalls_filter, pkgsOfCalls_filter, mustExtract_withOutcome]
    apply pkgsOfCalls_congr
    intro cl hcl
    apply withOutcome_other
    have := (List.mem_filter.mp hcl).2
    intro hh
    simp [hh.1, hh.2] at this
  · rw [a4, b4]
    have hn : c'.nExt = c.nExt := rfl
    rw [hn]
    simp only [List.filter_flatMap]
    congr 1
    funext rf
    obtain ⟨r, f⟩ := rf
    rw [filter_status_map, filter_status_map]
    apply List.map_congr_left
    intro e he
    have hne : e ≠ e0 := by
      have := (List.mem_filter.mp he).2
      simpa using this
    have hcong : ∀ cl ∈ mustRoot c f r, cl.ext = e → c'.extract cl.ext cl.path = c.extract cl.ext cl.path := by
      intro cl _ hce
      apply withOutcome_other
      intro hh; exact hne (hce ▸ hh.1)
    have hm : mustRoot c' f r = mustRoot c f r := rfl
    have h := flags_congr c c' e (mustRoot c f r) hcong
    simp only [statusSpec, hm, h.1, h.2]


/-- non-vacuity: the example configuration of C01 is benign with a lawful matcher, and replacing the outcome of
extractor 0 on `a/x` by an error is a legal instance -/
example : Benign (withOutcome { nExt := 2, required := fun _ _ => true, extract := fun _ _ => {}, giMatch := matcherMatch } 0 ["a", "x"] { err := true }) :=
  withOutcome_benign ⟨rfl, rfl, rfl, rfl, fun _ _ => rfl⟩ _ _ _ rfl

end Scalibr.Walk
