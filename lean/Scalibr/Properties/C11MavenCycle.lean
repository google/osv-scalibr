/-
C11: `no_rank_of_cycle` (three versions ordered in a cycle have no rank function; restated as `C11_no_rank_of_cycle`)
applied to the Maven cycle that C07 proves for the repository's own
`semantic` Maven comparator (`1 < 1.foo < 1rc` but `1 > 1rc`, known finding C07/maven-qualifier-cycle): that
comparator has NO rank function on these three strings, so none of the rank models could describe it.
Guided remediation does not use that comparator but deps.dev's `semver.Maven`, which orders the same triple
consistently (`1rc < 1 < 1.foo`; probed in the harness), and `c11gen` verifies for every generated universe that the
ranks it hands to the model agree with the real comparator on ALL pairs.
-/
import Scalibr.Proofs.VersionOrder
import Scalibr.Spec.Semantic
namespace Scalibr.Upgrade
open Scalibr.Semantic

/-- the repository's Maven comparison as an `Ordering` (errors and crashes count as "equal": they do not occur here) -/
def semanticMavenCmp (a b : List Char) : Ordering :=
  match compareStr .maven a b with
  | .lt => .lt
  | .gt => .gt
  | _ => .eq

theorem C11_semantic_maven_has_no_rank :
    ¬ ∃ rank, RankFor semanticMavenCmp [['1'], ['1', '.', 'f', 'o', 'o'], ['1', 'r', 'c']] rank :=
  no_rank_of_cycle semanticMavenCmp _ _ _ (by decide +kernel) (by decide +kernel) (by decide +kernel)

end Scalibr.Upgrade
