/-
C08, clause "packages, FINDINGS and STATUSES are emitted in the documented sorted order" — the part of
`sortResults` that orders `Inventory.Findings` (`cmpFindings`: advisory reference, then Extra) and
`PluginStatus` (`cmpStatus`: plugin name), on the model of the tail of `Scan` (`Scalibr.Detector.scanTail`).
Keys are byte strings compared field by field with Go's bytewise `<` (`Scalibr.ltBytes`). For every
scan input (any extractor findings, any detectors — arbitrary functions of the index —, any statuses):
the emitted lists are sorted w.r.t. that order and are permutations of what was collected, and the
emitted KEY SEQUENCE and the emitted MULTISET are the same whatever order the detectors were listed in.
(The order of packages is `Properties/C08.lean`.)

What carries content here: the model's tail of `Scan` is DEFINED as `isort cmp xs`
(`slices.SortFunc` by contract), so "the output is sorted and a permutation" is the library lemma
`isort_sorted`/`isort_perm` for that definition. The property-relevant facts are (a) the comparator is the
documented one — field by field over byte strings, a strict total order on keys (`C08_cmp_findings`,
`C08_cmp_findings_fields`, `C08_cmp_status`), which is what makes the sorted key sequence unique — and (b)
the correspondence stream, which reads the real `Scan`'s findings/statuses in emitted order and compares
their key sequence with the documented order and their multiset with the collected one. Findings that
TIE on (reference, extra) — the same advisory on several targets — have no documented relative order:
`slices.SortFunc` is unstable, the model's `isort` is stable, so neither the theorems nor the oracle say
anything about the positions of tied findings (`C08_tied_findings_swap`).
-/
import Scalibr.Proofs.FindingsOrder
import Scalibr.Proofs.Detector
namespace Scalibr.Detector
open Scalibr.Index

/-- The findings comparator on keys `(reference, extra)` is a strict total order: `slices.SortFunc`'s
precondition, and the reason the emitted key sequence is unique. -/
theorem C08_cmp_findings : StrictTotal keyLt := keyLt_strictTotal

/-- … and it is FIELD BY FIELD: the reference decides; only for equal references does Extra decide. -/
theorem C08_cmp_findings_fields (r₁ e₁ r₂ e₂ : List Nat) :
    keyLt (r₁, e₁) (r₂, e₂) = (ltBytes r₁ r₂ || (decide (r₁ = r₂) && ltBytes e₁ e₂)) := by
  rw [Bool.eq_iff_iff, keyLt, prodLt_iff ltBytes_strictTotal]
  simp

/-- The plugin-status comparator `statusLt` is, by definition, the bytewise order `ltBytes` of the plugin names;
that order is a strict total order on names. -/
theorem C08_cmp_status : StrictTotal ltBytes := ltBytes_strictTotal

/-- what `Scan` holds before `sortResults`: the extractors' findings, then what `detector.Run` returned — or nothing
when their joint validation failed (`scanFindings`) -/
def collectedFindings (i : ScanIn) : List Finding := (scanFindings i).1

def collectedStatus (i : ScanIn) : List Status :=
  i.fsStatus ++ i.stStatus ++ (run i.dets (Index.new (i.fsPkgs ++ i.stPkgs))).status

/-- The emitted findings are sorted by (reference, then Extra) and are a permutation of the collected
ones. Definitional for the model (`isort`), see the header. Every finding that reaches `sortResults` has a key
(`C08_findings_keyed`), so `optKeyLt`'s totalisation of keyless findings never matters and the order is the real
`cmpFindings` order (`C20_no_sort_panic`: the Go comparator cannot dereference nil). -/
theorem C08_findings_sorted (i : ScanIn) :
    (scanTail i).findings.Pairwise (fun a b => optKeyLt (sortKey b) (sortKey a) = false) ∧
    (scanTail i).findings.Perm (collectedFindings i) := by
  unfold scanTail collectedFindings
  exact ⟨isort_sorted_of_key optKeyLt_strictTotal sortKey _, isort_perm _ _⟩

/-- Every emitted finding has a sort key: what `Scan` sorts passed `ValidateAdvisories` (fix 89f87523). -/
theorem C08_findings_keyed (i : ScanIn) : ∀ f ∈ (scanTail i).findings, (sortKey f).isSome = true := by
  intro f hf
  exact consistent_keyed _ (scanFindings_consistent i) f ((C08_findings_sorted i).2.mem_iff.1 hf)

/-- In words of the keys: if `a` is emitted before `b` and both have keys, then NOT key(b) < key(a). -/
theorem C08_findings_sorted_keys (i : ScanIn) (a b : Finding) (ka kb : List Nat × List Nat)
    (hab : [a, b].Sublist (scanTail i).findings) (ha : sortKey a = some ka) (hb : sortKey b = some kb) :
    keyLt kb ka = false := by
  have h := ((C08_findings_sorted i).1.sublist hab)
  simp only [List.pairwise_cons, List.mem_singleton, forall_eq] at h
  have := h.1
  simpa [ha, hb, optKeyLt] using this

/-- The emitted KEY SEQUENCE is the sorted sequence of the collected keys — hence the same for any two
scans that collect the same findings in different orders (detectors listed differently, findings
returned in another order). This is "emitted order = documented order", uniquely. -/
theorem C08_findings_key_sequence (i : ScanIn) :
    (scanTail i).findings.map sortKey = isort optKeyLt ((collectedFindings i).map sortKey) := by
  unfold scanTail collectedFindings
  exact isort_map_key optKeyLt sortKey _

/-- ORDER INDEPENDENCE, as far as it goes: two scans that collect the same findings in different orders
(detectors listed differently, findings returned in another order) emit the same MULTISET of findings and
the same KEY SEQUENCE. Nothing more: see `C08_tied_findings_swap`. -/
theorem C08_findings_order_independent (i j : ScanIn) (h : (collectedFindings i).Perm (collectedFindings j)) :
    (scanTail i).findings.Perm (scanTail j).findings ∧
    (scanTail i).findings.map sortKey = (scanTail j).findings.map sortKey := by
  refine ⟨((C08_findings_sorted i).2.trans h).trans (C08_findings_sorted j).2.symm, ?_⟩
  rw [C08_findings_key_sequence, C08_findings_key_sequence]
  exact optKeyLt_strictTotal.isort_perm_eq _ _ (h.map sortKey)

/-- Findings that TIE on (reference, extra) are NOT emitted in an order-independent way: two detectors
reporting the same advisory for targets 100 and 200 come out in detector order (the model's `isort` is
stable; Go's `slices.SortFunc` promises nothing for ties). Key sequences agree, positions do not. -/
def tieA : Detector := ⟨"dA", fun _ => ([some ⟨1, some ⟨some (0, [67]), 0⟩, 100, [], []⟩], false), false⟩
def tieB : Detector := ⟨"dB", fun _ => ([some ⟨2, some ⟨some (0, [67]), 0⟩, 200, [], []⟩], false), false⟩
theorem C08_tied_findings_swap :
    (scanTail ⟨[], [], [], [], [], [], [tieA, tieB]⟩).findings.map (·.target) = [100, 200] ∧
    (scanTail ⟨[], [], [], [], [], [], [tieB, tieA]⟩).findings.map (·.target) = [200, 100] ∧
    (scanTail ⟨[], [], [], [], [], [], [tieA, tieB]⟩).findings.map sortKey =
      (scanTail ⟨[], [], [], [], [], [], [tieB, tieA]⟩).findings.map sortKey := by
  refine ⟨by decide, by decide, by decide⟩

/-- The emitted plugin statuses are sorted by name (bytewise) and are a permutation of the collected ones
(definitional for the model, see the header; several roots give several entries with one name: ties). -/
theorem C08_status_sorted (i : ScanIn) :
    (scanTail i).pluginStatus.Pairwise (fun a b => ltBytes (nameBytes b.name) (nameBytes a.name) = false) ∧
    (scanTail i).pluginStatus.Perm (collectedStatus i) := by
  unfold scanTail collectedStatus
  exact ⟨isort_sorted_of_key ltBytes_strictTotal (fun (s : Status) => nameBytes s.name) _, isort_perm _ _⟩

/-- … and the emitted NAME sequence is the sorted sequence of the collected names. -/
theorem C08_status_name_sequence (i : ScanIn) :
    (scanTail i).pluginStatus.map (fun (s : Status) => nameBytes s.name) =
      isort ltBytes ((collectedStatus i).map fun (s : Status) => nameBytes s.name) := by
  unfold scanTail collectedStatus
  exact isort_map_key ltBytes (fun (s : Status) => nameBytes s.name) _

/-! ### the prefix case, concretely (bytes of "CVE-2024-1234", "CVE-2024-12345", and ':' = 58) -/

def refShort : List Nat := [67, 86, 69, 45, 50, 48, 50, 52, 45, 49, 50, 51, 52]
def refLong : List Nat := refShort ++ [53]

/-- A reference that is a proper prefix of another sorts FIRST, whatever the Extras are. -/
theorem C08_prefix_reference_first (e₁ e₂ : List Nat) : keyLt (refShort, e₁) (refLong, e₂) = true := by
  rw [C08_cmp_findings_fields]
  have : ltBytes refShort refLong = true := by decide
  simp [this]

/-- Sharpness: comparing ONE concatenated key `reference ++ ":" ++ extra` is a different order — it puts
the longer reference first because '5' (53) < ':' (58). -/
theorem C08_concatenated_key_differs :
    ltBytes (refLong ++ [58] ++ []) (refShort ++ [58] ++ []) = true ∧ keyLt (refLong, []) (refShort, []) = false := by
  refine ⟨by decide, by decide⟩

/-- non-vacuity: three findings of two detectors, prefix-related references, come out in key order -/
example :
    let f := fun (p : Nat) (r e : List Nat) => (some (⟨p, some ⟨some (0, r), 0⟩, p, e, []⟩ : Finding))
    let ds : List Detector := [⟨"b", fun _ => ([f 1 refLong [], f 2 refShort [49]], false), false⟩,
                               ⟨"a", fun _ => ([f 3 refShort []], false), false⟩]
    ((scanTail ⟨[], [], [], [], [], [], ds⟩).findings.map (·.ptr)) = [3, 2, 1] := by decide

end Scalibr.Detector
