/-
C07 — Ecosystem version comparison is total, consistent and a valid ordering.
Property theorems only; helper lemmas live in `Scalibr.Proofs.Semantic.*`.

For every comparator family `f` of `semantic.Parse` and ALL strings (`List Char`):
  `C07_f_total`     Parse + CompareStr never crashes;
  `C07_f_refl`      an accepted version compares equal to itself;
  `C07_f_antisymm`  both accepted ⇒ no error and `a ? b` is the exact flip of `b ? a`;
  `C07_f_trans`     total preorder (≤ transitive, strictness inherited, equality transitive)
                    on all accepted strings — where that is true of the code;
  `…_trans_partial` / `…_trans_fails` where it is not (Packagist `#`, Alpine leading zeros, Maven).
-/
import Scalibr.Proofs.Semantic.PyPI
import Scalibr.Proofs.Semantic.Packagist
import Scalibr.Proofs.Semantic.MavenCanon
import Scalibr.Proofs.Semantic.SemverSpec
import Scalibr.Proofs.Semantic.SpecParse
import Scalibr.Proofs.Semantic.Fuel
import Scalibr.Proofs.Semantic.SpecDebian
import Scalibr.Proofs.Semantic.SpecCran
import Scalibr.Proofs.Semantic.SpecNuGet
import Scalibr.Proofs.Semantic.SpecRubyGems
import Scalibr.Proofs.Semantic.SpecPyPI
import Scalibr.Proofs.Semantic.SpecReaders
import Scalibr.Proofs.Semantic.SpecRedHat
import Scalibr.Proofs.Semantic.Order
import Scalibr.Proofs.VersionOrder
import Scalibr.Proofs.Semantic.SpecAlpine
import Scalibr.Spec.Semantic.Ecosystems
namespace Scalibr.Semantic

/-! ## generic wrappers -/

theorem laws_total {f : Fam} {WF c} (L : FamLaws f.family WF c) : Total f := fun a b => L.total a b
theorem laws_refl {f : Fam} {WF c} (L : FamLaws f.family WF c) : Refl f := fun a h => L.reflS a h
theorem laws_antisymm {f : Fam} {WF c} (L : FamLaws f.family WF c) : Antisymm f := fun a b ha hb => L.antisymmS a b ha hb

/-- total preorder on every accepted string, when the comparator is one on the parser's invariant -/
theorem laws_trans {f : Fam} {WF c} (L : FamLaws f.family WF c) (hc : IsCmpOn WF c) :
    TransOn f (fun s => accepted f s = true) := by
  intro a b d ha hb hd h1 h2
  have lift : ∀ s, accepted f s = true → parsesTo f.family WF s := by
    intro s hs
    obtain ⟨v, hv⟩ := (accepted_iff f.family s).mp hs
    exact ⟨v, hv, L.parse_wf s v hv⟩
  exact L.transS WF hc a b d (lift a ha) (lift b hb) (lift d hd) h1 h2

/-! ## semver-like: npm, crates.io, Go, Hex, Pub, ConanCenter -/

theorem C07_semver_total : Total .semver := laws_total (f := .semver) semver_laws
theorem C07_semver_refl : Refl .semver := laws_refl (f := .semver) semver_laws
theorem C07_semver_antisymm : Antisymm .semver := laws_antisymm (f := .semver) semver_laws
theorem C07_semver_trans : TransOn .semver (fun s => accepted .semver s = true) :=
  laws_trans (f := .semver) semver_laws (cmpSemver_isCmp.on _)

/-! ## NuGet -/

theorem C07_nuget_total : Total .nuget := laws_total (f := .nuget) nuget_laws
theorem C07_nuget_refl : Refl .nuget := laws_refl (f := .nuget) nuget_laws
theorem C07_nuget_antisymm : Antisymm .nuget := laws_antisymm (f := .nuget) nuget_laws
theorem C07_nuget_trans : TransOn .nuget (fun s => accepted .nuget s = true) :=
  laws_trans (f := .nuget) nuget_laws (cmpNuGet_isCmp.on _)

/-! ## CRAN -/

theorem C07_cran_total : Total .cran := laws_total (f := .cran) cran_laws
theorem C07_cran_refl : Refl .cran := laws_refl (f := .cran) cran_laws
theorem C07_cran_antisymm : Antisymm .cran := laws_antisymm (f := .cran) cran_laws
theorem C07_cran_trans : TransOn .cran (fun s => accepted .cran s = true) :=
  laws_trans (f := .cran) cran_laws (cmpCran_isCmp.on _)

/-- the repaired behaviour (22de9fca): a non-numeric component is an error, not a crash; an empty
component counts as zero -/
theorem C07_cran_nonnumeric :
    compareStr .cran ['a'] ['1'] = .err ∧ compareStr .cran ['1'] ['a'] = .err ∧
    compareStr .cran [] ['0'] = .eq ∧ compareStr .cran ['1', '.', '.', '2'] ['1', '.', '0', '.', '2'] = .eq := by decide +kernel

/-! ## Debian / Ubuntu -/

theorem C07_debian_total : Total .debian := laws_total (f := .debian) debian_laws
theorem C07_debian_refl : Refl .debian := laws_refl (f := .debian) debian_laws
theorem C07_debian_antisymm : Antisymm .debian := laws_antisymm (f := .debian) debian_laws
theorem C07_debian_trans : TransOn .debian (fun s => accepted .debian s = true) :=
  laws_trans (f := .debian) debian_laws (cmpDebT_isCmp.on _)

/-! ## RubyGems -/

theorem C07_rubygems_total : Total .rubygems := laws_total (f := .rubygems) rubygems_laws
theorem C07_rubygems_refl : Refl .rubygems := laws_refl (f := .rubygems) rubygems_laws
theorem C07_rubygems_antisymm : Antisymm .rubygems := laws_antisymm (f := .rubygems) rubygems_laws
theorem C07_rubygems_trans : TransOn .rubygems (fun s => accepted .rubygems s = true) :=
  laws_trans (f := .rubygems) rubygems_laws (cmpRuby_isCmp.on _)

/-! ## Red Hat -/

theorem C07_redhat_total : Total .redhat := laws_total (f := .redhat) redhat_laws
theorem C07_redhat_refl : Refl .redhat := laws_refl (f := .redhat) redhat_laws
theorem C07_redhat_antisymm : Antisymm .redhat := laws_antisymm (f := .redhat) redhat_laws
theorem C07_redhat_trans : TransOn .redhat (fun s => accepted .redhat s = true) :=
  laws_trans (f := .redhat) redhat_laws (cmpRH_isCmp.on _)

/-! ## PyPI -/

theorem C07_pypi_total : Total .pypi := laws_total (f := .pypi) pypi_laws
theorem C07_pypi_refl : Refl .pypi := laws_refl (f := .pypi) pypi_laws
theorem C07_pypi_antisymm : Antisymm .pypi := laws_antisymm (f := .pypi) pypi_laws
theorem C07_pypi_trans : TransOn .pypi (fun s => accepted .pypi s = true) :=
  laws_trans (f := .pypi) pypi_laws (cmpPyT_isCmp.on _)

/-! ## Packagist -/

theorem C07_packagist_total : Total .packagist := laws_total (f := .packagist) packagist_laws
theorem C07_packagist_refl : Refl .packagist := laws_refl (f := .packagist) packagist_laws
theorem C07_packagist_antisymm : Antisymm .packagist := laws_antisymm (f := .packagist) packagist_laws

/-- Full statement `TransOn .packagist (accepted)` is FALSE (next theorem). Total preorder on the
versions without a `#…` component — `#` is `comparePackagistComponents`' own stand-in for "a
number" and is not part of the ecosystem's grammar. -/
theorem C07_packagist_trans_partial : TransOn .packagist (fun s => acceptedByCode .packagist s = true) := by
  intro a b d ha hb hd h1 h2
  have lift : ∀ s, acceptedByCode .packagist s = true → parsesTo packagistFam pkNoHashP s :=
    fun s hs => ⟨parsePk s, rfl, hs⟩
  exact packagist_laws.transS pkNoHashP cmpPkS_isCmpOn a b d (lift a ha) (lift b hb) (lift d hd) h1 h2

/-- `1.5 = 1.#`, `1.# = 1.7`, but `1.5 < 1.7` -/
theorem C07_packagist_trans_fails : ¬ TransOn .packagist (fun s => accepted .packagist s = true) := by
  intro h
  have := (h ['1', '.', '5'] ['1', '.', '#'] ['1', '.', '7'] (by decide +kernel) (by decide +kernel) (by decide +kernel) (by decide +kernel) (by decide +kernel)).2.2
    (by decide +kernel) (by decide +kernel)
  exact absurd this (by decide +kernel)

example : acceptedByCode .packagist ['1', '.', '1', '0', '-', 'R', 'C', '2'] = true := by decide +kernel

/-- the repaired behaviour (8171abe1): a 20-digit component is a number -/
theorem C07_packagist_long_number :
    compareStr .packagist ['1'] ['1','.','9','9','9','9','9','9','9','9','9','9','9','9','9','9','9','9','9','9','9','9'] = .lt := by decide +kernel

/-! ## Alpine -/

theorem C07_alpine_total : Total .alpine := laws_total (f := .alpine) alpine_laws
theorem C07_alpine_refl : Refl .alpine := laws_refl (f := .alpine) alpine_laws
theorem C07_alpine_antisymm : Antisymm .alpine := laws_antisymm (f := .alpine) alpine_laws

/-- Full statement `TransOn .alpine (acceptedByCode)` is FALSE (next theorem; known finding
C07/alpine-leading-zero-padding). Total preorder on the valid versions none of whose later
components is written with a leading zero. -/
theorem C07_alpine_trans_partial :
    TransOn .alpine (fun s => acceptedByCode .alpine s = true ∧ knownClass .alpine s = false) := by
  intro a b d ha hb hd h1 h2
  have lift : ∀ s, (acceptedByCode .alpine s = true ∧ knownClass .alpine s = false) → parsesTo alpineFam AlpV.canonValid s := by
    intro s ⟨hg, hk⟩
    simp only [acceptedByCode] at hg
    simp only [knownClass] at hk
    cases hp : parseAlp s with
    | ok v =>
      rw [hp] at hg hk
      exact ⟨v, hp, parseAlp_good s v hp, by simpa using hg, by simpa using hk⟩
    | err => rw [hp] at hg; exact absurd hg (by simp)
    | panic => rw [hp] at hg; exact absurd hg (by simp)
  exact alpine_laws.transS AlpV.canonValid cmpAlpT_isCmpOn a b d (lift a ha) (lift b hb) (lift d hd) h1 h2

/-- `1.0 = 1`, `1 = 1.00`, but `1.0 < 1.00` — all three grammar-valid -/
theorem C07_alpine_trans_fails : ¬ TransOn .alpine (fun s => acceptedByCode .alpine s = true) := by
  intro h
  have := (h ['1', '.', '0'] ['1'] ['1', '.', '0', '0'] (by decide +kernel) (by decide +kernel) (by decide +kernel) (by decide +kernel) (by decide +kernel)).2.2
    (by decide +kernel) (by decide +kernel)
  exact absurd this (by decide +kernel)

example : acceptedByCode .alpine ['1', '.', '2', '.', '1', '0', 'a', '_', 'r', 'c', '1', '-', 'r', '3'] = true ∧
    knownClass .alpine ['1', '.', '2', '.', '1', '0', 'a', '_', 'r', 'c', '1', '-', 'r', '3'] = false := by decide +kernel
example : knownClass .alpine ['1', '.', '0', '0'] = true := by decide +kernel

/-! ## Maven -/

theorem C07_maven_total : Total .maven := laws_total (f := .maven) maven_laws
theorem C07_maven_refl : Refl .maven := laws_refl (f := .maven) maven_laws
theorem C07_maven_antisymm : Antisymm .maven := laws_antisymm (f := .maven) maven_laws

/-- Full statement `TransOn .maven (accepted)` is FALSE (next theorem; known finding
C07/maven-qualifier-cycle). Total preorder on the versions whose token list has the canonical shape
`mvnCanonToks`: a first number, '.'-prefixed numbers, then only '-'-prefixed qualifiers / numbers
(`N(.N)*(-qualifier | -N)*`, e.g. `1.2`, `1.0-rc-1`, `2.1-SNAPSHOT`, `1-alpha1`). -/
theorem C07_maven_trans_partial : TransOn .maven (fun s => knownClass .maven s = false) := by
  intro a b d ha hb hd h1 h2
  have lift : ∀ s, knownClass .maven s = false → parsesTo mavenFam MvnCanonP s := by
    intro s hk
    obtain ⟨v, hv, _⟩ := parseMvn_ok s
    simp only [knownClass, hv] at hk
    exact ⟨v, hv, mvnCanonToks_sound v (by simpa using hk)⟩
  exact maven_laws.transS MvnCanonP cmpMvnT_isCmpOn a b d (lift a ha) (lift b hb) (lift d hd) h1 h2

/-- `1 < 1.foo`, `1.foo < 1rc`, but `1 > 1rc` (known finding C07/maven-qualifier-cycle): the
comparison is not transitive on accepted strings; `1.foo` has a '.'-prefixed qualifier. -/
theorem C07_maven_trans_fails : ¬ TransOn .maven (fun s => accepted .maven s = true) := by
  intro h
  have := (h ['1'] ['1', '.', 'f', 'o', 'o'] ['1', 'r', 'c'] (by decide +kernel) (by decide +kernel) (by decide +kernel) (by decide +kernel) (by decide +kernel)).1
  exact absurd this (by decide +kernel)

example : knownClass .maven ['1', '.', '2', '-', 'r', 'c', '-', '1'] = false ∧ knownClass .maven ['1', '.', 'f', 'o', 'o'] = true := by decide +kernel

/-! ## all families at once, and the dispatch -/

theorem C07_all_total : ∀ f, Total f
  | .semver => C07_semver_total
  | .nuget => C07_nuget_total
  | .cran => C07_cran_total
  | .debian => C07_debian_total
  | .rubygems => C07_rubygems_total
  | .redhat => C07_redhat_total
  | .packagist => C07_packagist_total
  | .pypi => C07_pypi_total
  | .alpine => C07_alpine_total
  | .maven => C07_maven_total

theorem C07_all_refl : ∀ f, Refl f
  | .semver => C07_semver_refl
  | .nuget => C07_nuget_refl
  | .cran => C07_cran_refl
  | .debian => C07_debian_refl
  | .rubygems => C07_rubygems_refl
  | .redhat => C07_redhat_refl
  | .packagist => C07_packagist_refl
  | .pypi => C07_pypi_refl
  | .alpine => C07_alpine_refl
  | .maven => C07_maven_refl

theorem C07_all_antisymm : ∀ f, Antisymm f
  | .semver => C07_semver_antisymm
  | .nuget => C07_nuget_antisymm
  | .cran => C07_cran_antisymm
  | .debian => C07_debian_antisymm
  | .rubygems => C07_rubygems_antisymm
  | .redhat => C07_redhat_antisymm
  | .packagist => C07_packagist_antisymm
  | .pypi => C07_pypi_antisymm
  | .alpine => C07_alpine_antisymm
  | .maven => C07_maven_antisymm

/-- through the ecosystem name: never a crash, whatever the name and the strings -/
theorem C07_eco_total (eco : String) (a b : List Char) : compareEco eco a b ≠ .panic := by
  unfold compareEco
  split
  · simp
  · exact C07_all_total _ a b

/-- an ecosystem name outside the switch is an error -/
theorem C07_unsupported (eco : String) (h : dispatch eco = none) (a b : List Char) : compareEco eco a b = .err := by
  simp [compareEco, h]

/-! ## agreement with the published rule: semver.org §11 -/

/-- On every canonically rendered version the comparison is exactly the precedence of semver.org §11
(`specCmp`, written from the text in `Spec/Semantic.lean`); no restriction on the identifiers. -/
theorem C07_semver_spec (x y : SemVer) (hx : x.wf = true) (hy : y.wf = true) :
    compareStr .semver x.render y.render = .ofOrd (specCmp x y) :=
  semver_spec x y hx hy

/-- the repaired behaviour (6209aa57): the identifier `-5` is alphanumeric, hence above the numeric `1` -/
theorem C07_semver_hyphen_identifier :
    compareStr .semver ['1', '.', '0', '.', '0', '-', '-', '5'] ['1', '.', '0', '.', '0', '-', '1'] = .gt ∧
    compareStr .nuget ['1', '.', '0', '.', '0', '-', 'a', '.', '-', '1'] ['1', '.', '0', '.', '0', '-', 'a', '.', '0'] = .gt := by decide +kernel

/-- The reader the oracle uses inverts `render`: every well-formed version is read back from its
canonical text, so the driver's `spec=` verdict on a canonical pair is `specCmp` of exactly the
versions `C07_semver_spec` speaks about. -/
theorem C07_semver_specParse_render (x : SemVer) (hw : x.wf = true) (hb : x.buildWf = true) :
    specParse x.render = some x :=
  specParse_render x hw hb

/-- Adequacy of the fuel of the remaining fuel-indexed recognisers: any fuel above the length of the
argument gives the same result (the models pass `length + 1`). Debian / Red Hat / Packagist fuel is
eliminated inside their `_trans` proofs; for Maven exhaustion is a `panic` outcome, excluded by
`C07_maven_total`. -/
theorem C07_fuel_adequate :
    (∀ n m s, s.length < n → s.length < m → alpNumPrefix n s = alpNumPrefix m s) ∧
    (∀ n m s, s.length < n → s.length < m → findSufs n s = findSufs m s) ∧
    (∀ n m s, s.length < n → s.length < m → legacySplits n s = legacySplits m s) ∧
    (∀ (a : PP) n m s c, s.length < n → s.length < m → pStar a n s c = pStar a m s c) :=
  ⟨alpNumPrefix_fuel, findSufs_fuel, legacySplits_fuel, pStar_fuel⟩

def exRc : SemVer := ⟨1, 2, 3, [.alnum ['r', 'c'], .num 1, .alnum ['-', '5']], ['b', '7']⟩
example : exRc.wf = true ∧ exRc.buildWf = true ∧ exRc.render = ['1', '.', '2', '.', '3', '-', 'r', 'c', '.', '1', '.', '-', '5', '+', 'b', '7'] := by decide +kernel
example : specParse exRc.render = some exRc := by decide +kernel

/-! ## agreement with the published rules of the other ecosystems

Each specification is written from the ecosystem's documentation in `Spec/Semantic/<Eco>.lean`
(structured version `V`, canonical text `render`, ordering `specCmp`) and imports none of the
models; the theorems say that the model of the Go code, run on the canonical texts, answers what
the documentation says — for every well-formed `V`, by induction over the segment lists. -/

/-- Debian / Ubuntu: deb-version(7) — epoch, upstream_version, debian_revision; alternating non-digit
(letters before non-letters, `~` before everything, even the end) and digit runs -/
theorem C07_debian_spec (a b : DebSpec.V) (ha : a.wf = true) (hb : b.wf = true) :
    compareStr .debian (DebSpec.render a) (DebSpec.render b) = .ofOrd (DebSpec.specCmp a b) :=
  debian_spec a b ha hb

def exDeb : DebSpec.V :=
  ⟨1, [⟨[], some 2⟩, ⟨['.'], some 10⟩, ⟨['~', 'r', 'c'], some 1⟩, ⟨['+', 'd', 'f', 's', 'g'], none⟩],
   some [⟨[], some 1⟩, ⟨['u', 'b', 'u', 'n', 't', 'u'], some 2⟩]⟩
example : exDeb.wf = true ∧ DebSpec.render exDeb =
    ['1', ':', '2', '.', '1', '0', '~', 'r', 'c', '1', '+', 'd', 'f', 's', 'g', '-', '1', 'u', 'b', 'u', 'n', 't', 'u', '2'] := by decide +kernel
example : DebSpec.specParse (DebSpec.render exDeb) = some exDeb := by decide +kernel
/-- `1.0~rc1 < 1.0 < 1.0+b1` and `1.0 = 1.0-0` by the manual page's rule -/
example : DebSpec.specCmp ⟨0, [⟨[], some 1⟩, ⟨['.'], some 0⟩, ⟨['~', 'r', 'c'], some 1⟩], none⟩ ⟨0, [⟨[], some 1⟩, ⟨['.'], some 0⟩], none⟩ = .lt ∧
    DebSpec.specCmp ⟨0, [⟨[], some 1⟩, ⟨['.'], some 0⟩], none⟩ ⟨0, [⟨[], some 1⟩, ⟨['.'], some 0⟩, ⟨['+', 'b'], some 1⟩], none⟩ = .lt ∧
    DebSpec.specCmp ⟨0, [⟨[], some 1⟩, ⟨['.'], some 0⟩], none⟩ ⟨0, [⟨[], some 1⟩, ⟨['.'], some 0⟩], some [⟨[], some 0⟩]⟩ = .eq := by decide +kernel

/-- PyPI: PEP 440 — epoch, zero-padded release, `.devN < aN < bN < rcN < (none) < .postN`, local labels -/
theorem C07_pypi_spec (a b : PepSpec.V) (ha : a.wf = true) (hb : b.wf = true) :
    compareStr .pypi (PepSpec.render a) (PepSpec.render b) = .ofOrd (PepSpec.specCmp a b) :=
  pypi_spec a b ha hb

def exPep : PepSpec.V := ⟨1, 2, [0, 3], some (.rc, 1), some 2, some 3, [.str ['u', 'b', 'u', 'n', 't', 'u'], .num 1]⟩
example : exPep.wf = true ∧ PepSpec.render exPep =
    ['1', '!', '2', '.', '0', '.', '3', 'r', 'c', '1', '.', 'p', 'o', 's', 't', '2', '.', 'd', 'e', 'v', '3', '+', 'u', 'b', 'u', 'n', 't', 'u', '.', '1'] := by decide +kernel
example : PepSpec.specParse (PepSpec.render exPep) = some exPep := by decide +kernel
/-- `1.0.dev1 < 1.0a1 < 1.0 < 1.0.post1.dev1 < 1.0.post1` and `1.0 < 1.0+x` by PEP 440 -/
example : PepSpec.specCmp ⟨0, 1, [0], none, none, some 1, []⟩ ⟨0, 1, [0], some (.a, 1), none, none, []⟩ = .lt ∧
    PepSpec.specCmp ⟨0, 1, [0], some (.a, 1), none, none, []⟩ ⟨0, 1, [0], none, none, none, []⟩ = .lt ∧
    PepSpec.specCmp ⟨0, 1, [0], none, none, none, []⟩ ⟨0, 1, [0], none, some 1, some 1, []⟩ = .lt ∧
    PepSpec.specCmp ⟨0, 1, [0], none, some 1, some 1, []⟩ ⟨0, 1, [0], none, some 1, none, []⟩ = .lt ∧
    PepSpec.specCmp ⟨0, 1, [0], none, none, none, []⟩ ⟨0, 1, [0], none, none, none, [.str ['x']]⟩ = .lt := by decide +kernel

/-- RubyGems: `Gem::Version#<=>` on canonical segments -/
theorem C07_rubygems_spec (a b : RubySpec.V) (ha : a.wf = true) (hb : b.wf = true) :
    compareStr .rubygems (RubySpec.render a) (RubySpec.render b) = .ofOrd (RubySpec.specCmp a b) :=
  rubygems_spec a b ha hb

def exRuby : RubySpec.V := ⟨[.num 1, .num 0, .str ['r', 'c'], .num 10]⟩
example : exRuby.wf = true ∧ RubySpec.render exRuby = ['1', '.', '0', '.', 'r', 'c', '.', '1', '0'] := by decide +kernel
example : RubySpec.specParse (RubySpec.render exRuby) = some exRuby := by decide +kernel
/-- `1.0.a9 < 1.0.a10 < 1.0 = 1` as the documentation says -/
example : RubySpec.specCmp ⟨[.num 1, .num 0, .str ['a'], .num 9]⟩ ⟨[.num 1, .num 0, .str ['a'], .num 10]⟩ = .lt ∧
    RubySpec.specCmp ⟨[.num 1, .num 0, .str ['a'], .num 10]⟩ ⟨[.num 1, .num 0]⟩ = .lt ∧
    RubySpec.specCmp ⟨[.num 1, .num 0]⟩ ⟨[.num 1]⟩ = .eq := by decide +kernel

/-- NuGet: SemVer 2.0.0 with the legacy fourth part, case-insensitive pre-release labels -/
theorem C07_nuget_spec (a b : NuGetSpec.V) (ha : a.wf = true) (hb : b.wf = true) :
    compareStr .nuget (NuGetSpec.render a) (NuGetSpec.render b) = .ofOrd (NuGetSpec.specCmp a b) :=
  nuget_spec a b ha hb

def exNuGet : NuGetSpec.V := ⟨1, 2, 3, some 4, [.alnum ['R', 'C'], .num 1], ['b', '7']⟩
example : exNuGet.wf = true ∧ NuGetSpec.render exNuGet = ['1', '.', '2', '.', '3', '.', '4', '-', 'R', 'C', '.', '1', '+', 'b', '7'] := by decide +kernel
example : NuGetSpec.specParse (NuGetSpec.render exNuGet) = some exNuGet := by decide +kernel
/-- `1.0.0-RC = 1.0.0-rc`, `1.0.0 = 1.0.0.0`, `1.0.0-rc < 1.0.0` -/
example : NuGetSpec.specCmp ⟨1, 0, 0, none, [.alnum ['R', 'C']], []⟩ ⟨1, 0, 0, none, [.alnum ['r', 'c']], []⟩ = .eq ∧
    NuGetSpec.specCmp ⟨1, 0, 0, none, [], []⟩ ⟨1, 0, 0, some 0, [], []⟩ = .eq ∧
    NuGetSpec.specCmp ⟨1, 0, 0, none, [.alnum ['r', 'c']], []⟩ ⟨1, 0, 0, none, [], []⟩ = .lt := by decide +kernel

/-- CRAN: R's `package_version` — integer sequences, a proper prefix is smaller (no hypothesis needed) -/
theorem C07_cran_spec (a b : CranSpec.V) :
    compareStr .cran (CranSpec.render a) (CranSpec.render b) = .ofOrd (CranSpec.specCmp a b) :=
  cran_spec a b

def exCran : CranSpec.V := ⟨1, [(false, 2), (true, 10)]⟩
example : exCran.wf = true ∧ CranSpec.render exCran = ['1', '.', '2', '-', '1', '0'] := by decide +kernel
example : CranSpec.specParse (CranSpec.render exCran) = some exCran := by decide +kernel
/-- `1.2 < 1.2.0 < 1.2-1` -/
example : CranSpec.specCmp ⟨1, [(false, 2)]⟩ ⟨1, [(false, 2), (false, 0)]⟩ = .lt ∧
    CranSpec.specCmp ⟨1, [(false, 2), (false, 0)]⟩ ⟨1, [(false, 2), (true, 1)]⟩ = .lt := by decide +kernel

/-- Red Hat: rpm's version comparison (rpm-version(7) / rpmvercmp) — digit and letter segments,
`~` before everything even the end, `^` after the end but before any other continuation, numbers
as integers and above letters, a present release above an absent one -/
theorem C07_redhat_spec (a b : RpmSpec.V) (ha : a.wf = true) (hb : b.wf = true) :
    compareStr .redhat (RpmSpec.render a) (RpmSpec.render b) = .ofOrd (RpmSpec.specCmp a b) :=
  redhat_spec a b ha hb

def exRpm : RpmSpec.V :=
  ⟨2, [.num 1, .num 10, .tilde, .alpha ['r', 'c'], .num 1, .caret, .alpha ['g', 'i', 't'], .num 5], some [.num 3, .alpha ['e', 'l'], .num 8]⟩
example : exRpm.wf = true ∧ RpmSpec.render exRpm =
    ['2', ':', '1', '.', '1', '0', '~', 'r', 'c', '1', '^', 'g', 'i', 't', '5', '-', '3', 'e', 'l', '8'] := by decide +kernel
example : RpmSpec.specParse (RpmSpec.render exRpm) = some exRpm := by decide +kernel
/-- `1.0~rc1 < 1.0 < 1.0^git1 < 1.0.1`, `1.0^git1 < 1.0a`, and a tilde never meets a caret as an equal -/
example : RpmSpec.specCmp ⟨0, [.num 1, .num 0, .tilde, .alpha ['r', 'c'], .num 1], none⟩ ⟨0, [.num 1, .num 0], none⟩ = .lt ∧
    RpmSpec.specCmp ⟨0, [.num 1, .num 0], none⟩ ⟨0, [.num 1, .num 0, .caret, .alpha ['g', 'i', 't'], .num 1], none⟩ = .lt ∧
    RpmSpec.specCmp ⟨0, [.num 1, .num 0, .caret, .alpha ['g', 'i', 't'], .num 1], none⟩ ⟨0, [.num 1, .num 0, .num 1], none⟩ = .lt ∧
    RpmSpec.specCmp ⟨0, [.num 1, .num 0, .caret, .alpha ['g', 'i', 't'], .num 1], none⟩ ⟨0, [.num 1, .num 0, .alpha ['a']], none⟩ = .lt ∧
    RpmSpec.specCmp ⟨0, [.num 1, .num 0, .tilde, .alpha ['r', 'c'], .num 1], none⟩ ⟨0, [.num 1, .num 0, .caret, .alpha ['r', 'c'], .num 1], none⟩ = .lt := by decide +kernel

/-- Alpine, the documented SUFFIX order only: `alpha < beta < pre < rc < (no suffix) < cvs < svn < git < hg < p`,
the number after a suffix breaks ties (`_rc` = `_rc0`), suffix sequences are compared position by
position with "no suffix" standing in for a missing position. Covered: every pair of versions
`digits(.digits)*[a-z]?(_suffix[number])*(~hex)?(-r number)?` (digit runs as written, leading zeros
allowed) that agree on digits, letter, hash and revision and differ in their suffix sequences only.
NOT covered: how the numeric components (or letters, revisions) of two different bases compare — the
numeric-component rule stays outside because of the recorded padding finding
C07/alpine-leading-zero-padding. (Before the repair of `fetchSuffix`'s padding weight, 5 = `cvs`
instead of 4 = "no suffix", this statement was false: `1.0_cvs` compared equal to `1.0`.) -/
theorem C07_alpine_suffix_spec (a b : ApkSpec.V) (ha : a.wf = true) (hb : b.wf = true)
    (hs : ApkSpec.sameBase a b = true) :
    compareStr .alpine (ApkSpec.render a) (ApkSpec.render b) = .ofOrd (ApkSpec.specCmp a b) :=
  alpine_suffix_spec a b ha hb hs

def exApk : ApkSpec.V := ⟨[['1'], ['0', '9'], ['1', '0']], some 'b', [⟨.rc, some 1⟩, ⟨.p, none⟩, ⟨.git, some 20⟩], ['a', '1', 'f'], some 3⟩
example : exApk.wf = true ∧ ApkSpec.render exApk =
    ['1', '.', '0', '9', '.', '1', '0', 'b', '_', 'r', 'c', '1', '_', 'p', '_', 'g', 'i', 't', '2', '0', '~', 'a', '1', 'f', '-', 'r', '3'] := by decide +kernel
example : ApkSpec.specParse (ApkSpec.render exApk) = some exApk := by decide +kernel
/-- `1.0_cvs > 1.0` (the repaired defect), `1.0_rc1 < 1.0 < 1.0_p`, `1.0_rc = 1.0_rc0`, `1.0_rc1 < 1.0_rc1_p1`,
`1.0_rc1_alpha < 1.0_rc1`, `1.0_alpha9 < 1.0_beta` -/
example : ApkSpec.sufCmp [⟨.cvs, none⟩] [] = .gt ∧ ApkSpec.sufCmp [⟨.rc, some 1⟩] [] = .lt ∧ ApkSpec.sufCmp [] [⟨.p, none⟩] = .lt ∧
    ApkSpec.sufCmp [⟨.rc, none⟩] [⟨.rc, some 0⟩] = .eq ∧ ApkSpec.sufCmp [⟨.rc, some 1⟩] [⟨.rc, some 1⟩, ⟨.p, some 1⟩] = .lt ∧
    ApkSpec.sufCmp [⟨.rc, some 1⟩, ⟨.alpha, none⟩] [⟨.rc, some 1⟩] = .lt ∧ ApkSpec.sufCmp [⟨.alpha, some 9⟩] [⟨.beta, none⟩] = .lt := by decide +kernel
example : compareStr .alpine ['1', '.', '0', '_', 'c', 'v', 's'] ['1', '.', '0'] = .gt := by decide +kernel

/-- The readers the driver uses for the published-rule oracle invert `render` (Debian/Ubuntu,
RubyGems, CRAN; semver: `C07_semver_specParse_render`): the `spec=` verdict printed for a canonical
pair is `specCmp` of exactly the versions the agreement theorems speak about. (The NuGet and PyPI
readers are checked on the examples above only.) -/
theorem C07_spec_readers :
    (∀ v : DebSpec.V, v.wf = true → DebSpec.specParse (DebSpec.render v) = some v) ∧
    (∀ v : RubySpec.V, v.wf = true → RubySpec.specParse (RubySpec.render v) = some v) ∧
    (∀ v : CranSpec.V, CranSpec.specParse (CranSpec.render v) = some v) :=
  ⟨debian_specParse_render, rubygems_specParse_render, cran_specParse_render⟩

/-! ## the ecosystem names

`ecosystemRule` (`Spec/Semantic/Ecosystems.lean`) is the specification's table of supported ecosystem
names and the rule each follows, taken from the property text and the documentation. -/

/-- the `switch` of `semantic.Parse` is exactly the specification's table: every documented name is routed
to its documented rule and every other string is unsupported -/
theorem C07_dispatch_table (eco : String) : dispatch eco = ecosystemRule eco := by
  -- the table look-up is the same chain of string tests as the `switch`
  have cons : ∀ (k : String) (f : Fam) (es : List (String × Fam)),
      List.lookup eco ((k, f) :: es) = if eco = k then some f else List.lookup eco es := by
    intro k f es
    by_cases h : eco = k
    · simp [List.lookup, h]
    · have : (eco == k) = false := by simpa using h
      simp [List.lookup, h, this]
  simp only [dispatch, ecosystemRule, ecosystemTable, cons, List.lookup_nil]

/-- the documented example orderings of every rule hold -/
theorem C07_witnesses_hold : ∀ f ∈ allFams, ∀ w ∈ familyWitnesses f, compareStr f w.a.toList w.b.toList = w.ord := by
  decide +kernel

/-- … and they pin the routing: under any OTHER rule at least one example of a rule comes out differently,
so an ecosystem name routed to a different comparator cannot satisfy its documented examples -/
theorem C07_witnesses_discriminate : ∀ g ∈ allFams, ∀ f ∈ allFams, f ≠ g →
    (familyWitnesses g).any (fun w => compareStr f w.a.toList w.b.toList != w.ord) = true := by
  decide +kernel

/-! ## what "never crashes" is about for the seven index-free looking families

The families of semver, NuGet, CRAN, RubyGems, Red Hat, Packagist and Debian RUN the Go-shaped
functions (`…Go`), written with the failing primitives `goIndex` / `goSlice` / `goFetch` at the
sites where the Go code indexes or slices (utilities.go:39 `slice[i]`, version.go `Fetch`,
version-semver-like.go:43 `Components[:max]`, version-semver.go:29,75 `parts[0]`, `a[i]`,
version-rubygems.go:70 `segs[i]`, `segs[:max(i,0)]`, version-redhat.go:120 `a[ai]` and the guarded
`a[ai]` of the trimming / tilde / caret tests, version-packagist.go:79-113 `a[i]`, `a[len(b)]`,
`a[len(b):]`, version-debian.go:35-85 `s[:i]`, `s[i+1:]`, `str[:i]`, `str[i:]`, `char[0]`); a
`none` there is `.panic` in the family. `C07_<f>_total` for these families therefore rests on the
theorem below: every one of those indices and slices is in range on every input (the guards make
the failing branch unreachable), and the fuel of the two fuel-indexed Go-shaped loops is enough. -/
theorem C07_go_sites_in_range :
    (∀ m s, parseSemverGo m s = some (parseSemver m s)) ∧
    (∀ v w, cmpSemverGo v w = some (cmpSemver v w)) ∧
    (∀ v w, cmpNuGetGo v w = some (cmpNuGet v w)) ∧
    (∀ v w, cmpCranGo v w = some (cmpCran v w)) ∧
    (∀ s, rubySegsGo s = some (rubySegs s)) ∧
    (∀ v w, cmpRubyGo v w = some (cmpRuby v w)) ∧
    (∀ v w, cmpRHGo v w = some (cmpRH v w)) ∧
    (∀ v w, cmpPkGoTop v w = some (cmpPkS v w)) ∧
    (∀ s, parseDebGo s = some (parseDeb s)) ∧
    (∀ v w, cmpDebGo v w = some (cmpDeb v w)) :=
  ⟨parseSemverGo_eq, cmpSemverGo_eq, cmpNuGetGo_eq, cmpCranGo_eq, rubySegsGo_eq, cmpRubyGo_eq, cmpRHGo_eq,
   fun v w => cmpPkGo_eq _ v w (by omega), parseDebGo_eq, cmpDebGo_eq⟩

/-- non-vacuity: the primitives do fail, a failure is a crash of the family, and the loops WITHOUT
their guards reach it (one position too many; `a[len(b)]` without `len(a) > len(b)`) -/
example : goIndex ([] : List Char) 0 = none ∧ goSlice [1, 2] 0 3 = none ∧ goSlice [1, 2] 2 1 = none ∧
    CRes.ofGo none = .panic ∧ (PRes.ofGo (none : Option SemV)).isPanic = true ∧
    lexLoop pkElem [['1']] [] 1 0 = none ∧ goIndex [['1']] 1 = none ∧
    rzLoop [['0']] 2 1 = none ∧ debWeighGo [] = some 2 ∧ goIndex ([] : List Char) 0 = none := by decide +kernel

/-! ## the published grammar, and the total preorder in the vocabulary of `Spec/VersionOrder.lean`

`Grammar f` (`Spec/Semantic/Grammar.lean`) is the PUBLISHED grammar for the seven families with a
formalised rule — canonical texts `render v` of well-formed structured versions, no reference to the
implementation's parser — and the code-defined domain `codeDomain` (accepted by the code's parser,
outside the known finding's class) for Packagist, Alpine and Maven. -/

/-- every canonical text of the published grammar is accepted by `Parse` (corollaries of `_spec`) -/
theorem C07_semver_render_accepted (v : SemVer) (h : v.wf = true) : accepted .semver v.render = true :=
  accepted_of_ofOrd (C07_semver_spec v v h h)
theorem C07_nuget_render_accepted (v : NuGetSpec.V) (h : v.wf = true) : accepted .nuget (NuGetSpec.render v) = true :=
  accepted_of_ofOrd (C07_nuget_spec v v h h)
theorem C07_cran_render_accepted (v : CranSpec.V) : accepted .cran (CranSpec.render v) = true :=
  accepted_of_ofOrd (C07_cran_spec v v)
theorem C07_debian_render_accepted (v : DebSpec.V) (h : v.wf = true) : accepted .debian (DebSpec.render v) = true :=
  accepted_of_ofOrd (C07_debian_spec v v h h)
theorem C07_rubygems_render_accepted (v : RubySpec.V) (h : v.wf = true) : accepted .rubygems (RubySpec.render v) = true :=
  accepted_of_ofOrd (C07_rubygems_spec v v h h)
theorem C07_redhat_render_accepted (v : RpmSpec.V) (h : v.wf = true) : accepted .redhat (RpmSpec.render v) = true :=
  accepted_of_ofOrd (C07_redhat_spec v v h h)
theorem C07_pypi_render_accepted (v : PepSpec.V) (h : v.wf = true) : accepted .pypi (PepSpec.render v) = true :=
  accepted_of_ofOrd (C07_pypi_spec v v h h)

/-- every string of the grammar is accepted by `Parse` -/
theorem C07_grammar_accepted : ∀ f s, Grammar f s → accepted f s = true := by
  intro f s h
  cases f
  · obtain ⟨v, hv, e⟩ := h; exact e ▸ C07_semver_render_accepted v hv
  · obtain ⟨v, hv, e⟩ := h; exact e ▸ C07_nuget_render_accepted v hv
  · obtain ⟨v, e⟩ := h; exact e ▸ C07_cran_render_accepted v
  · obtain ⟨v, hv, e⟩ := h; exact e ▸ C07_debian_render_accepted v hv
  · obtain ⟨v, hv, e⟩ := h; exact e ▸ C07_rubygems_render_accepted v hv
  · obtain ⟨v, hv, e⟩ := h; exact e ▸ C07_redhat_render_accepted v hv
  · rfl
  · obtain ⟨v, hv, e⟩ := h; exact e ▸ C07_pypi_render_accepted v hv
  · obtain ⟨ha, _⟩ := h
    simp only [acceptedByCode] at ha
    apply (accepted_iff alpineFam s).mpr
    show ∃ v, parseAlp s = .ok v
    cases hp : parseAlp s with
    | ok v => exact ⟨v, rfl⟩
    | err => rw [hp] at ha; exact absurd ha (by simp)
    | panic => rw [hp] at ha; exact absurd ha (by simp)
  · exact h.1

/-- `Parse` + `CompareStr` is a total preorder on the grammar of every family: `≤` is transitive,
strictness is inherited from either side, equality is transitive. For the seven published grammars
this is implied by the stronger `C07_<f>_trans` (all accepted strings); for Packagist, Alpine and
Maven it is the `_trans_partial` theorem. -/
theorem C07_preorder : ∀ f, TransOn f (Grammar f)
  | .semver => C07_semver_trans.mono (C07_grammar_accepted .semver)
  | .nuget => C07_nuget_trans.mono (C07_grammar_accepted .nuget)
  | .cran => C07_cran_trans.mono (C07_grammar_accepted .cran)
  | .debian => C07_debian_trans.mono (C07_grammar_accepted .debian)
  | .rubygems => C07_rubygems_trans.mono (C07_grammar_accepted .rubygems)
  | .redhat => C07_redhat_trans.mono (C07_grammar_accepted .redhat)
  | .pypi => C07_pypi_trans.mono (C07_grammar_accepted .pypi)
  | .packagist => C07_packagist_trans_partial.mono (fun _ h => h.1)
  | .alpine => C07_alpine_trans_partial.mono (fun _ h => h)
  | .maven => C07_maven_trans_partial.mono (fun _ h => h.2)

/-- the same, packaged for C11 / C18: on every list of versions of the family's grammar the comparison
(as an `Ordering`) satisfies `Scalibr.Upgrade.TotalPreorderOn` -/
theorem C07_total_preorder_on (f : Fam) (vs : List (List Char)) (h : ∀ s ∈ vs, Grammar f s) :
    Upgrade.TotalPreorderOn (cmpOrd f) vs :=
  preorder_on (C07_all_total f) (C07_all_refl f) (C07_all_antisymm f) (C07_preorder f) (C07_grammar_accepted f) vs h

/-- hence a rank function exists on such a list (what the guided-remediation models assume) -/
theorem C07_rank_exists (f : Fam) (vs : List (List Char)) (h : ∀ s ∈ vs, Grammar f s) :
    ∃ rank, Upgrade.RankFor (cmpOrd f) vs rank :=
  (Upgrade.rank_exists_iff (cmpOrd f) vs).mpr (C07_total_preorder_on f vs h)

/-- for the seven families whose comparison is a total preorder on ALL accepted strings, the package
holds on every list of accepted versions, canonical or not -/
theorem C07_total_preorder_on_accepted (f : Fam) (hf : f ≠ .packagist ∧ f ≠ .alpine ∧ f ≠ .maven)
    (vs : List (List Char)) (h : ∀ s ∈ vs, accepted f s = true) : Upgrade.TotalPreorderOn (cmpOrd f) vs := by
  have t : TransOn f (fun s => accepted f s = true) := by
    cases f
    · exact C07_semver_trans
    · exact C07_nuget_trans
    · exact C07_cran_trans
    · exact C07_debian_trans
    · exact C07_rubygems_trans
    · exact C07_redhat_trans
    · exact absurd rfl hf.1
    · exact C07_pypi_trans
    · exact absurd rfl hf.2.1
    · exact absurd rfl hf.2.2
  exact preorder_on (C07_all_total f) (C07_all_refl f) (C07_all_antisymm f) t (fun _ h => h) vs h

/-- the Maven cycle `1 < 1.foo < 1rc`, `1 > 1rc` (known finding C07/maven-qualifier-cycle) in the same
vocabulary: on these three versions the comparator has NO rank function (`no_rank_of_cycle`,
C11's `C11_no_rank_of_cycle`), so no model that ranks versions can describe it -/
theorem C07_maven_no_rank :
    ¬ ∃ rank, Upgrade.RankFor (cmpOrd .maven) [['1'], ['1', '.', 'f', 'o', 'o'], ['1', 'r', 'c']] rank :=
  Upgrade.no_rank_of_cycle (cmpOrd .maven) _ _ _ (by decide +kernel) (by decide +kernel) (by decide +kernel)

/-- non-vacuity: `2.0.0.rc.0.a` (interior zero segments) and `2.0.0.rc` are in the RubyGems grammar and
the former is the OLDER one; `1.0-rc-1` is in Maven's code-defined domain, `1.foo` is not -/
example : Grammar .rubygems ['2', '.', '0', '.', '0', '.', 'r', 'c', '.', '0', '.', 'a'] :=
  ⟨⟨[.num 2, .num 0, .num 0, .str ['r', 'c'], .num 0, .str ['a']]⟩, by decide, by decide⟩
example : Grammar .rubygems ['2', '.', '0', '.', '0', '.', 'r', 'c'] :=
  ⟨⟨[.num 2, .num 0, .num 0, .str ['r', 'c']]⟩, by decide, by decide⟩
example : cmpOrd .rubygems ['2', '.', '0', '.', '0', '.', 'r', 'c', '.', '0', '.', 'a'] ['2', '.', '0', '.', '0', '.', 'r', 'c'] = .lt := by decide +kernel
example : Grammar .maven ['1', '.', '0', '-', 'r', 'c', '-', '1'] ∧ ¬ Grammar .maven ['1', '.', 'f', 'o', 'o'] := by
  constructor
  · exact ⟨by decide, by decide⟩
  · intro h; exact absurd h.2 (by decide +kernel)

end Scalibr.Semantic
