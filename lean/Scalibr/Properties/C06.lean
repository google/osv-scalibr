/-
C06 (unpack half) — loading or unpacking an image never creates, modifies or deletes anything outside the directory
designated for it, whatever entry names, link targets and entry orders the archive contains, and no symlink left
inside the target resolves to a location outside it.

At full strength the property says: for every sandbox state `s0` whose target directory `D` exists and every tar stream
`es`, `Contained D s0 (unpackAll D s0 es).1`.  That is false for the unchanged code (`C06_unpack_contained_fails`,
`C06_unpack_not_contained`, DESIGN §6 #37: `symlink.TargetOutsideRoot` is lexical, so `s → /` followed by
`t → s/..` leaves a link inside the target that the kernel resolves to the target's parent).  The model mirrors the code
after fix dccd4936, where nothing is created THROUGH such a link: clause 1 ("nothing outside changes") holds for every stream
(`C06_unpack_outside_unchanged`); only clause 2 ("no link inside resolves outside") keeps the hypothesis.  The theorem in force is `C06_unpack_contained_partial` under the
decidable hypothesis `noDotDotTargets` (no relative link target has a `..` component); entry NAMES are unrestricted.

Scope: only `UnpackSquashedFromTarball` is modelled and proved about.  The other clauses of the property —
a scan never modifies the scanned tree or the working directory, temporary files are removed, the image's temporary
directory is gone after `CleanUp`, layer loading stays inside its extraction directory — are RUN-TIME OBSERVATIONS
(`harness/cmd/c06scan`, `checks/c06.py: scan_stream`; C04's loader model writes only below the layer directories by
construction of `Disk`), not theorems.

On the hypothesis: `noDotDotTargets` is sufficient, not necessary — `usr/bin/x → ../lib/y` violates it
and is contained (`C06_hypothesis_only_sufficient`).  It is not weakened to "the target, resolved lexically from the
link's directory, stays inside", because that is exactly what the code checks and it is unsound (finding 37); and a
leading-`..`-only form is unsound as well when a link is placed THROUGH another link (`a/u → ..`, then
`a/u/v → ../x` lands at `<target>/v` and points outside).  A sound weakening has to bound the `..` count of each link
by the depth of the PHYSICAL directory the link ends up in, which depends on the state reached; not attempted.
-/
import Scalibr.Proofs.Unpack
namespace Scalibr.Unpack

theorem isPrefix_dropLast {D p : Path} (h : isPrefix D p = true) (hne : p ≠ D) : isPrefix D p.dropLast = true := by
  unfold isPrefix at h ⊢
  simp only [Bool.and_eq_true, decide_eq_true_eq, beq_iff_eq] at h ⊢
  obtain ⟨hl, ht⟩ := h
  have hlt : D.length < p.length := Nat.lt_of_le_of_ne hl fun e => hne (by rw [← ht, e, List.take_length])
  have hle : D.length ≤ p.length - 1 := Nat.le_sub_one_of_lt hlt
  exact ⟨by rw [List.length_dropLast]; exact hle, by rw [List.dropLast_eq_take, List.take_take, Nat.min_eq_left hle]; exact ht⟩

theorem Contained_of_Safe {D : Path} {s0 s : FS} (hS : Safe D s0 s) : Contained D s0 s := by
  obtain ⟨h1, h2, h3⟩ := hS
  refine ⟨h1, ?_⟩
  intro p t hp hg fuel r hr
  have hpne : p ≠ D := fun e => by subst e; rw [h3] at hg; cases hg
  unfold linkDest at hr
  apply resolve_inside D s h2 fuel _ t.comps r _ (h2 p t hp hg) hr
  split
  · exact isPrefix_refl D
  · exact isPrefix_dropLast hp hpne

theorem goodEntry_of_noDotDot {es : List TarEntry} (h : noDotDotTargets es = true) : ∀ e ∈ es, goodEntry e := by
  intro e he htyp habs
  unfold noDotDotTargets at h
  rw [List.all_eq_true] at h
  have := h e he
  simp [htyp, habs] at this
  exact this

theorem SafeG_start {good : Target → Prop} {D : Path} {s0 : FS} (hD : s0.get D = some .dir)
    (h0 : ∀ p t, isPrefix D p = true → s0.get p = some (.link t) → good t) : SafeG good D s0 s0 :=
  ⟨fun _ _ => rfl, h0, hD⟩

/-- **C06 (unpack), clause 1 at full strength (since fix dccd4936), for every configuration of the unpacker**: symlink
resolution retain or not (links written as copies of what they point to), either symlink error strategy, any number of
passes, any size limit, any requirer (with the bookkeeping of required link targets), any working directory.  For every
sandbox state whose target directory `D` exists and EVERY tar stream — no hypothesis on names, link targets, order or
types — unpacking creates, modifies and deletes nothing outside `D`: every object is placed below a directory whose
symlink-evaluated path was tested to be inside `D` (regular files, links, directory entries and every level of
`mkdirAllInside`), and the clean-up only removes links below `D`. -/
theorem C06_unpack_outside_unchanged_cfg (cfg : Cfg) (D : Path) (s0 : FS) (es : List TarEntry) (hD : s0.get D = some .dir) :
    ∀ p, isPrefix D p = false → (unpackAllC cfg D s0 es).1.get p = s0.get p :=
  (unpackAllC_safeG (good := fun _ => True) cfg es (fun _ _ _ => trivial) (SafeG_start hD fun _ _ _ _ => trivial)).1

/-- … with the default configuration -/
theorem C06_unpack_outside_unchanged (D : Path) (s0 : FS) (es : List TarEntry) (hD : s0.get D = some .dir) :
    ∀ p, isPrefix D p = false → (unpackAll D s0 es).1.get p = s0.get p :=
  C06_unpack_outside_unchanged_cfg Cfg.dflt D s0 es hD

/-- … and when the tarball is cut inside its `k`-th entry (the unpacker returns an error part-way) -/
theorem C06_unpack_outside_unchanged_cut (cfg : Cfg) (D : Path) (s0 : FS) (es : List TarEntry) (k : Nat) (hD : s0.get D = some .dir) :
    ∀ p, isPrefix D p = false → (unpackAllCut cfg D s0 es k).1.get p = s0.get p :=
  (unpackAllCut_safeG (good := fun _ => True) cfg es k (fun _ _ _ => trivial) (SafeG_start hD fun _ _ _ _ => trivial)).1

/-- **C06 (unpack), partial form, for every configuration.** For every sandbox state whose target directory `D` exists
and holds no link with a `..` in its text, and every tar stream — any entry names (`..`, `.`, empty segments, absolute,
prefix-confusable siblings, over-long), any order, regular files, links, directories, anything else, every pass and the
final clean-up, whether or not the unpacker stops with an error — whose relative link targets contain no `..`:
nothing outside `D` changes and every link inside `D` that resolves, resolves inside `D`. -/
theorem C06_unpack_contained_cfg_partial (cfg : Cfg) (D : Path) (s0 : FS) (es : List TarEntry)
    (hD : s0.get D = some .dir)
    (h0 : ∀ p t, isPrefix D p = true → s0.get p = some (.link t) → ".." ∉ t.comps)
    (hes : noDotDotTargets es = true) :
    Contained D s0 (unpackAllC cfg D s0 es).1 :=
  Contained_of_Safe (unpackAllC_safe cfg es (goodEntry_of_noDotDot hes) (SafeG_start hD h0))

/-- … with the default configuration (three passes) -/
theorem C06_unpack_contained_partial (D : Path) (s0 : FS) (es : List TarEntry)
    (hD : s0.get D = some .dir)
    (h0 : ∀ p t, isPrefix D p = true → s0.get p = some (.link t) → ".." ∉ t.comps)
    (hes : noDotDotTargets es = true) :
    Contained D s0 (unpackAll D s0 es).1 :=
  Contained_of_Safe (unpackAll_safe es (goodEntry_of_noDotDot hes) (SafeG_start hD h0))

/-- the executable verdict the driver prints agrees with the first clause of `Contained` on the touched paths -/
theorem outsideUnchangedB_sound (D : Path) (s0 s : FS) (h : ∀ p, isPrefix D p = false → s.get p = s0.get p) :
    outsideUnchangedB D s0 s = true := by
  unfold outsideUnchangedB
  rw [List.all_eq_true]
  intro p _
  cases hp : isPrefix D p with
  | true => simp
  | false => simp [h p hp]

/-- the other direction for clause 2, on the touched paths: a contained state passes the driver's link test (the test
runs `resolve` with `fuelFor`, clause 2 quantifies over every fuel) -/
theorem linksInsideB_of_Contained (D : Path) (s0 s : FS) (h : Contained D s0 s) : linksInsideB D s = true := by
  unfold linksInsideB
  rw [List.all_eq_true]
  intro p _
  cases hp : isPrefix D p with
  | false => simp
  | true =>
    simp only [Bool.not_true, Bool.false_or]
    cases hg : s.get p with
    | none => rfl
    | some o =>
      cases o with
      | dir => rfl
      | file c => rfl
      | link t =>
        simp only
        cases hr : linkDest D s (fuelFor s t.comps) p t with
        | error e => rfl
        | ok r => exact h.2 p t hp hg _ r hr

/-- fuel: `resolve`'s answer is independent of the fuel unless the fuel ran out … -/
theorem C06_fuel_monotone (D : Path) (s : FS) (fuel : Nat) (cur : Path) (cs : List String) (x : Except RErr Path)
    (h : resolve D s fuel cur cs = x) (hx : x ≠ .error .loop) (k : Nat) : resolve D s (fuel + k) cur cs = x :=
  resolve_fuel_mono D s fuel cur cs x h hx k

/-- … and the fuel the model uses (`fuelFor`: path length + 40 link texts) never runs out on a path that meets no
link, however long the name is -/
theorem C06_fuel_adequate_nolink (D : Path) (s : FS) (hnl : ∀ p t, s.get p ≠ some (.link t)) (cur : Path) (cs : List String) :
    resolveA D s cur cs ≠ .error .loop := by
  exact resolve_nolink_adequate D s hnl _ cur cs (by unfold fuelFor; omega)

/-- the resolution lemma on its own: the core of the containment argument -/
theorem C06_resolution_stays_inside (D : Path) (s : FS)
    (hl : ∀ p t, isPrefix D p = true → s.get p = some (.link t) → ".." ∉ t.comps)
    (fuel : Nat) (cur : Path) (cs : List String) (r : Path)
    (hcur : isPrefix D cur = true) (hcs : ".." ∉ cs) (h : resolve D s fuel cur cs = .ok r) : isPrefix D r = true :=
  resolve_inside D s hl fuel cur cs r hcur hcs h

/-! ### the full statement fails: finding 37 -/

def exD : Path := ["sb", "target"]
def exS0 : FS := ((⟨fun _ => none, []⟩ : FS).put [] .dir |>.put ["sb"] .dir |>.put ["sb", "target"] .dir)
def lnk (name : List String) (abs : Bool) (comps : List String) (raw : String) : TarEntry := ⟨'l', false, name, 0, abs, comps, raw, 0⟩
def reg (name : List String) (cid : Nat) : TarEntry := ⟨'r', false, name, cid, false, [""], "", 2⟩

/-- `s → /`, `t → s/..`: both pass the lexical check; the kernel resolves `target/t` to `sb`, outside the target -/
def ex37 : List TarEntry := [lnk ["s"] true ["", ""] "/", lnk ["t"] false ["s", ".."] "s/.."]

theorem C06_unpack_contained_fails :
    (unpackAll exD exS0 ex37).1.get ["sb", "target", "t"] = some (.link ⟨false, ["s", ".."], "s/.."⟩) ∧
    linkDest exD (unpackAll exD exS0 ex37).1 50 ["sb", "target", "t"] ⟨false, ["s", ".."], "s/.."⟩ = .ok ["sb"] ∧
    isPrefix exD ["sb"] = false ∧
    containedB exD exS0 (unpackAll exD exS0 ex37).1 = false :=
  ⟨by decide +kernel, by rfl, by decide +kernel, by decide +kernel⟩

theorem C06_unpack_not_contained : ¬ Contained exD exS0 (unpackAll exD exS0 ex37).1 := by
  intro h
  have := h.2 ["sb", "target", "t"] ⟨false, ["s", ".."], "s/.."⟩ (by decide) C06_unpack_contained_fails.1 50 ["sb"]
    C06_unpack_contained_fails.2.1
  exact absurd this (by decide)

/-- through the escaping link nothing is created outside (the model mirrors the code after fix dccd4936) — neither the link
`t/x` nor the directory `t/d` (`mkdirAllInside`, and the link's evaluated parent is tested like a regular file's) -/
def ex37b : List TarEntry := ex37 ++ [lnk ["t", "x"] false ["y"] "y", reg ["t", "d", "f"] 1]
example :
    (unpackAll exD exS0 ex37b).1.get ["sb", "x"] = none ∧
    (unpackAll exD exS0 ex37b).1.get ["sb", "d"] = none ∧
    outsideUnchangedB exD exS0 (unpackAll exD exS0 ex37b).1 = true := by decide +kernel

/-- the hypothesis is only sufficient: an ordinary relative link with a leading `..` fails it and is contained -/
def exRel : List TarEntry := [reg ["usr", "lib", "y"] 1, lnk ["usr", "bin", "x"] false ["..", "lib", "y"] "../lib/y"]
theorem C06_hypothesis_only_sufficient :
    noDotDotTargets exRel = false ∧ containedB exD exS0 (unpackAll exD exS0 exRel).1 = true ∧
    (unpackAll exD exS0 exRel).1.get ["sb", "target", "usr", "bin", "x"] = some (.link ⟨false, ["..", "lib", "y"], "../lib/y"⟩) := by decide +kernel

/-- the witness violates the hypothesis, as it must -/
example : noDotDotTargets ex37 = false := by decide +kernel

/-! ### non-vacuity: a stream with hostile names, an absolute link, a link to a sibling directory and a write through
it satisfies the hypothesis, is unpacked non-trivially and is contained -/
def exOK : List TarEntry :=
  [ reg ["..", "target-evil", "x"] 1,            -- refused: outside
    reg ["a", "..", "..", "target", "b", "f"] 2, -- cleans to b/f inside
    lnk ["l"] true ["", "b"] "/b",               -- absolute link to target/b
    reg ["l", "g"] 3,                            -- written through the link
    lnk ["m"] false ["b", "f"] "b/f" ]
example : noDotDotTargets exOK = true := by decide +kernel
example : (unpackAll exD exS0 exOK).1.get ["sb", "target", "b", "f"] = some (.file 2) ∧
    (unpackAll exD exS0 exOK).1.get ["sb", "target", "b", "g"] = some (.file 3) ∧
    (unpackAll exD exS0 exOK).1.get ["sb", "target-evil"] = none ∧
    (unpackAll exD exS0 exOK).1.get ["sb", "target", "l"] = some (.link ⟨true, ["b"], ""⟩) ∧
    containedB exD exS0 (unpackAll exD exS0 exOK).1 = true := by decide +kernel
example : exS0.get exD = some .dir := by decide +kernel

/-! ### the non-retain mode reads a relative link target relative to the link (fix <P4>) -/

/-- sandbox with a working directory `w` holding a file `a` (content 99) -/
def exS0w : FS := (exS0.put ["w"] .dir).put ["w", "a"] (.file 99)
def cfgCopy : Cfg := { Cfg.dflt with retain := false, cwd := ["w"] }
/-- `usr/a` (content 1) and the link `usr/x -> a` beside it: the copy written for `usr/x` holds 1, whatever the working
directory has -/
theorem C06_unpack_nonretain_reads_beside_the_link :
    (unpackAllC cfgCopy exD exS0w [reg ["usr", "a"] 1, lnk ["usr", "x"] false ["a"] "a"]).1.get ["sb", "target", "usr", "x"] = some (.file 1) := by decide +kernel

end Scalibr.Unpack
