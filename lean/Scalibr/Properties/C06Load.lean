/-
C06, load path — "Loading … a container image never creates, modifies or deletes anything outside the directory
designated for it (the image's own temporary extraction directory) … After clean-up the image's temporary directory is
gone."  Stated on the life-cycle model `Model/ImageLife.lean` of `image.FromV1Image` / `handleImageError` /
`Image.CleanUp`: whatever goes wrong and wherever (before the directory exists, creating it, at the root node, at any
chain layer while creating its directory, opening it or filling it from the tar), every exit path leaves TMPDIR as it
found it — a failed load immediately, a successful one after `CleanUp` — and no other directory of TMPDIR is ever
touched.  The tie to the Go code is the `c06load` stream (fresh TMPDIR per load; archives that fail part-way at the
first, a middle and the last layer; every exit an input can reach, the other two — root node insertion, v1 layer index —
on the model alone).

The life-cycle model has no entry names, so it cannot say WHERE the loader writes.  That is the
second half of this file, on Model/LoadDisk.lean: the loader's disk operations over the sandbox file system of the
unpacker model — physical path resolution, `os.MkdirAll` and `os.OpenFile` that follow whatever symbolic link is in their
way, no containment test anywhere — for every sequence of layers and entries (any names: "..", absolute, prefix look-
alikes; any order; files, directories, links) and every choice of which entries the path tree lets through:
`C06_load_disk_outside_unchanged` (nothing outside the extraction directory `D` is created, modified or deleted, at the
end of a successful load and after a failed one), `C06_load_disk_no_link_inside` (no symbolic link exists below `D`, so
none resolves outside), `C06_load_disk_failed_gone`, `C06_load_disk_cleanup` (after `CleanUp` the sandbox is the one
`os.MkdirTemp` found, minus `D`).  Hypotheses: `D` is a directory and no symbolic link is below it when the load starts
(`os.MkdirTemp` has just made it: it is empty) and no layer directory is called ".." (they are `layer-<i>`:
`layerName_ne_dotdot`).  `C06_load_disk_link_would_escape` shows the model is not containment by construction: with one
symbolic link below `D` at the start, the same operations write outside.  Not tied by a stream of its own: the hostile
half of `c06load` observes the implementation (whole sandbox before / after load / after CleanUp); the model shares
`cleanComps`, `resolve` and `FS` with the unpacker model, which its stream validates.  Inherited from that model: the
directories above `D` are plain directories; an absolute link target is stored relative to `D`.
-/
import Scalibr.Model.ImageLife
import Scalibr.Proofs.ImageLife
import Scalibr.Proofs.LoadDisk
namespace Scalibr.ImageLife

/-- every exit of `FromV1Image` leaves the other directories of TMPDIR alone, and either returns the directory
`MkdirTemp` made or has TMPDIR back as it found it -/
theorem fromV1Image_shape (tmp : Tmp) (fresh : Nat) (r : Run) (hf : ∀ x ∈ tmp, x.name ≠ fresh) :
    removeAll (fromV1Image tmp fresh r).2 fresh = tmp ∧
    ((fromV1Image tmp fresh r).1 = some fresh ∨ fromV1Image tmp fresh r = (none, tmp)) := by
  have hrm : removeAll tmp fresh = tmp := List.filter_eq_self.mpr fun x hx => by simp [hf x hx]
  have hfr := removeAll_fresh tmp fresh [] hf
  fun_cases fromV1Image tmp fresh r
  case case3 => exact ⟨(removeAll_idem _ fresh).trans hfr, .inr (congrArg (Prod.mk none) hfr)⟩
  case case4 =>
    obtain ⟨h1, h2⟩ := loop_shape fresh (⟨fresh, []⟩ :: tmp) r.layers
    exact ⟨h1.trans hfr, h2.imp_right fun h => h.trans (congrArg (Prod.mk none) hfr)⟩
  all_goals exact ⟨hrm, .inr rfl⟩

/-- **A failed load leaves TMPDIR exactly as it found it** — whichever step failed. -/
theorem C06_load_failed_restores (tmp : Tmp) (fresh : Nat) (r : Run) (hf : ∀ x ∈ tmp, x.name ≠ fresh)
    (h : (fromV1Image tmp fresh r).1 = none) : (fromV1Image tmp fresh r).2 = tmp := by
  rcases (fromV1Image_shape tmp fresh r hf).2 with h' | h'
  · rw [h] at h'; cases h'
  · rw [h']

/-- **A successful load followed by `CleanUp` leaves TMPDIR exactly as it was**, and the image it returns is the
directory `MkdirTemp` made. -/
theorem C06_load_cleanup_restores (tmp : Tmp) (fresh : Nat) (r : Run) (hf : ∀ x ∈ tmp, x.name ≠ fresh) (d : Nat)
    (h : (fromV1Image tmp fresh r).1 = some d) : d = fresh ∧ cleanUp (fromV1Image tmp fresh r).2 d = tmp := by
  obtain ⟨h1, h2 | h2⟩ := fromV1Image_shape tmp fresh r hf
  · rw [h] at h2; cases h2; exact ⟨rfl, h1⟩
  · rw [h2] at h; cases h

/-- **Nothing else in TMPDIR is ever touched**, on any path. -/
theorem C06_load_others_untouched (tmp : Tmp) (fresh : Nat) (r : Run) (hf : ∀ x ∈ tmp, x.name ≠ fresh) :
    removeAll (fromV1Image tmp fresh r).2 fresh = tmp :=
  (fromV1Image_shape tmp fresh r hf).1

/-! non-vacuity: three chain layers, the middle one fails while being filled: the two layer directories created so far
vanish with the image directory; and a clean run -/
def okL : LayerRun := ⟨false, true, true, true, true⟩
def exTmp : Tmp := [⟨7, [0]⟩]
example : fromV1Image exTmp 1 ⟨true, true, true, [okL, { okL with filled := false }, okL]⟩ = (none, exTmp) := by decide +kernel
example : fromV1Image exTmp 1 ⟨true, true, true, [okL, okL]⟩ = (some 1, [⟨1, [0, 1]⟩, ⟨7, [0]⟩]) := by decide +kernel

end Scalibr.ImageLife

namespace Scalibr.LoadDisk
open Scalibr.GoPath Scalibr.Unpack

/-- the loader's layer directories are called `layer-<i>` -/
def layerName (i : Nat) : String := "layer-" ++ toString i

theorem layerName_ne_dotdot (i : Nat) : layerName i ≠ ".." := by
  intro h
  have := congrArg String.length h
  unfold layerName at this
  rw [String.length_append] at this
  have h6 : "layer-".length = 6 := by decide +kernel
  have h2 : "..".length = 2 := by decide +kernel
  omega

theorem NL_start (D : Path) (s0 : FS) (hD : s0.get D = some .dir)
    (hnl : ∀ p t, isPrefix D p = true → s0.get p ≠ some (.link t)) : NL D s0 s0 :=
  ⟨fun _ _ => rfl, fun p t hp hg => hnl p t hp hg, hD⟩

/-- a load ends with the state the layers left, or — `handleImageError` — with that state minus the extraction
directory -/
theorem load_eq (D : Path) (s0 : FS) (ls : List LayerIn) :
    load D s0 ls = (true, (layers D s0 ls).state) ∨ load D s0 ls = (false, removeTree D (layers D s0 ls).state) := by
  unfold load
  cases layers D s0 ls
  · exact .inl rfl
  · exact .inr rfl
  · exact .inr rfl

theorem removeTree_get (D : Path) (s : FS) (p : Path) :
    (removeTree D s).get p = if isPrefix D p then none else s.get p := rfl

/-- **Loading never creates, modifies or deletes anything outside the image's extraction directory** — whatever entry
names, link targets, entry orders and layers the archives contain, whichever entries reach the disk, whether the load
succeeds or fails part-way (and is cleaned up). -/
theorem C06_load_disk_outside_unchanged (D : Path) (s0 : FS) (ls : List LayerIn) (hD : s0.get D = some .dir)
    (hnl : ∀ p t, isPrefix D p = true → s0.get p ≠ some (.link t)) (hn : ∀ l ∈ ls, l.name ≠ "..") :
    ∀ p, isPrefix D p = false → (load D s0 ls).2.get p = s0.get p := by
  intro p hp
  have hS := (layers_safe ls s0 hn (NL_start D s0 hD hnl)).1 p hp
  rcases load_eq D s0 ls with h | h <;> rw [h]
  · exact hS
  · rw [removeTree_get, hp]; exact hS

/-- **No symbolic link is left inside the extraction directory** (so none resolves to a location outside it): links of
the image exist in the path tree only. -/
theorem C06_load_disk_no_link_inside (D : Path) (s0 : FS) (ls : List LayerIn) (hD : s0.get D = some .dir)
    (hnl : ∀ p t, isPrefix D p = true → s0.get p ≠ some (.link t)) (hn : ∀ l ∈ ls, l.name ≠ "..") :
    ∀ p t, isPrefix D p = true → (load D s0 ls).2.get p ≠ some (.link t) := by
  intro p t hp
  rcases load_eq D s0 ls with h | h <;> rw [h]
  · exact (layers_safe ls s0 hn (NL_start D s0 hD hnl)).2.1 p t hp
  · rw [removeTree_get, hp]; exact nofun

/-- a failed load leaves nothing at or below the extraction directory -/
theorem C06_load_disk_failed_gone (D : Path) (s0 : FS) (ls : List LayerIn) (h : (load D s0 ls).1 = false) :
    ∀ p, isPrefix D p = true → (load D s0 ls).2.get p = none := by
  intro p hp
  rcases load_eq D s0 ls with h' | h' <;> rw [h'] at h ⊢
  · cases h
  · rw [removeTree_get, hp]; rfl

/-- **After clean-up** (`os.RemoveAll` of the extraction directory, after a successful or a failed load) the sandbox is
what `os.MkdirTemp` found, and the extraction directory is gone. -/
theorem C06_load_disk_cleanup (D : Path) (s0 : FS) (ls : List LayerIn) (hD : s0.get D = some .dir)
    (hnl : ∀ p t, isPrefix D p = true → s0.get p ≠ some (.link t)) (hn : ∀ l ∈ ls, l.name ≠ "..") (p : Path) :
    (removeTree D (load D s0 ls).2).get p = if isPrefix D p then none else s0.get p := by
  rw [removeTree_get]
  cases hp : isPrefix D p with
  | true => rfl
  | false => exact C06_load_disk_outside_unchanged D s0 ls hD hnl hn p hp

/-! ### the model is not containment by construction, and the theorems are not vacuous -/

def mkFS (l : List (Path × Obj)) : FS := l.foldl (fun s x => s.put x.1 x.2) ⟨fun _ => none, []⟩
def exD : Path := ["tmp", "img"]
/-- an entry by the '/'-separated components of its name (`abs`: the name begins with "/") -/
def ent (typ : Char) (name : List String) (cid : Nat := 1) (abs : Bool := false) : TarEntry := ⟨typ, abs, name, cid, false, [], "", 1⟩
/-- sandbox: tmp/img (just made), victim/secret -/
def exS0 : FS := mkFS [(["tmp"], .dir), (["tmp","img"], .dir), (["victim"], .dir), (["victim","secret"], .file 7)]
/-- the same with a symbolic link `tmp/img/layer-0/k -> ../../../victim` already there -/
def exBad : FS := (exS0.put ["tmp","img","layer-0"] .dir).put ["tmp","img","layer-0","k"] (.link ⟨false, ["..","..","..","victim"], "../../../victim"⟩)

/-- with a link below `D` at the start (hypothesis `hnl` violated) the very same operations overwrite `victim/secret`
and create `victim/pwn`: `mkdirAllOS` / `openCreate` follow links and test nothing -/
theorem C06_load_disk_link_would_escape :
    let r := load exD exBad [⟨"layer-0", [(ent 'r' ["k","secret"] 9, true), (ent 'r' ["k","pwn"] 9, true)]⟩]
    r.1 = true ∧ r.2.get ["victim","secret"] = some (.file 9) ∧ r.2.get ["victim","pwn"] = some (.file 9) := by decide +kernel

/-- hostile names on the fresh directory: `../../victim/x`, `/victim/secret`, `..`, a link `k` and `k/secret`, `a/../../b/`, `./c//d`: all
inside (or skipped), `victim` untouched, and the files that are written are where the loader means them -/
def exHostile : List LayerIn :=
  [⟨"layer-0", [(ent 'r' ["..","..","victim","x"], true), (ent 'r' ["","victim","secret"] 5 true, true), (ent 'd' [".."], true),
                (ent 'l' ["k"], true), (ent 'r' ["k","secret"] 9, true), (ent 'd' ["a","..","..","b",""], true), (ent 'r' [".","c","","d"] 4, true)]⟩]
example :
    let r := load exD exS0 exHostile
    r.1 = true ∧ r.2.get ["victim","secret"] = some (.file 7) ∧ r.2.get ["victim","x"] = none ∧
    r.2.get ["tmp","img","layer-0","victim","secret"] = some (.file 5) ∧ r.2.get ["tmp","img","layer-0","k","secret"] = some (.file 9) ∧
    r.2.get ["tmp","img","layer-0","c","d"] = some (.file 4) ∧ r.2.get ["tmp","img","b"] = none := by decide +kernel
/-- a file used as a directory is the fatal kind `c`: the load fails and the directory is removed -/
example :
    let r := load exD exS0 [⟨"layer-0", [(ent 'r' ["a"], true), (ent 'r' ["a","b"], true)]⟩]
    r.1 = false ∧ r.2.get ["tmp","img"] = none ∧ r.2.get ["tmp","img","layer-0","a"] = none ∧ r.2.get ["victim","secret"] = some (.file 7) := by decide +kernel

end Scalibr.LoadDisk
