/-
C14 — Every emitted package is well-formed and convertible  (PARTIAL: level `other`).

Kernel-checked here:
* over tables REGENERATED from /repo on every run (`Scalibr.Gen.Purl`, written by
  /verif/translator/cmd/purldump): every purl type reachable from a built-in extractor's `ToPURL` is a
  key of `purl.validType`'s table, so `purl.FromString` cannot reject a built-in package's purl for its type;
* for ALL package lists: the package index returns a package when queried by its purl's type and name,
  returns nothing else, and each query is the corresponding filter of the indexed list.
* for ALL packages: the generic field copying of `binary/proto/proto.go` (model `Scalibr.ProtoPkg`) is
  LOSSLESS — reading the record back gives the package's name, version, locations, purl, layer details,
  source code, annotations (`C14_proto_lossless_partial`, with the two exceptions decided as
  counterexamples) — and the SPDX / CycloneDX exporters (model `Scalibr.Sbom`) carry the purl / name /
  version / locations of every package.
  The per-field statements `C14_proto_fields`, `C14_proto_purl`, `C14_proto_list`,
  `C14_cdx_fields` are DEFINITIONAL: they restate the Lean record builder (`rfl`). They are kept because
  they spell out, field by field, what the model claims the Go code does; their content is the
  correspondence stream (`proto` op of harness/cmd/c14gen against `Drivers/C14.lean`: the real
  `proto.ScanResultToProto` on harvested and synthetic packages, every generic field compared with this
  builder), respectively C15's stream for the SBOM model. What is stated against something other than
  the builder: `C14_proto_lossless_partial` (against the reader `Scalibr.ProtoPkg.read`), the wrap and
  annotation counterexamples, and `C14_spdx_fields` (against `Scalibr.Sbom.spdxRecord`, a filter).
* for ALL scan results: the non-package part of the result proto (model `Scalibr.ProtoResult`: scan / plugin statuses,
  findings with advisory, severity, CVSS, target, the early error return, the deprecated copies) — the conversion's
  OUTCOME is the specification's (error of the first finding without advisory / id, else success:
  `C14_result_outcome`, never a panic: `C14_result_never_panics`), reading the record back gives the result
  (`C14_result_lossless_partial`, for representable values); the detector names are carried (`C14_result_detectors`); and `typeForPath` accepts exactly the paths ending
  in .binproto / .textproto [.gz] (`C14_file_type`, for all paths).
Not proved (exercised by the harvest / layout / accept / purlrt streams, which are testing): that the 58
`ToPURL` / `Ecosystem` implementations never panic on what `Extract` returned and give a non-empty name and
a location; packageurl-go's printing and parsing (idempotence; type acceptance of the data-determined purls
of the two SBOM extractors); the ecosystem-name conversion.
-/
import Scalibr.Proofs.Index
import Scalibr.Base.Keyed
import Scalibr.Proofs.Lists
import Scalibr.Gen.Purl
import Scalibr.Spec.ProtoPkg
import Scalibr.Proofs.SbomFields
import Scalibr.Proofs.ProtoResult
import Scalibr.Proofs.ProtoFile
namespace Scalibr.Index
open Scalibr.Gen.Purl

/-! ### purl types (regenerated tables) -/

/-- Every purl type a built-in `ToPURL` can produce in code is accepted by `purl.validType`
(the emitted types are lower-cased by the translator, as `validType` does before its lookup).
Stated over the source's table: when `validType` is no longer a map-literal lookup
(`validTableFound = false`, empty table) this fails on purpose, and the runtime `accept` stream of
harness/cmd/c14gen — the real `purl.FromString` on every emitted type — names the rejected type. -/
theorem C14_types_accepted : ∀ e ∈ emitted, e.2.2 ∈ validTypes := by
  have h : emitted.all (fun e => memBy strKey e.2.2 validTypes) = true := by decide +kernel
  exact fun e he => mem_of_memBy strKey (List.all_eq_true.mp h e he)

/-- The translator evaluated every `Type:` expression it met (nothing it does not understand is hidden). -/
theorem C14_types_resolved : unresolved = [] := by decide

/-- Every built-in extractor package is accounted for: its `ToPURL` builds a purl with a listed type,
only ever returns nil, or hands back a purl found in the scanned data (the two SBOM extractors). -/
theorem C14_extractors_covered :
    ∀ p ∈ extractorPackages, p ∈ emitted.map (·.1) ∨ p ∈ nilOnly ∨ p ∈ dynamic.map (·.1) := by
  -- the package paths share long prefixes, which is what string comparison is slowest on: see `Base/Keyed`
  have h : extractorPackages.all (fun p => memBy strKey p (emitted.map (·.1) ++ nilOnly ++ dynamic.map (·.1))) = true := by
    decide +kernel
  intro p hp
  have := mem_of_memBy strKey (List.all_eq_true.mp h p hp)
  rwa [List.mem_append, List.mem_append, or_assoc] at this

/-- `validType` lower-cases its argument before the lookup, so a table key with an upper-case letter
could never match: there is none. -/
theorem C14_valid_lowercase : ∀ t ∈ validTypes, t.toList.all (fun c => !c.isUpper) = true := by decide +kernel

/-! ### package index (all package lists) -/

/-- `GetSpecific(name, type)` = the packages whose purl has that type and name, in extraction order. -/
theorem C14_index (pkgs : List Pkg) (n t : String) :
    getSpecific (new pkgs) n t = pkgs.filter (fun p => p.purl = some (t, n)) := new_getSpecific pkgs n t

/-- `GetAllOfType(type)` = the packages whose purl has that type, in some order (Go map iteration). -/
theorem C14_index_type (pkgs : List Pkg) (t : String) :
    (getAllOfType (new pkgs) t).Perm (pkgs.filter fun p => purlType p = some t) := new_getAllOfType pkgs t

/-- `GetAll()` = the packages that have a purl, in some order. -/
theorem C14_index_all (pkgs : List Pkg) : (getAll (new pkgs)).Perm (pkgs.filter hasPurl) := new_getAll pkgs

/-- The index returns a package when queried by its purl's type and name. -/
theorem C14_index_has (pkgs : List Pkg) (p : Pkg) (t n : String) (hp : p ∈ pkgs) (hu : p.purl = some (t, n)) :
    p ∈ getSpecific (new pkgs) n t ∧ p ∈ getAllOfType (new pkgs) t ∧ p ∈ getAll (new pkgs) := new_has pkgs p t n hp hu

/-- Nothing that was not indexed, and no package without a purl, is ever returned. -/
theorem C14_index_only (pkgs : List Pkg) (p : Pkg) (h : p ∈ getAll (new pkgs)) :
    p ∈ pkgs ∧ p.purl.isSome = true := new_only pkgs p h

/-! ### non-vacuity -/
example : emitted.length ≥ 50 ∧ validTypes.length ≥ 30 := by decide +kernel
example : getSpecific (new [⟨0, some ("deb", "a")⟩, ⟨1, none⟩, ⟨2, some ("deb", "b")⟩, ⟨3, some ("deb", "a")⟩]) "a" "deb" =
    [⟨0, some ("deb", "a")⟩, ⟨3, some ("deb", "a")⟩] := by decide
/-- what the `snap` defect looked like: an emitted type outside the table is caught -/
example : ¬ (∀ e ∈ [("os/snap", "TypeSnap", "snap")], e.2.2 ∈ ["deb", "rpm"]) := by decide

end Scalibr.Index

/-! ### result proto: the generic field copying of `binary/proto/proto.go` (all packages, all extractors) -/

namespace Scalibr.ProtoPkg

/-- (definitional, see the header) The proto record carries the package's name, version, locations (same order),
extractor name, ecosystem, source code identifier and one annotation per annotation — verbatim, for every package. -/
theorem C14_proto_fields {M PM : Type} (ops : Ops M PM) (pkg : Package M) :
    (packageToProto ops pkg).name = pkg.name ∧
    (packageToProto ops pkg).version = pkg.version ∧
    (packageToProto ops pkg).locations = pkg.locations ∧
    (packageToProto ops pkg).extractor = ops.extractorName pkg ∧
    (packageToProto ops pkg).ecosystem = ops.ecosystem pkg ∧
    (packageToProto ops pkg).sourceCode = pkg.sourceCode ∧
    (packageToProto ops pkg).annotations.length = pkg.annotations.length ∧
    (packageToProto ops pkg).metadata = ops.setMeta pkg.metadata := by
  exact ⟨rfl, rfl, rfl, rfl, rfl, sourceCodeToProto_id _, by simp [packageToProto], rfl⟩

/-- (definitional) The proto purl is `ToPURL`'s purl, field by field (qualifiers in order), with its printed form; no
purl record iff `ToPURL` returned nil. -/
theorem C14_proto_purl {M PM : Type} (ops : Ops M PM) (pkg : Package M) :
    (ops.toPURL pkg = none → (packageToProto ops pkg).purl = none) ∧
    (∀ u, ops.toPURL pkg = some u →
      (packageToProto ops pkg).purl =
        some ⟨ops.purlString u, u.typ, u.ns, u.name, u.version, u.qualifiers, u.subpath⟩) := by
  unfold packageToProto
  refine ⟨fun h => by simp [h, purlToProto], fun u h => ?_⟩
  simp [h, purlToProto, qualifiersToProto]

/-- Layer details are carried verbatim (index within int32 range, as layer indexes are); none iff none. -/
theorem C14_proto_layer_partial {M PM : Type} (ops : Ops M PM) (pkg : Package M) :
    (pkg.layerDetails = none → (packageToProto ops pkg).layerDetails = none) ∧
    (∀ ld, pkg.layerDetails = some ld → -2147483648 ≤ ld.index → ld.index < 2147483648 →
      (packageToProto ops pkg).layerDetails = some ⟨ld.index, ld.diffID, ld.command, ld.inBaseImage⟩) := by
  unfold packageToProto
  refine ⟨fun h => by simp [h, layerDetailsToProto], fun ld h h1 h2 => ?_⟩
  simp [h, layerDetailsToProto, toInt32_id ld.index h1 h2]

/-- … and NOT beyond: the full-strength "verbatim" fails for an index that does not fit an int32
(`int32(ld.Index)` wraps) — no real image has 2³¹ layers; the hypothesis above is exactly this. -/
theorem C14_proto_layer_wraps : toInt32 2147483648 = -2147483648 ∧ toInt32 4294967296 = 0 := by decide

/-- The three known annotations are told apart; everything else becomes UNSPECIFIED. -/
theorem C14_proto_annotations :
    annotationToProto 1 = .transitional ∧ annotationToProto 2 = .insideOSPackage ∧ annotationToProto 3 = .insideCacheDir ∧
    ∀ a : Int, a ≠ 1 → a ≠ 2 → a ≠ 3 → annotationToProto a = .unspecified := by
  refine ⟨rfl, rfl, rfl, fun a h1 h2 h3 => ?_⟩
  simp [annotationToProto, h1, h2, h3]

/-- (definitional: the loop is a `map`) The result lists one record per package, in inventory order: record `i`
is the conversion of package `i`. -/
theorem C14_proto_list {M PM : Type} (ops : Ops M PM) (pkgs : List (Package M)) :
    (packagesToProto ops pkgs).length = pkgs.length ∧
    ∀ i (h : i < pkgs.length), (packagesToProto ops pkgs)[i]? = some (packageToProto ops pkgs[i]) := by
  unfold packagesToProto
  refine ⟨by simp, fun i h => by simp [h]⟩

/-- LOSSLESS. Reading the record back gives the package's generic content — name, version, locations in order,
purl fields and printed form, layer details, source code, annotations, ecosystem, extractor — for every package
whose annotations are the declared ones and whose layer index fits an int32. -/
theorem C14_proto_lossless_partial {M PM : Type} (ops : Ops M PM) (pkg : Package M) (h : Representable pkg) :
    read (packageToProto ops pkg) = genericOf ops pkg := by
  obtain ⟨ha, hl⟩ := h
  have hann : (pkg.annotations.map annotationToProto).map readAnnotation = pkg.annotations := by
    rw [List.map_map]
    exact Lists.map_eq_self fun a hm => by rcases ha a hm with rfl | rfl | rfl | rfl <;> rfl
  have hlay : (layerDetailsToProto pkg.layerDetails).map (fun l => (⟨l.index, l.diffID, l.command, l.inBaseImage⟩ : LayerDetails)) =
      pkg.layerDetails := by
    cases hld : pkg.layerDetails with
    | none => rfl
    | some ld =>
      obtain ⟨h1, h2⟩ := hl ld hld
      simp [layerDetailsToProto, toInt32_id ld.index h1 h2]
  unfold read genericOf packageToProto
  simp only [hann, sourceCodeToProto_id, hlay]
  cases ops.toPURL pkg <;> simp [purlToProto, qualifiersToProto]

/-- … and `Representable` is needed: two different packages (annotation 0 vs 7; layer index 0 vs 2³²) have the
same record. -/
theorem C14_proto_not_injective_outside :
    let ops : Ops Unit Unit := ⟨fun _ => none, fun _ => "", fun _ => "", fun _ => "", fun _ => none⟩
    let p (a : Int) (i : Int) : Package Unit := ⟨"n", "1", none, [], [a], some ⟨i, "", "", false⟩, ()⟩
    read (packageToProto ops (p 0 0)) = read (packageToProto ops (p 7 4294967296)) := by
  decide

end Scalibr.ProtoPkg

/-! ### SBOM exporters (model of `converter.ToSPDX23` / `ToCDX`: `Scalibr.Sbom`, tied to the code by C15's stream) -/

namespace Scalibr.Sbom

/-- Every SPDX package record after the synthetic `main` one carries the purl name, purl version, the purl string
and the location summary of its package, in inventory order; packages without an exportable purl are the only
ones left out. (Against `spdxRecord`, a filter; the exporter is a loop with a uuid counter.) -/
theorem C14_spdx_fields {Purl : Type} (ops : PurlOps Purl) (env : Env) (cfg : SPDXConfig) (inv : List (Pkg Purl)) :
    ((toSpdx ops env cfg inv).packages.drop 1).map (fun p => (p.name, p.version, p.extRefs.map (·.locator), p.sourceInfo)) =
      inv.filterMap (spdxRecord ops) := by
  unfold toSpdx
  simpa using spdxLoop_fields ops env _ inv 1

/-- NOT VERBATIM, by design of `ToSPDX23` (the property's sentence "the proto and SBOM records preserve name, version,
locations … and layer details verbatim" does not hold for SPDX as written): the SPDX record carries the PURL's name and
version, not `pkg.Name` / `pkg.Version`; of three locations only the first two survive, in free text; layer details are
not exported at all (`Sbom.Pkg` has no such field because neither exporter reads `LayerDetails`). Decided witness. -/
def nvOps : PurlOps (String × String) := ⟨fun u => "pkg:x/" ++ u.1 ++ "@" ++ u.2, fun _ => none, (·.1), (·.2)⟩
def nvPkg : Pkg (String × String) :=
  { name := "Display Name", version := "v1", locations := ["a", "b", "c"], extractor := "ex", purl := some ("purlname", "1"), cpes := [] }
theorem C14_spdx_not_verbatim :
    ((toSpdx nvOps ⟨fun _ => "u", "now"⟩ ⟨"", "", []⟩ [nvPkg]).packages.drop 1).map
        (fun p => (p.name, p.version, p.sourceInfo)) =
      [("purlname", "1", "Identified by the ex extractor from 3 locations, including a and b")] ∧
    nvPkg.name ≠ "purlname" ∧ nvPkg.version ≠ "1" := by
  refine ⟨by decide +kernel, by decide, by decide⟩

/-- (close to definitional: `cdxLoop` is a `map` with a uuid counter) Every CycloneDX component carries its
package's name, version, purl string ("" without purl) and all its locations in order — the component list is
always present, one component per package, in inventory order. -/
theorem C14_cdx_fields {Purl : Type} (ops : PurlOps Purl) (env : Env) (cfg : CDXConfig) (inv : List (Pkg Purl)) :
    ∃ cs, (toCdx ops env cfg inv).components = some cs ∧
      cs.map compFields =
        inv.map fun pkg => (pkg.name, pkg.version, (match pkg.purl with | some u => ops.str u | none => ""), pkg.locations) := by
  unfold toCdx
  exact ⟨_, rfl, cdxLoop_fields ops env inv 1⟩

end Scalibr.Sbom


/-! ## The rest of the result proto: statuses, findings, file names -/

namespace Scalibr.ProtoResult

/-- OUTCOME. For EVERY scan result `ScanResultToProto` fails exactly as the specification says: with the error of the FIRST
finding that has no advisory / no advisory id, and succeeds otherwise. -/
theorem C14_result_outcome {S P PP T : Type} (pk : P → PP) (r : ScanResult S P T) :
    (scanResultToProto pk r).erase = specOutcome r.findings := by
  have := findingsLoop_outcome pk r.findings []
  unfold scanResultToProto
  cases hl : findingsLoop pk r.findings [] <;> rw [hl] at this <;> exact this

/-- the conversion never panics (fix of C14/finding-nil-severity-panics: an advisory without severity gives a record without one) -/
theorem C14_result_never_panics {S P PP T : Type} (pk : P → PP) (r : ScanResult S P T) : scanResultToProto pk r ≠ .panic := by
  intro h
  have ho := C14_result_outcome pk r
  rw [h] at ho
  exact specOutcome_ne_panic r.findings ho.symm

/-- LOSSLESS. For a result whose values the record can represent (declared enum constants, plugin versions within int32) and
whose findings all have an advisory with id: the conversion succeeds, reading the record
back gives the result's generic content (statuses, reasons, plugin names / versions, every advisory / severity / CVSS / target
field, the detector names, in order), and the two deprecated copies equal the inventory's lists. -/
theorem C14_result_lossless_partial {S P PP T : Type} (pk : P → PP) (r : ScanResult S P T)
    (hs : StatusOK r.status) (hp : ∀ s ∈ r.pluginStatus, PluginOK s) (hf : ∀ f ∈ r.findings, FindingOK f) :
    ∃ p, scanResultToProto pk r = .ok p ∧ read p = generic pk r ∧
      p.inventoriesDeprecated = p.packages ∧ p.findingsDeprecated = p.findings := by
  obtain ⟨ps, hps, hm⟩ := findingsLoop_lossless pk r.findings [] hf
  refine ⟨_, by simp only [scanResultToProto, hps]; rfl, ?_, rfl, rfl⟩
  have hpl : (r.pluginStatus.map pluginStatusToProto).map readPlugin = r.pluginStatus := by
    rw [List.map_map]
    exact Lists.map_eq_self fun s hs' => readPlugin_pluginStatusToProto s (hp s hs')
  simp only [read, generic, readStatus_scanStatusToProto r.status hs, hpl, List.nil_append, hm]

/-- the record of a finding names the detectors the core library recorded (fix of C14/finding-detectors-dropped), for ALL findings -/
theorem C14_result_detectors {S P PP : Type} (pk : P → PP) (f : Finding S P) (p : PFinding S PP)
    (h : findingToProto pk f = .ok p) : p.detectors = f.detectors := by
  obtain ⟨adv, target, extra, dets⟩ := f
  rcases adv with _ | ⟨aid, typ, title, desc, recm, sev⟩
  · cases h
  · rcases aid with _ | id
    · cases h
    · rcases sev with _ | s <;> first | (cases h; rfl) | cases h

/-- every status value outside the three declared constants becomes UNSPECIFIED (the record cannot tell them apart) -/
theorem C14_result_status_default (s : ScanStatus) (h : s.status < 1 ∨ 3 < s.status) :
    (scanStatusToProto s).status = .unspecified := by
  unfold scanStatusToProto
  have h1 : s.status ≠ 1 := by omega
  have h2 : s.status ≠ 2 := by omega
  have h3 : s.status ≠ 3 := by omega
  simp [h1, h2, h3]

/-- FILE NAMES. `typeForPath` (hence `ValidExtension` / `Write`) accepts exactly the paths that end in `.binproto` or
`.textproto`, optionally followed by `.gz`, and gzips / writes binary accordingly — for all paths. -/
theorem C14_file_type (p : List Char) (ft : FileType) : typeForPath p = .ok ft ↔ specFileType p = some ft :=
  typeForPath_spec p ft

end Scalibr.ProtoResult
