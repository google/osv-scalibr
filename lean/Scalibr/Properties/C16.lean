/-
C16 — Concurrent parts are race-free and schedule-independent  (level `other`: partial).

What is proved here is about the Lean models (Model/Worklist, Model/Cache + Model/CacheLin; the two regenerated access
tables have their own modules C16Ticker.lean / C16CacheTable.lean); the Go memory model below the granularity of the
callbacks / critical sections and the race detector's view of the executed schedules are runtime (checks/c16.py runs
them and says so in META).

WHAT IS NONDETERMINISTIC AND WHAT IS NOT, in model (a).  The nondeterminism is the *scheduling of the patch attempts*:
which pending attempt's result the collector receives next (`exec σ`, σ any list of positions), hence the order in
which patches are appended and follow-up attempts are launched.  An attempt itself is ONE step: `patchFn : Task → Option
Patch` is a function of the vuln-id list.  That is an assumption about the callbacks the attempts make, not a theorem:
the resolve client (`Versions`, `Requirements`, `MatchingVersions`) and the vulnerability matcher are assumed to answer
as functions of their arguments, whatever else runs concurrently, and attempts share no other mutable state (each works
on `resolved.Manifest.Clone()`).  The theorems therefore do NOT cover interleavings *inside* an attempt at callback
granularity; what covers them is (i) part (b): the one piece of state the real clients share between attempts, the
request caches, is linearizable and single-flight (`C16_cache_linearizable_partial`, `C16_cache_once`), i.e. a client built
on it answers as a function of its arguments provided the upstream does; (ii) the harness: free runs of the real
ComputePatches whose attempts go through a shared, stateful, linearizable fake client (a real RequestCache under
Gosched/sleep perturbation, GOMAXPROCS 1/16, also under -race) must return the schedule-free result.
With `patchFn` a function, confluence of the *multiset* is close to "by construction" — the content of (a) is the rest:
the launched follow-ups depend on the delivered result (so the set of attempts is a closure, `C16_tasks_confluent`), the
final list is schedule-free under the one hypothesis of `C16_final_partial` (strict weak order of the version
comparison), which fails on concrete inputs (`C16_patchcmp_mixed_cycle`), and the loop needs a finiteness hypothesis to
terminate.  That patches comparing equal are identical (`CmpEqImpliesEq`), which the final list also rests on, holds of the
code as it is since fix 09778cd0 (`C16_compare_total`).

(a) `common.ComputePatches` as a nondeterministic worklist — `C16_confluent`, `C16_final_partial`, `C16_patchcmp_order_partial`,
    `C16_terminates_partial` and the decided counterexamples to their unrestricted forms.
(b) `RequestCache` at lock granularity — `C16_cache_inv`, `C16_cache_once`, `C16_cache_linearizable_partial` (+ the decided
    non-linearizable history with an overlapping SetMap), `C16_cache_provenance`, `C16_cache_content`, `C16_cache_shared`.
    Lock discipline of the struct fields: `C16_cache_guarded` (C16CacheTable.lean, regenerated table).
(c) the status ticker — `C16_ticker_guarded` (C16Ticker.lean, regenerated table).
-/
import Scalibr.Proofs.Worklist
import Scalibr.Proofs.WorklistSort
import Scalibr.Proofs.WorklistOutput
import Scalibr.Proofs.Cache
import Scalibr.Proofs.CacheLin
import Scalibr.Proofs.OnceCell
import Scalibr.Spec.Worklist
namespace Scalibr.C16
open Scalibr Scalibr.Worklist

/-! ## (a) ComputePatches -/

/-- **C16_confluent.** (Nondeterminism = the delivery order σ of attempt results; `patchFn`, i.e. the attempt with all
its resolve-client / matcher callbacks, is assumed to be a function of the id list — see the file header.)
For every strategy function, both spawning modes and every list of initial
vulnerabilities: two schedules (lists of positions in the pending list — every delivery order the Go scheduler
can produce) that run to completion collect permutations of one multiset of patches. -/
theorem C16_confluent (patchFn : Task → Option Patch) (grouped : Bool) (vulns : List Str)
    (σ σ' : List Nat) (c c' : List Patch)
    (h : exec (outCP patchFn) (spawnCP patchFn grouped) σ (initCP vulns) = some ⟨[], c⟩)
    (h' : exec (outCP patchFn) (spawnCP patchFn grouped) σ' (initCP vulns) = some ⟨[], c'⟩) :
    c.Perm c' :=
  exec_confluent _ _ σ σ' _ c c' h h'

/-- the same at the level of tasks: the multiset of `patchFunc` calls ever made is the closure of the initial
tasks under the spawn function, independent of the delivery order (generic worklist) -/
theorem C16_tasks_confluent {τ : Type} [DecidableEq τ] (spawn : τ → List τ) (P : List τ) (ps ps' : List τ)
    (h : Runs spawn P ps) (h' : Runs spawn P ps') : ps.Perm ps' :=
  h.confluent P ps' h' (List.Perm.refl _)

/-- **C16_compare_total** (since fix 09778cd0): `Patch.Compare` returns 0 only for identical patches — every patch, any
version comparison.  "Identical" is identity of the REDUCED model `Patch` (Model/Worklist.lean): an update is (Name, VersionFrom,
VersionTo, Transitive, alias) where the alias string stands for `PackageUpdate.Type` as far as the universes vary it, and a
fixed / introduced vulnerability is its ID (`result.Vuln.Packages` and `Unactionable` are not modelled: the Go comparison does
not look at them either; they are functions of the ID and the graphs).  Key 6 (per update VersionTo, VersionFrom, Transitive, Type; then the fixed and the introduced ids)
separates whatever keys 1–5 leave tied. -/
theorem C16_compare_total (vc : Str → Str → Int) (a b : Patch) (h : Patch.compare vc a b = 0) : a = b :=
  compare_eq_zero_imp_eq vc a b h

/-- hence `CmpEqImpliesEq` holds of every list of patches -/
theorem C16_cmpeq_holds (vc : Str → Str → Int) (c : List Patch) : CmpEqImpliesEq vc c :=
  fun a _ b _ h => compare_eq_zero_imp_eq vc a b h


/-! ### "sorted and de-duplicated" -/

/-- **C16_output_members** (no hypothesis): whatever the version comparison does, the list `ComputePatches` returns contains
exactly the patches that were collected — `CompactFunc` only ever drops a patch identical to its predecessor
(`C16_compare_total`).  With `C16_confluent`: under any two complete delivery orders the results contain the same patches. -/
theorem C16_output_members (patchFn : Task → Option Patch) (grouped : Bool) (vulns : List Str) (vc : Str → Str → Int)
    (σ σ' : List Nat) (c c' : List Patch)
    (h : exec (outCP patchFn) (spawnCP patchFn grouped) σ (initCP vulns) = some ⟨[], c⟩)
    (h' : exec (outCP patchFn) (spawnCP patchFn grouped) σ' (initCP vulns) = some ⟨[], c'⟩) (p : Patch) :
    (p ∈ sortCompact vc c ↔ p ∈ c) ∧ (p ∈ sortCompact vc c ↔ p ∈ sortCompact vc c') := by
  have hp := C16_confluent patchFn grouped vulns σ σ' c c' h h'
  refine ⟨mem_sortCompact vc c p, ?_⟩
  rw [mem_sortCompact, mem_sortCompact]; exact hp.mem_iff

/-- **C16_output_sorted_partial.**  Hypothesis: the version comparison is a strict weak order on a set `V` containing the
target versions of the collected patches (the one hypothesis of `C16_final_partial`).  Then the returned list is STRICTLY
increasing w.r.t. `Patch.Compare`: sorted, and no two entries compare equal. -/
theorem C16_output_sorted_partial (patchFn : Task → Option Patch) (grouped : Bool) (vulns : List Str)
    (V : Str → Prop) (vc : Str → Str → Int) (hvc : Cmp3 (fun x y => V x ∧ V y) vc) (σ : List Nat) (c : List Patch)
    (h : exec (outCP patchFn) (spawnCP patchFn grouped) σ (initCP vulns) = some ⟨[], c⟩)
    (hV : ∀ p ∈ c, ∀ u ∈ p.updates, V u.vto) :
    (sortCompact vc c).Pairwise (fun a b => Patch.compare vc a b < 0) :=
  sortCompact_strict V vc hvc c (collected_patchOK h hV)

/-- **C16_output_nodup_partial.**  Under the same hypothesis the returned list has no duplicates. -/
theorem C16_output_nodup_partial (patchFn : Task → Option Patch) (grouped : Bool) (vulns : List Str)
    (V : Str → Prop) (vc : Str → Str → Int) (hvc : Cmp3 (fun x y => V x ∧ V y) vc) (σ : List Nat) (c : List Patch)
    (h : exec (outCP patchFn) (spawnCP patchFn grouped) σ (initCP vulns) = some ⟨[], c⟩)
    (hV : ∀ p ∈ c, ∀ u ∈ p.updates, V u.vto) :
    (sortCompact vc c).Nodup :=
  sortCompact_nodup V vc hvc c (collected_patchOK h hV)

/-- FULL-STRENGTH statement that does NOT hold: "the returned list is de-duplicated" without the hypothesis on the version
comparison.  With mixed parsable / unparsable target versions (`C16_patchcmp_mixed_cycle`) the sort can leave identical patches
apart, and `CompactFunc` only looks at neighbours: of the six collected patches (each twice) four survive, two of them equal. -/
theorem C16_output_nodup_needs_order :
    let p9 := one "a" "9.0.0" ["V"]
    let p10 := one "a" "10.0.0" ["V"]
    let p1x := one "a" "1x" ["V"]
    (sortCompact demoVc [p9, p10, p1x, p9, p10, p1x]).length = 4 ∧ (sortCompact demoVc [p9, p10, p1x, p9, p10, p1x]).Nodup = False := by
  decide

/-- **C16_final_partial.** The value `ComputePatches` returns (sort by `Patch.Compare`, compact) is the same under any two
complete schedules.  The ONE hypothesis: the per-version comparison of step 5 is a strict weak order on a set `V`
containing the target versions of the collected patches.  It holds when all of them parse and the ecosystem's semantic
comparison is a strict weak order (npm), and when none parses (relax: string order) — `C16_patchcmp_order_parsed_partial`,
`C16_patchcmp_order_unparsed`; it is an assumption for Maven (C07: `mavenutil`'s comparison is not transitive in general) and
fails for mixed forms (`C16_patchcmp_mixed_cycle`).  (That patches comparing equal are identical, which the proof also uses, is
`C16_compare_total`.) -/
theorem C16_final_partial (patchFn : Task → Option Patch) (grouped : Bool) (vulns : List Str)
    (V : Str → Prop) (vc : Str → Str → Int) (hvc : Cmp3 (fun x y => V x ∧ V y) vc)
    (σ σ' : List Nat) (c c' : List Patch)
    (h : exec (outCP patchFn) (spawnCP patchFn grouped) σ (initCP vulns) = some ⟨[], c⟩)
    (h' : exec (outCP patchFn) (spawnCP patchFn grouped) σ' (initCP vulns) = some ⟨[], c'⟩)
    (hV : ∀ p ∈ c, ∀ u ∈ p.updates, V u.vto) :
    sortCompact vc c = sortCompact vc c' :=
  sortCompact_eq_of_perm V vc hvc (C16_confluent patchFn grouped vulns σ σ' c c' h h') (collected_patchOK h hV)

/-- the same statement about the function value `computePatches` -/
theorem C16_schedule_independent_partial (patchFn : Task → Option Patch) (grouped : Bool) (vulns : List Str)
    (V : Str → Prop) (vc : Str → Str → Int) (hvc : Cmp3 (fun x y => V x ∧ V y) vc)
    (σ σ' : List Nat) (r r' : List Patch)
    (h : computePatches patchFn grouped vc vulns σ = some r)
    (h' : computePatches patchFn grouped vc vulns σ' = some r')
    (hV : ∀ t p, patchFn t = some p → ∀ u ∈ p.updates, V u.vto) : r = r' := by
  obtain ⟨c, he, rfl⟩ := computePatches_eq_some h
  obtain ⟨c', he', rfl⟩ := computePatches_eq_some h'
  refine C16_final_partial patchFn grouped vulns V vc hvc σ σ' c c' he he' fun q hq u hu => ?_
  obtain ⟨t, ht⟩ := collected_out patchFn grouped vulns σ c he q hq
  exact hV t q (outCP_some ht).1 u hu

/-- every complete schedule returns what the breadth-first closure (the executable specification the driver
prints as `spec=`) returns -/
theorem C16_spec_partial (patchFn : Task → Option Patch) (grouped : Bool) (vulns : List Str)
    (V : Str → Prop) (vc : Str → Str → Int) (hvc : Cmp3 (fun x y => V x ∧ V y) vc)
    (σ : List Nat) (c : List Patch) (n : Nat)
    (h : exec (outCP patchFn) (spawnCP patchFn grouped) σ (initCP vulns) = some ⟨[], c⟩)
    (hf : (fifo (outCP patchFn) (spawnCP patchFn grouped) n (initCP vulns)).pending = [])
    (hV : ∀ p ∈ c, ∀ u ∈ p.updates, V u.vto) :
    sortCompact vc c = sortCompact vc (fifo (outCP patchFn) (spawnCP patchFn grouped) n (initCP vulns)).collected :=
  (fifo_exec_complete (outCP patchFn) (spawnCP patchFn grouped) n (initCP vulns) hf).elim fun σ' hσ' =>
    C16_final_partial patchFn grouped vulns V vc hvc σ σ' c _ h hσ' hV

/-- **C16_patchcmp_order_partial.** `Patch.Compare` is a strict weak order — in the three-way form `slices.SortFunc`
takes: `cmp(a,b) < 0 ↔ cmp(b,a) > 0`, and "not less" is transitive — among patches that have at least one
update and whose target versions lie in a set `V` on which the per-version comparison of step 5 is one. -/
-- The hypothesis `Cmp3 … vc` is shown satisfiable below only for the harness grammar (`parseMajor`), and the driver's `order=`
-- flag ("all parse or none") is a proxy for it, not `Cmp3` of the real comparator.  It is an explicit hypothesis: for npm the
-- generator asserts at start-up that deps.dev's `semver.NPM` orders the version pool as `parseMajor` does; for Maven (override
-- strategy) C07 proves the comparator is NOT transitive (`C07_maven_trans_fails`), so there `hvc` can genuinely fail and nothing
-- here says the sorted result is schedule-free.
theorem C16_patchcmp_order_partial (V : Str → Prop) (vc : Str → Str → Int) (hvc : Cmp3 (fun x y => V x ∧ V y) vc) :
    Cmp3 (fun a b => PatchOK V a ∧ PatchOK V b) (Patch.compare vc) :=
  compare_cmp3 V vc hvc

/-- the hypothesis of `C16_patchcmp_order_partial` holds when every target version parses (override strategy: concrete
versions) and the semantic comparison is a three-way comparator … -/
theorem C16_patchcmp_order_parsed_partial {ν} (parse : Str → Option ν) (scmp : ν → ν → Int) (hs : Cmp3 (fun _ _ => True) scmp) :
    Cmp3 (fun a b => PatchOK (fun s => (parse s).isSome) a ∧ PatchOK (fun s => (parse s).isSome) b)
      (Patch.compare (verCmp parse scmp)) :=
  compare_cmp3 _ _ (verCmp_cmp3_parsed parse scmp hs)

/-- … and when no target version parses (relax strategy: ranges such as `^1.2.3`) -/
theorem C16_patchcmp_order_unparsed {ν} (parse : Str → Option ν) (scmp : ν → ν → Int) :
    Cmp3 (fun a b => PatchOK (fun s => parse s = none) a ∧ PatchOK (fun s => parse s = none) b)
      (Patch.compare (verCmp parse scmp)) :=
  compare_cmp3 _ _ (verCmp_cmp3_unparsed parse scmp)

/-! ### counterexamples: the hypotheses cannot be dropped -/

/-- FULL-STRENGTH statement that does NOT hold: "`Patch.Compare` is a strict weak order on all patches with ≥ 1
update".  Mixing a target version that does not parse ("1x": string comparison) with ones that do (semantic
comparison) gives a cycle 9.0.0 < 10.0.0 < 1x < 9.0.0. -/
theorem C16_patchcmp_mixed_cycle :
    Patch.compare demoVc (one "a" "9.0.0" ["V"]) (one "a" "10.0.0" ["V"]) < 0 ∧
    Patch.compare demoVc (one "a" "10.0.0" ["V"]) (one "a" "1x" ["V"]) < 0 ∧
    Patch.compare demoVc (one "a" "1x" ["V"]) (one "a" "9.0.0" ["V"]) < 0 := by decide

/-- with an empty patch the multiplied-out ratio of step 1 compares equal to everything and the order is cyclic:
`a < e < b < a` (so "≥ 1 update" cannot be dropped; `ComputePatches` never collects an empty patch) -/
theorem C16_patchcmp_needs_updates :
    let u : Upd := ⟨bytes "a", [], bytes "2.0.0", false, []⟩
    let a : Patch := ⟨[u], [bytes "V", bytes "W", bytes "X"], [bytes "A", bytes "B", bytes "C"]⟩   -- ratio 0/1, 3 fixed
    let b : Patch := ⟨[u], [bytes "V"], []⟩                                                         -- ratio 1/1, 1 fixed
    let e : Patch := ⟨[], [bytes "V", bytes "W"], [bytes "A", bytes "B"]⟩                           -- ratio 0/0, 2 fixed
    Patch.compare demoVc a e < 0 ∧ Patch.compare demoVc e b < 0 ∧ Patch.compare demoVc b a < 0 := by decide

/-- Two patches with the same update and different `Fixed` ids (known finding C16/compare-equal-distinct-patches: before fix
09778cd0 `Compare` returned 0 for them and `CompactFunc` kept whichever was delivered first): both survive, in the same order
under both delivery orders. -/
theorem C16_final_formerly_order_dependent :
    computePatches demoFn true demoVc [bytes "A", bytes "B"] [0, 0] = some [one "x" "2.0.0" ["A"], one "x" "2.0.0" ["B"]] ∧
    computePatches demoFn true demoVc [bytes "A", bytes "B"] [1, 0] = some [one "x" "2.0.0" ["A"], one "x" "2.0.0" ["B"]] := by decide

/-! ### non-vacuity -/

example :
    exec (outCP okFn) (spawnCP okFn true) [0, 0, 0] (initCP [bytes "A", bytes "B"]) = some ⟨[], [okA, okB, okAC]⟩ ∧
    exec (outCP okFn) (spawnCP okFn true) [1, 0, 0] (initCP [bytes "A", bytes "B"]) = some ⟨[], [okB, okA, okAC]⟩ ∧
    CmpEqImpliesEq demoVc [okA, okB, okAC] ∧ (∀ p ∈ [okA, okB, okAC], ∀ u ∈ p.updates, (parseMajor u.vto).isSome) ∧
    sortCompact demoVc [okA, okB, okAC] = [okAC, okB, okA] := by decide

/-- a per-version comparison satisfying the hypothesis of `C16_patchcmp_order_partial`: all versions parse -/
example : Cmp3 (fun x y => (parseMajor x).isSome ∧ (parseMajor y).isSome) demoVc :=
  verCmp_cmp3_parsed parseMajor _ (cmp3_key (fun n : Nat => (n : Int)))

/-- **C16_terminates_partial.** If the vulnerabilities patches can introduce lie in a finite universe `U` (at most `b` per
patch), then (i) no schedule is longer than the initial measure — the loop `for toProcess > 0` cannot run
forever — and (ii) breadth-first delivery with that much fuel empties the worklist, so complete schedules exist. -/
theorem C16_terminates_partial (patchFn : Task → Option Patch) (grouped : Bool) (U : List Str) (b : Nat)
    (hf : FiniteCP U b patchFn) (vulns : List Str) :
    let μ := mu (rankCP U) (b + 1) (initCP vulns).pending
    (∀ σ s', exec (outCP patchFn) (spawnCP patchFn grouped) σ (initCP vulns) = some s' → σ.length ≤ μ) ∧
    (fifo (outCP patchFn) (spawnCP patchFn grouped) μ (initCP vulns)).pending = [] := by
  intro μ
  have hr := spawnCP_rank U b patchFn grouped hf
  have hb := spawnCP_length U b patchFn grouped hf
  constructor
  · intro σ s' h
    have := exec_length_le (outCP patchFn) (spawnCP patchFn grouped) (rankCP U) (b + 1) hr hb σ _ _ h
    omega
  · exact fifo_complete (outCP patchFn) (spawnCP patchFn grouped) (rankCP U) (b + 1) hr hb μ _ (Nat.le_refl _)

example : FiniteCP [bytes "A", bytes "B", bytes "C"] 1 okFn := by
  intro t p h
  unfold okFn at h
  split at h
  · cases h; simp [bytes]
  · split at h
    · cases h; simp
    · split at h
      · cases h; simp
      · cases h

/-- without the finiteness hypothesis the loop need not terminate: a strategy that introduces a fresh vulnerability on
every attempt keeps exactly one attempt pending after ANY number of deliveries -/
theorem C16_terminates_needs_finite : ∀ n : Nat,
    ((exec (outCP freshFn) (spawnCP freshFn true) (List.replicate n 0) (initCP [[0]])).map (·.pending.length)) = some 1 := by
  -- the one pending task `t` is followed by `t` extended with an id longer than all of its own, hence new
  have spawn_eq : ∀ t : Task, (∀ x ∈ t, x.length ≤ t.length) →
      spawnCP freshFn true t = [t ++ [List.replicate (t.length + 1) 7]] := by
    intro t ht
    have hn : List.replicate (t.length + 1) 7 ∉ t := fun hm => by
      have := ht _ hm
      simp only [List.length_replicate] at this
      omega
    simp [spawnCP, outCP, freshFn, newlyAdded, hn]
  have key : ∀ (n : Nat) (t : Task) (c : List Patch), (∀ x ∈ t, x.length ≤ t.length) →
      ((exec (outCP freshFn) (spawnCP freshFn true) (List.replicate n 0) ⟨[t], c⟩).map (·.pending.length)) = some 1 := by
    intro n
    induction n with
    | zero => intros; rfl
    | succ n ih =>
      intro t c ht
      simp only [List.replicate_succ, exec, stepAt, List.getElem?_cons_zero, List.eraseIdx_cons_zero, List.nil_append, spawn_eq t ht]
      refine ih _ _ fun x hx => ?_
      rw [List.length_append]
      rcases List.mem_append.mp hx with h | h
      · exact Nat.le_succ_of_le (ht x h)
      · cases List.mem_singleton.mp h; simp
  exact fun n => key n [[0]] [] (by simp)

/-! ## (b) RequestCache -/
open Scalibr.Cache in
/-- **C16_cache_inv.** In every state reachable by any interleaving (any number of callers, keys, SetMap/GetMap
calls): at most one fetch is in flight per key (two callers fetching the same key are the same caller), the
pending-call table points exactly at it, a caller only waits on a call created for its own key, and while a call for `k`
is in flight no fetch for `k` has succeeded since the last SetMap (so the in-flight fetch is never redundant). -/
theorem C16_cache_inv (keyOf : Nat → Option Cache.K) (as : List Cache.Act) :
    let s := Cache.run keyOf as
    (∀ t t' c c' k, s.pcs t = .fetching c k → s.pcs t' = .fetching c' k → t = t') ∧
    (∀ t c k, s.pcs t = .fetching c k → s.calls k = some c) ∧
    (∀ k c, s.calls k = some c → ∃ t, s.pcs t = .fetching c k) ∧
    (∀ t c k, s.pcs t = .waiting c k → s.ckey c = some k) ∧
    (∀ k c, s.calls k = some c → s.succeeded k = false) :=
  let h := Cache.inv_run keyOf as
  ⟨h.flight.fetch_uniq, h.flight.fetch_calls, h.flight.calls_owner, fun t c k hw => (h.flight.ckey_wait t c k hw).1,
   fun _ _ hc => h.once.calls_nosucc hc⟩

open Scalibr.Cache in
/-- **C16_cache_once.** (i) No fetch is ever *started* for a key that has had a successful fetch since the last
SetMap, and at most one fetch per key succeeds between two SetMaps; (ii) without SetMap, the number of times the
fetch function ran for `k` is at most the number of its failures plus one: once per success. -/
theorem C16_cache_once (keyOf : Nat → Option Cache.K) (as : List Cache.Act) :
    let s := Cache.run keyOf as
    s.lateFetch = false ∧ (∀ k, s.nok k ≤ 1) ∧
    ((∀ a ∈ as, a.isSetMap = false) → ∀ k, s.nfetch k ≤ s.nerr k + 1 ∧ s.nokT k ≤ 1) := by
  intro s
  have h := (Cache.inv_run keyOf as).once
  refine ⟨h.no_late, h.nok_le, fun hns k => ?_⟩
  have e : s.nokT k = s.nok k := Cache.nokT_eq_nok as (Cache.init keyOf) hns (fun _ => rfl) k
  have h1 : s.nfetch k + s.nok k ≤ s.nerr k + s.nokT k + 1 := h.fetch_le k
  have h2 : s.nok k ≤ 1 := h.nok_le k
  omega

open Scalibr.Cache in
/-- **C16_cache_provenance** (provenance, NOT linearizability — a caller could return
any result ever published for `k` and still satisfy it; the linearizability statement is `C16_cache_linearizable_partial`
below).  Whatever a caller of `Get(k)` returns — `(v, nil)` or `(zero, err)` — is the result
that a fetch *for the same key* published earlier in the history (`as = as1 ++ publish t' r :: as2`, `t'` was
fetching `k`), or a value that an earlier `SetMap` installed for `k`.  In particular errors are only ever
reported to callers of the key whose fetch failed, and no value crosses keys. -/
theorem C16_cache_provenance (keyOf : Nat → Option Cache.K) (as : List Cache.Act) (t : Nat) (k : Cache.K) (r : Cache.R)
    (hd : (Cache.run keyOf as).pcs t = .done k r) :
    (∃ as1 t' as2 c, as = as1 ++ Cache.Act.publish t' r :: as2 ∧ (Cache.run keyOf as1).pcs t' = .fetching c k) ∨
    (∃ v as1 m as2, r = .ok v ∧ as = as1 ++ Cache.Act.setMap m :: as2 ∧ m k = some v) :=
  (Cache.inv_run keyOf as).prov.done_org t k r hd |>.imp (Cache.pub_run keyOf as k r)
    fun ⟨v, hv, hs⟩ => let ⟨as1, m, as2, he, hm⟩ := Cache.setv_run keyOf as k v hs; ⟨v, as1, m, as2, hv, he, hm⟩


open Scalibr.Cache in
/-- **C16_cache_linearizable_partial.**  Hypothesis (`RunOK`): `SetMap` is only executed while no fetch is in flight
(it loads a saved cache before the client is used; without this the statement is FALSE, see
`C16_cache_setmap_overlap_not_linearizable`).  Then for every interleaving `as` of lookup / publish / wake / SetMap /
GetMap steps (any number of callers and keys) the ghost log `lin` of Model/CacheLin.lean — which never influences the
run (`lrun_base`) — is a linearization:
 1. it is a legal history of the SEQUENTIAL specification "a map with fetch-on-miss" that ends in the actual cache:
    every `Get` in it returns the stored value on a hit and the outcome of its fetch on a miss (stored iff it succeeded),
    every `GetMap` returns exactly the map at that point;
 2. every completed call of `Get` is in it with the result it really returned, at a time `τ` inside the call's
    interval `[tLook, tRet]` (first critical section … result available);
 3. nothing else is in it: every `Get` entry belongs to a caller that has returned that result, or is blocked in `wg.Wait()`
    on a call whose (published) result it will return; no caller occurs twice;
 4. its order is the order of the times `τ`;
 5. its `GetMap` entries are, in order, exactly the maps the executed GetMap calls returned (`base.maps`), and its `SetMap`
    entries are, in order, exactly the arguments of the executed SetMap actions.
 2 + 4 give the real-time clause: if call A's result was available before call B's first step (`tRet A < tLook B`), then
 `τ_A < τ_B`, so A precedes B.  "At most once per key per success" for the real fetch function is `C16_cache_once`
 (in the sequential history a waiter of a FAILED call counts as a miss whose fetch fails with the shared error). -/
theorem C16_cache_linearizable_partial (keyOf : Nat → Option K) (as : List Act) (hq : RunOK (init keyOf) as) :
    let l := lrun keyOf as
    l.base = run keyOf as ∧
    SpecRun (fun _ => none) (l.lin.map (·.2)) l.base.cache ∧
    (∀ t k r, l.base.pcs t = .done k r →
      ∃ τ a b, (τ, LinOp.get t k r) ∈ l.lin ∧ l.tLook t = some a ∧ l.tRet t = some b ∧ a ≤ τ ∧ τ ≤ b) ∧
    (∀ τ t k r, (τ, LinOp.get t k r) ∈ l.lin →
      l.base.pcs t = .done k r ∨ ∃ c, l.base.pcs t = .waiting c k ∧ l.base.results c = some r) ∧
    (callers l.lin).Nodup ∧
    l.lin.Pairwise (fun x y => x.1 ≤ y.1) ∧
    l.lin.filterMap (fun e => e.2.snapOf) = l.base.maps.reverse ∧
    l.lin.filterMap (fun e => e.2.setOf) = as.filterMap Act.setOf := by
  intro l
  have h := linv_runFrom as (linit keyOf) (linv_init keyOf) hq
  have h3 := lin_snaps_sets as (linit keyOf) rfl
  refine ⟨lrun_base keyOf as, h.spec.spec, fun t k r hd => ?_, fun τ t k r hm => (h.rows t).real τ k r hm, h.ord.nodup, h.ord.sorted,
    h3.1, h3.2⟩
  obtain ⟨b, hb, τ, a, hm, ha, h1, h2⟩ := (h.rows t).done k r hd
  exact ⟨τ, a, b, hm, ha, hb, h1, h2⟩

open Scalibr.Cache in
/-- the real-time clause spelled out: a call whose result was available before another call's first step is linearized
strictly earlier -/
theorem C16_cache_realtime (keyOf : Nat → Option K) (as : List Act) (hq : RunOK (init keyOf) as)
    (tA tB : Nat) (kA kB : K) (rA rB : R)
    (hA : (lrun keyOf as).base.pcs tA = .done kA rA) (hB : (lrun keyOf as).base.pcs tB = .done kB rB)
    (hrt : ∀ b a, (lrun keyOf as).tRet tA = some b → (lrun keyOf as).tLook tB = some a → b < a) :
    ∃ τA τB, (τA, LinOp.get tA kA rA) ∈ (lrun keyOf as).lin ∧ (τB, LinOp.get tB kB rB) ∈ (lrun keyOf as).lin ∧ τA < τB := by
  obtain ⟨_, _, hd, _, _, _, _, _⟩ := C16_cache_linearizable_partial keyOf as hq
  obtain ⟨τA, aA, bA, hmA, _, hbA, _, h2A⟩ := hd tA kA rA hA
  obtain ⟨τB, aB, bB, hmB, haB, _, h1B, _⟩ := hd tB kB rB hB
  have := hrt bA aB hbA haB
  exact ⟨τA, τB, hmA, hmB, by omega⟩

/-! FULL-STRENGTH statement that does NOT hold: "RequestCache is linearizable for every interleaving of Get / SetMap / GetMap".
One caller fetches key 0; while the fetch is in flight `SetMap({0 ↦ 5})` runs; the fetch then succeeds with 7 and `Get`
returns 7; `GetMap` afterwards shows `0 ↦ 7`.  Sequentially, `SetMap` before `Get` makes `Get` a hit returning 5; `Get`
before `SetMap` leaves `0 ↦ 5` for `GetMap`.  (The publish step overwrites what SetMap installed: `rq.cache[key] = c.val`.) -/
inductive SOp | get (ret : Cache.R) | set (v : Option Cache.V) | snap (v : Option Cache.V)
deriving DecidableEq

/-- the sequential specification restricted to the single key 0, executable -/
def seqStep (m : Option Cache.V) : SOp → Option (Option Cache.V)
  | .get (.ok v) => match m with
    | some w => if w = v then some m else none
    | none => some (some v)
  | .get .err => match m with
    | some _ => none
    | none => some none
  | .set v => some v
  | .snap v => if v = m then some m else none

def seqOK (ops : List SOp) : Bool := (ops.foldlM seqStep none).isSome

theorem C16_cache_setmap_overlap_not_linearizable :
    let keyOf : Nat → Option Nat := fun t => if t = 0 then some 0 else none
    let s := Cache.run keyOf [.lookup 0, .setMap (fun k => if k = 0 then some 5 else none), .publish 0 (.ok 7), .getMap]
    -- what the three calls observed
    s.pcs 0 = .done 0 (.ok 7) ∧ (s.maps.head?.map (· 0)) = some (some 7) ∧
    -- GetMap started after both other calls had returned, so real-time order puts it last; neither remaining sequential
    -- order of {Get → ok 7, SetMap {0↦5}, GetMap → {0↦7}} is legal
    (∀ ops ∈ [[SOp.get (.ok 7), .set (some 5), .snap (some 7)], [.set (some 5), .get (.ok 7), .snap (some 7)]],
      seqOK ops = false) ∧
    -- (the order Get, GetMap, SetMap would be legal, but GetMap ran after SetMap had returned)
    seqOK [.get (.ok 7), .snap (some 7), .set (some 5)] = true := by decide

/-- the same for the cache content (what GetMap hands out) -/
theorem C16_cache_content (keyOf : Nat → Option Cache.K) (as : List Cache.Act) (k : Cache.K) (v : Cache.V)
    (hc : (Cache.run keyOf as).cache k = some v) :
    (∃ as1 t' as2 c, as = as1 ++ Cache.Act.publish t' (.ok v) :: as2 ∧ (Cache.run keyOf as1).pcs t' = .fetching c k) ∨
    (∃ as1 m as2, as = as1 ++ Cache.Act.setMap m :: as2 ∧ m k = some v) :=
  (Cache.inv_run keyOf as).prov.cache_org k v hc |>.imp (Cache.pub_run keyOf as k _) (Cache.setv_run keyOf as k v)

/-- **C16_cache_shared.** Once a call's result is stored it never changes: the fetcher and every waiter of that
call return the same `(v, err)`, however late the waiter wakes up. -/
theorem C16_cache_shared (keyOf : Nat → Option Cache.K) (as bs : List Cache.Act) (c : Cache.Cid) (r : Cache.R)
    (hr : (Cache.run keyOf as).results c = some r) : (Cache.run keyOf (as ++ bs)).results c = some r := by
  have := Cache.results_stable_run (Cache.inv_run keyOf as) c r hr bs
  rwa [Cache.run, Cache.runFrom, List.foldl_append]

/-- non-vacuity: two callers of one key, the first fetch fails (both see the error), a third caller fetches again
and succeeds, a fourth hits the cache; one SetMap in between -/
example :
    let keyOf : Nat → Option Nat := fun t => if t < 4 then some 0 else none
    let s := Cache.run keyOf [.lookup 0, .lookup 1, .publish 0 .err, .wake 1, .lookup 2, .publish 2 (.ok 7), .lookup 3,
                              .setMap (fun _ => none), .getMap]
    s.pcs 0 = .done 0 .err ∧ s.pcs 1 = .done 0 .err ∧ s.pcs 2 = .done 0 (.ok 7) ∧ s.pcs 3 = .done 0 (.ok 7) ∧
    s.nfetch 0 = 2 ∧ s.nerr 0 = 1 ∧ s.cache 0 = none := by decide

/-- the hypothesis of `C16_cache_linearizable_partial` is satisfiable by a history with a SetMap, waiters, a failed and a
successful fetch -/
example : Cache.RunOK (Cache.init (fun t => if t < 4 then some 0 else none))
    [.setMap (fun k => if k = 1 then some 9 else none), .lookup 0, .lookup 1, .publish 0 .err, .wake 1, .lookup 2, .publish 2 (.ok 7),
     .lookup 3, .getMap, .setMap (fun _ => none), .getMap] := by
  simp [Cache.RunOK, Cache.stepOK, Cache.step, Cache.init, Cache.upd]
  intro k hk; simp [hk]

/-! ## (b') the lazily created registry clients of CombinedNativeClient -/

/-- **C16_oncecell.**  `clientForSystem` as a once-cell per ecosystem (its whole body is one critical section under `c.mu`): under every
order of calls by any number of callers, each ecosystem's client is constructed at most once — so there is one set of request caches per
ecosystem — and two callers of one ecosystem are handed the same client.  An ecosystem whose construction fails (`fails e`: unsupported
system, unparsable registry URL, unreadable .npmrc) never gets a client: every caller, every time, gets the error and nothing is built.
NOT covered (runtime behaviour this model cannot exhibit): data-race freedom of the initialisation itself.  A variant that reads the cell
outside the lock has the same transitions at this granularity; what is wrong with it is the unordered read of the pointer and of the freshly
built caches.  That is established by the Go race detector on the generated schedules (stream `cnc` of checks/c16.py: a fresh client per
case, 2..4 goroutines, simultaneous and staggered first calls, per ecosystem, against in-process registries) and is observation. -/
theorem C16_oncecell (fails : OnceCell.Eco → Bool) (calls : List (Nat × OnceCell.Eco)) :
    let s := OnceCell.run fails calls
    (∀ e, s.built e ≤ 1) ∧
    (∀ t t' e c c', s.got t = some (e, c) → s.got t' = some (e, c') → c = c') ∧
    (∀ e, fails e = true → s.built e = 0 ∧ ∀ t c, s.got t ≠ some (e, c)) := by
  intro s
  have h := OnceCell.inv_run fails calls
  refine ⟨fun e => by have := h.built_le e; show (OnceCell.run fails calls).built e ≤ 1; split at this <;> omega,
    fun t t' e c c' h1 h2 => Option.some.inj ((h.got_cell t e c h1).symm.trans (h.got_cell t' e c' h2)), fun e hf => ?_⟩
  have hn := h.fail_none e hf
  exact ⟨by have := h.built_le e; rwa [hn] at this, fun t c hg => nomatch (h.got_cell t e c hg).symm.trans hn⟩

example : (OnceCell.run (fun _ => false) [(0, 2), (1, 2), (2, 1), (3, 2)]).built 2 = 1 ∧
    (OnceCell.run (fun _ => false) [(0, 2), (1, 2), (2, 1), (3, 2)]).got 3 = some (2, 0) := by decide

/-- an ecosystem whose client cannot be constructed: every caller fails, nothing is built, the other ecosystems are unaffected -/
example : (OnceCell.run (fun e => e == 1) [(0, 1), (1, 2), (2, 1), (3, 2)]).built 1 = 0 ∧
    (OnceCell.run (fun e => e == 1) [(0, 1), (1, 2), (2, 1), (3, 2)]).got 2 = none ∧
    (OnceCell.run (fun e => e == 1) [(0, 1), (1, 2), (2, 1), (3, 2)]).got 3 = some (2, 0) := by decide

/-! ## (c) the status ticker: `C16_ticker_guarded` lives in Properties/C16Ticker.lean, the only module that depends on the
regenerated table, so that a change of extractor/filesystem that breaks it leaves the obligations above standing. -/

end Scalibr.C16
