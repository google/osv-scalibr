/-
C10, clause "a scan never hands a file larger than the size limit to any extractor", for the layer trace
of `ScanContainer` (the walk engine's own clause is in Properties/C10.lean): the re-extractions of older
views obey the same `MaxFileSize` as the main scan. The model is tied to the real `scalibr.ScanContainer`
by the `sizes` stream of the C05 harness (a size-recording extractor); checks/c10.py audits this module.
-/
import Scalibr.Model.TraceSize
namespace Scalibr.TraceSize

/-- `handleFile` with a limit set reads a file only if it is not above the limit -/
theorem le_of_not_skipped {limit s : Nat} (hl : limit > 0) (h : ¬skipped limit s = true) : s ≤ limit := by
  simpa [skipped, hl] using h

theorem traceSizes_le (limit : Nat) (h : SHistory) (hl : limit > 0) (cnt s : Nat) (hs : s ∈ traceSizes limit h cnt) :
    s ≤ limit := by
  fun_induction traceSizes limit h cnt
  -- the file is in the layer's diff and is read
  case case4 hsk ih =>
    rcases List.mem_cons.1 hs with rfl | hs
    · exact le_of_not_skipped hl hsk
    · exact ih hs
  case case5 ih => exact ih hs
  all_goals cases hs

/-- THE clause: with a size limit set, every file size handed to an extractor during a container scan —
by the scan of the final view and by every re-extraction of the layer trace — is at most the limit. -/
theorem C10_trace_sizes (limit : Nat) (h : SHistory) (hl : limit > 0) :
    ∀ s ∈ handed limit h, s ≤ limit := by
  intro s hs
  unfold handed at hs
  split at hs
  · cases hs
  · split at hs
    · cases hs
    · rename_i hsk
      rcases List.mem_cons.1 hs with rfl | hs
      · exact le_of_not_skipped hl hsk
      · exact traceSizes_le limit h hl _ s hs

/-- without a limit nothing is skipped: the trace reads every version down to the first layer that lacks the file -/
theorem C10_trace_sizes_nolimit (h : SHistory) (s : Nat) : skipped 0 s = false := by simp [skipped]

/-! ### DISCLOSURE: the inode limit and the trace's re-runs

C10 says "a scan processes no more inodes than the inode limit". `ScanContainer` hands `MaxInodes` to the trace as
well, but `trace.PopulateLayerDetails` calls `filesystem.Run` once per package location and older layer, and every such
run starts a fresh walk context with its own inode counter: each run visits exactly ONE inode (the package file), so no
single walk exceeds the limit, yet the TOTAL over one `ScanContainer` call is (inodes of the final view's walk) +
`traceInodes`, which is not bounded by `MaxInodes`. Witness (observed on the real `ScanContainer`): three layers adding
a.txt, b.txt, c.txt, extractor on a.txt, MaxInodes = 4: the main walk visits "/", a.txt, b.txt, c.txt (4), the trace
re-extracts a.txt in view 0 (1 more): 5 `AfterInodeVisited` calls, status SUCCEEDED.
Reading adopted here: the limit is a PER-WALK bound (that is how the engine implements and documents `MaxInodes`: "the
maximum number of inodes to visit in a scan run"), every re-run of the trace is a walk of a different file system (an
older view) and obeys it trivially; the sum is disclosed, not claimed. The `sizes` stream of the C05 harness counts the
trace's visits of the package file with a stats collector and compares them with `traceInodes` (field `runs`). -/

/-- every re-run of the trace visits one inode: the count of the trace's inode visits is the count of its runs, which
grows with the number of layers that rewrote the file — independently of any inode limit -/
theorem C10_trace_inodes_disclosed :
    traceInodes 0 [.write 5, .write 7, .write 9] = 2 ∧ traceInodes 0 [.write 5, .write 7, .write 9, .write 11, .write 13] = 4 ∧
    traceInodes 8 [.write 5, .write 40, .write 7] = 1 := by decide +kernel

-- non-vacuity: the older version (40 bytes, above the limit 16) is not handed out; without a limit it is
example : handed 16 [.write 40, .write 12, .keep, .write 16] = [16, 12] := by decide +kernel
example : handed 0 [.write 40, .write 12, .keep, .write 16] = [16, 12, 40] := by decide +kernel
example : handed 16 [.write 12, .write 40] = [] := by decide +kernel

end Scalibr.TraceSize
