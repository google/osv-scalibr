/-
C12 — A reported fix is a real fix: re-analysis matches the report.
Reduction theorems over the pipeline model; `WriterCorrect` is C13's round-trip theorem as a hypothesis,
discharged for package.json at the end (`C12_npm_writer_correct`).  Helper lemmas live in `Scalibr.Proofs.Pipeline`.
-/
import Scalibr.Proofs.Pipeline
import Scalibr.Properties.C13

namespace Scalibr.Pipeline

/-- `choosePatches` returns a sublist of the computed patches, at most `maxUpgrades` of them when that
is positive (so at most one for `MaxUpgrades = 1`), pairwise compatible (no package changed twice
from the same version, no vulnerability fixed twice), and none introducing a vulnerability when
`NoIntroduce` is set. -/
theorem C12_choose_sublist (all : List Patch) (k : Int) (ni : Bool) :
    (choosePatches all k ni).Sublist all ∧
    (0 < k → ((choosePatches all k ni).length : Int) ≤ k) ∧
    (k = 1 → (choosePatches all k ni).length ≤ 1) ∧
    (choosePatches all k ni).Pairwise compatible ∧
    (ni = true → ∀ p ∈ choosePatches all k ni, p.introduced = []) := by
  refine ⟨chooseAux_sublist _ _ _ _ _, chooseAux_length _ _ _ _ _, ?_, (chooseAux_avoids _ _ _ _ _).2, ?_⟩
  · intro hk
    have := chooseAux_length all [] [] k ni (by omega)
    unfold choosePatches; omega
  · intro hni p hp
    exact ((chooseAux_avoids all [] [] k ni).1 p hp).2.2 hni

/-- No vulnerability fixed by an applied patch is marked unactionable. -/
theorem C12_unactionable (vulns : List Nat) (all : List Patch) (k : Int) (ni : Bool) (p : Patch)
    (hp : p ∈ choosePatches all k ni) (v : Nat) (hv : v ∈ p.fixed) :
    ∀ e ∈ computeVulnsResult vulns all, e.1 = v → e.2 = false := by
  have hin : p ∈ all := (chooseAux_sublist all [] [] k ni).subset hp
  intro e he hev
  obtain ⟨w, _, rfl⟩ := List.mem_map.mp he
  subst hev
  have : w ∈ all.flatMap (·.fixed) := List.mem_flatMap.mpr ⟨p, hin, hv⟩
  simp [this]

/-- `ConstructPatches` reports exactly the set differences: fixed = old ∖ new, introduced = new ∖ old
(the new analysis lists every vulnerability once). -/
theorem C12_patch_is_diff_partial (old new : List Nat) (hn : new.Nodup) (v : Nat) :
    (v ∈ (vulnDiff old new).1 ↔ v ∈ old ∧ v ∉ new) ∧ (v ∈ (vulnDiff old new).2 ↔ v ∈ new ∧ v ∉ old) := by
  obtain ⟨h1, h2⟩ := vulnDiffAux_spec new old.eraseDups [] hn v
  unfold vulnDiff
  rw [h1, h2]
  simp [List.mem_eraseDups]

/-- hence: the new analysis is the original minus the fixed plus the introduced -/
theorem C12_after_is_expected_partial (old new : List Nat) (hn : new.Nodup) (v : Nat) :
    v ∈ new ↔ expectedAfter old (vulnDiff old new).1 (vulnDiff old new).2 v = true := by
  obtain ⟨h1, h2⟩ := C12_patch_is_diff_partial old new hn v
  unfold expectedAfter
  simp only [Bool.or_eq_true, Bool.and_eq_true, Bool.not_eq_true', decide_eq_false_iff_not,
    List.contains_eq_mem, decide_eq_true_eq]
  rw [h1, h2]
  by_cases a : v ∈ old <;> by_cases b : v ∈ new <;> simp [a, b]

/-- `ConstructPatches`' update list is the requirement diff keyed by manifest ENTRY (package name together
with the npm alias / Maven type): every entry whose version changed has its own update, carrying its
own key, and every reported update comes from an entry of the new manifest with that key whose old
version (under the same key) differs.  Two entries for one package — its own name and an `npm:` alias,
at the same old and new range — therefore yield two updates (`C12_alias_pair_witness`). -/
theorem C12_update_per_entry_partial (old new : List (Key × Nat)) (hn : (old.map (·.1)).Nodup) :
    (∀ k v v', (k, v) ∈ old → (k, v') ∈ new → v' ≠ v → (⟨k, some v, v'⟩ : ReqUpdate) ∈ reqDiff old new) ∧
    (∀ u ∈ reqDiff old new, (u.key, u.to) ∈ new ∧ u.frm = lookupReq old u.key ∧ u.frm ≠ some u.to) :=
  ⟨fun k v _ h1 h2 hne => (mem_reqDiff old new _).mpr
      ⟨h2, (lookupReq_mem old hn k v h1).symm, fun h => hne (Option.some.inj h).symm⟩,
    fun u hu => (mem_reqDiff old new u).mp hu⟩

/-- "lib" (alias 0) and "lib-legacy" → npm:lib (alias 7), both ^1 (10) relaxed to ^2 (11): two updates that
differ only in the key's alias component; a writer given both rewrites both entries -/
theorem C12_alias_pair_witness :
    reqDiff [((1, 0), 10), ((1, 7), 10)] [((1, 0), 11), ((1, 7), 11)] = [⟨(1, 0), some 10, 11⟩, ⟨(1, 7), some 10, 11⟩] ∧
    applyUpdates [((1, 0), 10), ((1, 7), 10)] [⟨(1, 0), some 10, 11⟩, ⟨(1, 7), some 10, 11⟩] = [((1, 0), 11), ((1, 7), 11)] ∧
    applyUpdates [((1, 0), 10), ((1, 7), 10)] [⟨(1, 0), some 10, 11⟩] ≠ [((1, 0), 11), ((1, 7), 11)] := by
  decide

/-- The requirement updates a patch reports, substituted into the old requirements, give the patched
requirements (same keys in the same order, no duplicates: an update, not an addition). -/
theorem C12_updates_substitute_partial (old new : List (Key × Nat)) (hk : old.map (·.1) = new.map (·.1))
    (hn : (old.map (·.1)).Nodup) : applyUpdates old (reqDiff old new) = new :=
  applyUpdates_reqDiff old new hk hn

/-- the report `ConstructPatches` attaches to the patch that turns requirements `r0` into `r'` inside one run -/
def reportOf {M F R U : Type} (p : Pipe M F R U) (E : List Nat) (r0 r' : R) : List Nat × List Nat :=
  vulnDiff (analyseFresh p E r0) (analyseInRun p E r0 r')

/-- The analysis made inside the run and a fresh analysis agree on a patched requirement list exactly when no
vulnerability outside the ExplicitVulns list enters the graph with the patch (always, when there is no such list). -/
def NoNewOutsideExplicit {M F R U : Type} (p : Pipe M F R U) (E : List Nat) (r0 r' : R) : Prop :=
  E = [] ∨ ∀ v ∈ p.raw r', v ∉ E → v ∈ p.raw r0

theorem analyseInRun_eq_fresh {M F R U : Type} (p : Pipe M F R U) (E : List Nat) (r0 r' : R)
    (h : NoNewOutsideExplicit p E r0 r') : analyseInRun p E r0 r' = analyseFresh p E r' := by
  unfold analyseInRun analyseFresh
  apply List.filter_congr
  intro v hv
  rcases h with h | h
  · subst h; simp
  · by_cases hE : v ∈ E
    · simp [hE]
    · have := h v hv hE
      cases hEe : E.isEmpty <;> simp_all

/-- C12, clause 1, with the report COMPUTED by the model.  A run starts from manifest `m`; a candidate patch is a list of
requirement updates `us`; the strategy's in-memory manifest has the requirements `subst (requirements m) us`, and
`ConstructPatches` attaches the report `reportOf` = (fixed, introduced) computed from the run's two analyses.  If `Write`
succeeds with file `f`, then the FRESH analysis of what is read back from `f` (same options) is exactly the original
vulnerabilities minus that patch's fixed plus its introduced ones.
Hypotheses: the writer is correct (C13: a theorem for package.json — `C12_npm_real_fix_partial` — and for the literal
pom fragment — `C12_pom_real_fix_partial`); resolve + match is a function `raw` of the requirements (determinism of
deps.dev's resolver and of the matcher) that lists every id once; and `NoNewOutsideExplicit`: with an ExplicitVulns list
the statement is FALSE for the unchanged code when the patch brings in a vulnerability outside the list
(`C12_explicit_vulns_witness`, known finding C12/explicit-vulns-introduced). -/
theorem C12_roundtrip_partial {M F R U : Type} (p : Pipe M F R U) (wf : M → List U → Prop) (hw : WriterCorrect p wf)
    (E : List Nat) (m : M) (us : List U) (f : F) (hwf : wf m us) (hwr : p.write m us = some f)
    (hE : NoNewOutsideExplicit p E (p.requirements m) (p.subst (p.requirements m) us))
    (hnd : (p.raw (p.subst (p.requirements m) us)).Nodup) :
    let rep := reportOf p E (p.requirements m) (p.subst (p.requirements m) us)
    ∀ v, v ∈ analyseFresh p E (p.requirements (p.read f)) ↔
      expectedAfter (analyseFresh p E (p.requirements m)) rep.1 rep.2 v = true := by
  intro rep v
  rw [hw m us f hwf hwr]
  simp only [rep, reportOf]
  rw [analyseInRun_eq_fresh p E _ _ hE]
  apply C12_after_is_expected_partial
  unfold analyseFresh
  exact hnd.sublist List.filter_sublist

/-- the patch `ConstructPatches` builds for a candidate, as `choosePatches` sees it (`enc` names package and old version
of an update) -/
def patchOf {M F R U : Type} (p : Pipe M F R U) (E : List Nat) (enc : U → Update) (m : M) (us : List U) : Patch :=
  ⟨us.map enc, (reportOf p E (p.requirements m) (p.subst (p.requirements m) us)).1,
    (reportOf p E (p.requirements m) (p.subst (p.requirements m) us)).2⟩

/-- … and for the patches `choosePatches` actually picks: every chosen patch is the patch of one of the candidates, and
applying that candidate makes the fresh analysis equal the original minus ITS fixed plus ITS introduced. -/
theorem C12_chosen_patch_is_real_partial {M F R U : Type} (p : Pipe M F R U) (wf : M → List U → Prop)
    (hw : WriterCorrect p wf) (E : List Nat) (enc : U → Update) (m : M) (cands : List (List U)) (k : Int) (ni : Bool)
    (pt : Patch) (hc : pt ∈ choosePatches (cands.map (patchOf p E enc m)) k ni)
    (hall : ∀ us ∈ cands, wf m us ∧ NoNewOutsideExplicit p E (p.requirements m) (p.subst (p.requirements m) us) ∧
      (p.raw (p.subst (p.requirements m) us)).Nodup) :
    ∃ us ∈ cands, pt = patchOf p E enc m us ∧
      ∀ f, p.write m us = some f → ∀ v, v ∈ analyseFresh p E (p.requirements (p.read f)) ↔
        expectedAfter (analyseFresh p E (p.requirements m)) pt.fixed pt.introduced v = true := by
  have hin := (chooseAux_sublist (cands.map (patchOf p E enc m)) [] [] k ni).subset hc
  rw [List.mem_map] at hin
  obtain ⟨us, hus, rfl⟩ := hin
  refine ⟨us, hus, rfl, ?_⟩
  intro f hf
  obtain ⟨h1, h2, h3⟩ := hall us hus
  exact C12_roundtrip_partial p wf hw E m us f h1 hf h2 h3

/-- When no patch is reported, the manifest read back has the requirements it had (given the writer's identity on
no update, i.e. `subst r [] = r`). -/
theorem C12_no_patch_no_change_partial {M F R U : Type} (p : Pipe M F R U) (wf : M → List U → Prop) (hw : WriterCorrect p wf)
    (hid : ∀ r, p.subst r [] = r) (m : M) (f : F) (hwf : wf m []) (hwr : p.write m [] = some f) :
    p.requirements (p.read f) = p.requirements m := by
  rw [hw m [] f hwf hwr, hid]

/-- Known finding C12/explicit-vulns-introduced on the model: ExplicitVulns = [1]; the original graph holds
vulnerability 1 only, the patched graph holds 3 only.  The run reports fixed = [1], introduced = [3] (3 was not in
the original graph, so it is not on the ignore list); a fresh analysis of the same requirements ignores 3. -/
theorem C12_explicit_vulns_witness :
    let p : Pipe Nat Nat Nat Nat := ⟨id, id, fun _ _ => some 1, fun _ _ => 1, fun r => if r = 0 then [1] else [3]⟩
    reportOf p [1] 0 1 = ([1], [3]) ∧ analyseFresh p [1] 1 = [] ∧
    ¬ (∀ v, v ∈ analyseFresh p [1] 1 ↔ expectedAfter (analyseFresh p [1] 0) (reportOf p [1] 0 1).1 (reportOf p [1] 0 1).2 v = true) := by
  refine ⟨by decide, by decide, ?_⟩
  intro h
  have := (h 3).mpr (by decide)
  exact absurd this (by decide)

/-! Non-vacuity: a pipe satisfying `WriterCorrect` on requirement lists, and concrete patch lists exercising every
branch of `choosePatches`. -/
def listPipe (raw : List (Key × Nat) → List Nat) : Pipe (List (Key × Nat)) (List (Key × Nat)) (List (Key × Nat)) ReqUpdate :=
  ⟨id, id, fun m us => some (applyUpdates m us), applyUpdates, raw⟩
example (raw : List (Key × Nat) → List Nat) : WriterCorrect (listPipe raw) (fun _ _ => True) := by
  intro m us f _ h
  simp only [listPipe, Option.some.injEq] at h
  subst h; rfl

def exPatches : List Patch :=
  [⟨[⟨1, 10, 11⟩], [100], []⟩, ⟨[⟨1, 10, 12⟩], [100, 101], []⟩, ⟨[⟨2, 20, 21⟩], [100], []⟩, ⟨[⟨3, 30, 31⟩], [102], [200]⟩, ⟨[⟨4, 40, 41⟩], [103], []⟩]
example : (choosePatches exPatches 0 false).map (·.fixed) = [[100], [102], [103]] := by decide
example : (choosePatches exPatches 0 true).map (·.fixed) = [[100], [103]] := by decide
example : (choosePatches exPatches 1 false).map (·.fixed) = [[100]] := by decide
example : computeVulnsResult [100, 104] exPatches = [(100, false), (104, true)] := by decide
example : vulnDiff [1, 2, 3] [3, 4] = ([1, 2], [4]) := by decide
example : reqDiff [((1, 0), 10), ((2, 0), 20)] [((1, 0), 10), ((2, 0), 21), ((3, 0), 30)] = [⟨(2, 0), some 20, 21⟩, ⟨(3, 0), none, 30⟩] := by decide
/-- the `Nodup` hypothesis of `C12_patch_is_diff_partial` is not decoration: a vulnerability listed twice by the
new analysis is reported as introduced although it was there before -/
theorem C12_duplicate_witness : vulnDiff [7] [7, 7] = ([], [7]) := by decide

end Scalibr.Pipeline

namespace Scalibr.Npm
open Scalibr.Pipeline

/-- the pipeline for package.json: the file IS the document model of C13, `Write` fails where `packagejson.Write`
returns an error, `Read` is the model of `parse` -/
def npmPipe (raw : List Req → List Nat) : Pipe Doc Doc (List Req) Up :=
  ⟨requirements, id, fun d us => match write d us with | .ok d' => some d' | .err => none, substitute, raw⟩

/-- `WriterCorrect` for package.json is C13's theorem: documents with unique keys per section, well-formed updates -/
theorem C12_npm_writer_correct (raw : List Req → List Nat) :
    WriterCorrect (npmPipe raw) (fun d us => WFdoc d ∧ ∀ u ∈ us, WFup u = true) := by
  intro d us f hwf h
  simp only [npmPipe] at h ⊢
  cases hw : write d us with
  | err => simp [hw] at h
  | ok d' =>
    simp only [hw, Option.some.injEq] at h
    subst h
    exact (C13_npm_roundtrip_partial d d' us hwf.1 hwf.2 hw).1

/-- hence, for package.json: a reported fix is a real fix.  No hypothesis about the writer is left. -/
theorem C12_npm_real_fix_partial (raw : List Req → List Nat) (E : List Nat) (d d' : Doc) (us : List Up)
    (hwf : WFdoc d) (hu : ∀ u ∈ us, WFup u = true) (hw : write d us = .ok d')
    (hE : NoNewOutsideExplicit (npmPipe raw) E (requirements d) (substitute (requirements d) us))
    (hnd : (raw (substitute (requirements d) us)).Nodup) :
    let rep := reportOf (npmPipe raw) E (requirements d) (substitute (requirements d) us)
    ∀ v, v ∈ analyseFresh (npmPipe raw) E (requirements d') ↔
      expectedAfter (analyseFresh (npmPipe raw) E (requirements d)) rep.1 rep.2 v = true := by
  have := C12_roundtrip_partial (npmPipe raw) _ (C12_npm_writer_correct raw) E d us d' ⟨hwf, hu⟩ (by simp [npmPipe, hw]) hE hnd
  simpa [npmPipe] using this

end Scalibr.Npm

namespace Scalibr.Pom
open Scalibr.Pipeline

/-- the pipeline for pom.xml over the abstract pom of C13 -/
def pomPipe (raw : List Req → List Nat) : Pipe Pom Pom (List Req) Upd :=
  ⟨requirements, id, write, substitute, raw⟩

/-- `WriterCorrect` for pom.xml holds on the literal fragment (C13_pom_literal_roundtrip_partial); outside it the
unchanged writer is known to be wrong in the classes C13/pom-origin-ignored, pom-shared-property and
pom-property-other-profile -/
theorem C12_pom_writer_correct_partial (raw : List Req → List Nat) : WriterCorrect (pomPipe raw) LiteralCases := by
  intro pom us f hwf h
  exact (roundtrip_literal pom f us hwf h).1

theorem C12_pom_real_fix_partial (raw : List Req → List Nat) (E : List Nat) (pom pom' : Pom) (us : List Upd)
    (c : LiteralCases pom us) (hw : write pom us = some pom')
    (hE : NoNewOutsideExplicit (pomPipe raw) E (requirements pom) (substitute (requirements pom) us))
    (hnd : (raw (substitute (requirements pom) us)).Nodup) :
    let rep := reportOf (pomPipe raw) E (requirements pom) (substitute (requirements pom) us)
    ∀ v, v ∈ analyseFresh (pomPipe raw) E (requirements pom') ↔
      expectedAfter (analyseFresh (pomPipe raw) E (requirements pom)) rep.1 rep.2 v = true :=
  C12_roundtrip_partial (pomPipe raw) _ (C12_pom_writer_correct_partial raw) E pom us pom' c hw hE hnd

end Scalibr.Pom
