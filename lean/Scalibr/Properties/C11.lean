/-
C11 — Guided remediation only upgrades, and only as far as the policy allows.
Property theorems only; helper lemmas live in `Scalibr.Proofs.Upgrade`.
-/
import Scalibr.Proofs.Upgrade
import Scalibr.Proofs.UpgradeConfig
import Scalibr.Proofs.VersionOrder
import Scalibr.Gen.Allows

namespace Scalibr.Upgrade

/-- The model of `Level.Allows` agrees with the truth table regenerated from the Go method on this run,
and the table covers every level 0..4 (4 = an invalid level) and every diff 0..7. -/
theorem C11_allows_table :
    (∀ e ∈ Gen.allowsTable, allows e.1 e.2.1 = e.2.2) ∧
    (∀ l ∈ List.range 5, ∀ d ∈ List.range 8, (l, d, allows l d) ∈ Gen.allowsTable) := by
  decide +kernel

/-- what the levels mean, read off the function: None allows only "same"; Patch forbids major and
minor; Minor forbids major; Major allows everything. -/
theorem C11_allows_meaning (d : Nat) :
    (allows lNone d = true ↔ d = dSame) ∧ (allows lPatch d = true ↔ d ≠ dMajor ∧ d ≠ dMinor) ∧
    (allows lMinor d = true ↔ d ≠ dMajor) ∧ allows lMajor d = true :=
  ⟨allows_iff 3 d, allows_iff 2 d, allows_iff 1 d, (allows_iff 0 d).mpr trivial⟩

/-- The textual configuration (`NewConfigFromStrings`, the CLI's `--upgrade-config`) means what its entries say: for ANY list of
entries "pkg:word" / "word" whose words hold no colon — package names with any number of colons (Maven `group:artifact`),
repeated packages, unknown words, blanks anywhere — the level `Config.Get` returns for ANY package is the level of the last
entry naming it with one of the four level words, else that of the last such default entry, else Major. -/
theorem C11_config_strings_meaning (es : List Entry) (hwf : ∀ e ∈ es, WFentry e) (p : List Char) :
    configGet (configFromStrings (es.map render)) p = intended es p :=
  configGet_strings es hwf p

/-- … and so every strategy is handed the intended permission: `Allows` of the parsed level is `Allows` of the intended one. -/
theorem C11_config_strings_allows (es : List Entry) (hwf : ∀ e ∈ es, WFentry e) (p : List Char) (d : Nat) :
    allows (configGet (configFromStrings (es.map render)) p) d = allows (intended es p) d := by
  rw [C11_config_strings_meaning es hwf p]

/-- decided instances: a Maven entry splits at its LAST colon (`g:a:none` restricts `g:a`, it is not package `g` with the
non-level `a:none`); later entries win; unknown words and blanks around the word make the entry invalid (ignored), a blank
before the colon belongs to the package name. -/
theorem C11_config_strings_witnesses :
    parseEntry "g:a:none".toList = some ("g:a".toList, lNone) ∧
    configGet (configFromStrings ["minor".toList, "g:a:none".toList]) "g:a".toList = lNone ∧
    configGet (configFromStrings ["minor".toList, "g:a:none".toList]) "g".toList = lMinor ∧
    configGet (configFromStrings ["@s/p:patch".toList, "@s/p:major".toList, ":none".toList]) "@s/p".toList = lMajor ∧
    configGet (configFromStrings ["@s/p:patch".toList, "@s/p:major".toList, ":none".toList]) "q".toList = lNone ∧
    parseEntry "p:latest".toList = none ∧ parseEntry "p: minor".toList = none ∧ parseEntry "minor ".toList = none ∧
    parseEntry "p :minor".toList = some ("p ".toList, lMinor) ∧
    configGet (configFromStrings ["p:latest".toList]) "p".toList = lMajor := by
  -- literals spelled as character lists first: decoding them in the kernel is the slow part
  repeat rw [String.toList_ofList]
  decide +kernel

/-
The version order.  All C11 models read the ecosystem's comparator as a rank on version identifiers.
`C11_rank_exists_iff`: such a rank exists for a set of versions exactly when the comparator is a total
preorder on it; `C11_rank_is_order_partial`: then "rank a < rank b" IS "cmp a b = lt".  Maven's comparator is
not a total preorder on all accepted strings (C07_maven_trans_fails: 1 < 1.foo < 1rc, 1 > 1rc — shape of
`C11_no_rank_of_cycle`), so the upwardness theorems below are `_partial`: they speak about version sets on
which the real comparator is one.  The harness obtains the ranks by sorting with the real comparator.
-/
theorem C11_rank_exists_iff {α : Type} (cmp : α → α → Ordering) (vs : List α) :
    (∃ rank, RankFor cmp vs rank) ↔ TotalPreorderOn cmp vs := rank_exists_iff cmp vs

theorem C11_rank_is_order_partial {α : Type} (cmp : α → α → Ordering) (vs : List α) (rank : α → Nat)
    (R : RankFor cmp vs rank) (a b : α) (ha : a ∈ vs) (hb : b ∈ vs) :
    (rank a < rank b ↔ cmp a b = .lt) ∧ (rank a ≤ rank b ↔ cmp a b ≠ .gt) ∧ (rank a = rank b ↔ cmp a b = .eq) :=
  ⟨rank_lt_iff R ha hb, rank_le_iff R ha hb, rank_eq_iff R ha hb⟩

theorem C11_no_rank_of_cycle {α : Type} (cmp : α → α → Ordering) (a b c : α)
    (h1 : cmp a b = .lt) (h2 : cmp b c = .lt) (h3 : cmp a c = .gt) : ¬ ∃ rank, RankFor cmp [a, b, c] rank :=
  no_rank_of_cycle cmp a b c h1 h2 h3

end Scalibr.Upgrade

namespace Scalibr.Override
open Scalibr.Upgrade

/-- Override, one round, one package — the part that needs no assumption: the pinned version is one of the
known versions, its difference to the resolved version is allowed by the package's level, the level is not
None, and strictly fewer of the vulnerabilities that affected the resolved version affect it. -/
theorem C11_override_step (u : U) (level vk b : Nat) (h : round u level vk = some b) :
    level ≠ lNone ∧ b ∈ u.vs ∧ allows level (u.diff vk b) = true ∧
    ((vulnsAt u vk).filter (u.aff · b)).length < (vulnsAt u vk).length := by
  obtain ⟨h1, h2, h3, h4⟩ := round_spec u level vk b h
  exact ⟨h1, versionsGreater_sub _ _ _ b h2, h3, h4⟩

/-- … and it is STRICTLY upward when the version list is sorted by the comparator (`slices.SortFunc`'s contract,
which needs the comparator to be a total preorder): since fix e2a59457 every spelling that compares equal to the
resolved version is skipped, so equal-comparing versions (`1.0` / `1.0.0`) cannot make the step a sideways one.  Without
sortedness the model can move down (`C11_override_unsorted_witness`). -/
theorem C11_override_upward_partial (u : U) (level vk b : Nat) (h : round u level vk = some b)
    (hs : Sorted u.rank u.vs) : u.rank vk < u.rank b := by
  obtain ⟨_, h2, _, _⟩ := round_spec u level vk b h
  exact versionsGreater_gt _ _ _ hs b h2

/-- The same with the ecosystem's comparator in the statement.  `ver` names the version each
identifier stands for.  For EVERY comparator `cmp` that is a total preorder on the versions at hand (the resolved one
and the known ones) — whose rank is then necessarily the canonical one, `C11_rank_exists_iff` — and a version list
sorted by `cmp`, an override step goes to a version that `cmp` calls strictly greater than the resolved one. -/
theorem C11_override_upward_cmp_partial {α : Type} (cmp : α → α → Ordering) (ver : Nat → α) (u : U) (level vk b : Nat)
    (hT : TotalPreorderOn cmp ((vk :: u.vs).map ver))
    (hr : ∀ x, u.rank x = countBelow cmp ((vk :: u.vs).map ver) (ver x))
    (hs : u.vs.Pairwise (fun a b => cmp (ver a) (ver b) ≠ .gt))
    (h : round u level vk = some b) : cmp (ver vk) (ver b) = .lt := by
  have R := rankFor_of_countBelow cmp ver (vk :: u.vs) u.rank hT fun x _ => hr x
  have hsorted : Sorted u.rank u.vs :=
    List.Pairwise.imp_of_mem (fun ha hb hab => (rank_le_iff R (List.mem_cons_of_mem vk ha) (List.mem_cons_of_mem vk hb)).mpr hab) hs
  exact (rank_lt_iff R List.mem_cons_self (List.mem_cons_of_mem vk (C11_override_step u level vk b h).2.1)).mp
    (C11_override_upward_partial u level vk b h hsorted)

theorem C11_override_unsorted_witness :
    round ⟨[5, 1], id, fun _ _ => dPatch, 1, fun _ x => x = 5⟩ lMajor 5 = some 1 := by decide

/-- fix e2a59457, on the model: two spellings of one version (identifiers 0 and 1, both rank 0) and a record whose
explicit `versions` list names only the first.  The second spelling is not a candidate; the override goes to the next
real version. -/
theorem C11_override_equal_version_fixed :
    let u : U := ⟨[0, 1, 2], fun x => if x = 2 then 1 else 0, fun a b => if a = b then dSame else dPatch, 1, fun _ x => x = 0⟩
    Sorted u.rank u.vs ∧ versionsGreater u.rank u.vs 0 = [2] ∧ round u lMajor 0 = some 2 := by
  refine ⟨by unfold Sorted; decide, by decide, by decide⟩

/-- The level applies to the ORIGINAL base (one package): after any number of rounds the version reached is
not below the first resolved version and the difference between the two is allowed.  Assumes the
difference classes behave like semver's (`DiffClassLaws`) and a sorted version list. -/
theorem C11_cumulative_partial (u : U) (level : Nat) (L : DiffClassLaws u.diff) (hs : Sorted u.rank u.vs) (fuel vk : Nat) :
    u.rank vk ≤ u.rank (loop u level fuel vk) ∧ allows level (u.diff vk (loop u level fuel vk)) = true := by
  fun_induction loop u level fuel vk with
  | case1 vk => exact ⟨Nat.le_refl _, allows_refl u.diff L level vk⟩
  | case2 fuel vk hr => exact ⟨Nat.le_refl _, allows_refl u.diff L level vk⟩
  | case3 fuel vk b hr ih =>
    obtain ⟨-, hb, h3, -⟩ := round_spec u level vk b hr
    exact ⟨Nat.le_trans (Nat.le_of_lt (versionsGreater_gt _ _ _ hs b hb)) ih.1, allows_trans u.diff L level vk b _ h3 ih.2⟩

/-- Termination (one package): every round moves strictly up inside the finite version list, so after at most
(number of versions above the start) rounds no round patches anything.  Sortedness is enough: since fix e2a59457
no round can move sideways between equal-comparing spellings. -/
theorem C11_terminates_partial (u : U) (level : Nat) (hs : Sorted u.rank u.vs) (fuel vk : Nat)
    (hf : above u.rank u.vs vk ≤ fuel) : round u level (loop u level fuel vk) = none := by
  fun_induction loop u level fuel vk with
  | case1 vk =>
    cases hr : round u level vk with
    | none => rfl
    | some b => have := round_above u level vk b hr hs; omega
  | case2 fuel vk hr => exact hr
  | case3 fuel vk b hr ih => exact ih (by have := round_above u level vk b hr hs; omega)

theorem C11_terminates_bound_partial (u : U) (level : Nat) (hs : Sorted u.rank u.vs) (vk : Nat) :
    round u level (loop u level u.vs.length vk) = none :=
  C11_terminates_partial u level hs _ vk (above_le _ _ _)

/-- A package configured as not upgradable gets no override in any round (so its requirement stays as it is; its
RESOLVED version may still move when another package's override pulls it — see C11/override-pin-overtaken). -/
theorem C11_none_untouched_override (u : U) (fuel vk : Nat) :
    round u lNone vk = none ∧ loop u lNone fuel vk = vk := by
  have h : ∀ vk, round u lNone vk = none := by
    intro vk; unfold round pick; simp
  refine ⟨h vk, ?_⟩
  cases fuel <;> simp [loop, h]

/-! Satisfiability of the assumed laws, and a universe in which the loop needs two rounds. -/
def semverDiff (a b : Nat) : Nat :=
  if a / 100 ≠ b / 100 then dMajor else if a / 10 ≠ b / 10 then dMinor else if a ≠ b then dPatch else dSame

theorem sd_major (a b : Nat) : semverDiff a b ≠ dMajor ↔ a / 100 = b / 100 := by
  unfold semverDiff dMajor dMinor dPatch dSame
  by_cases x : a / 100 = b / 100
  · simp only [x, ne_eq, not_true_eq_false, if_false, iff_true]
    split
    · decide
    · split <;> decide
  · simp [x]
theorem sd_minor (a b : Nat) :
    (semverDiff a b ≠ dMajor ∧ semverDiff a b ≠ dMinor) ↔ (a / 100 = b / 100 ∧ a / 10 = b / 10) := by
  unfold semverDiff dMajor dMinor dPatch dSame
  by_cases x : a / 100 = b / 100 <;> by_cases y : a / 10 = b / 10 <;> simp [x, y]
  split <;> simp
theorem sd_same (a b : Nat) : semverDiff a b = dSame ↔ a = b := by
  unfold semverDiff dMajor dMinor dPatch dSame
  constructor
  · intro h
    by_cases x : a / 100 = b / 100 <;> by_cases y : a / 10 = b / 10 <;> by_cases z : a = b <;> simp_all
  · intro h; subst h; simp

/-- `DiffClassLaws` is satisfiable: the semver-like difference on ranks encoded as major*100+minor*10+patch -/
example : DiffClassLaws semverDiff := by
  constructor
  · intro a; exact (sd_same a a).mpr rfl
  · intro a b c h1 h2
    rw [sd_major] at *; omega
  · intro a b c h1 h2
    rw [sd_minor] at *; omega
  · intro a b c h1 h2
    rw [sd_same] at *; omega


/-- versions 1.0.0 1.0.1 1.1.0 2.0.0 (identifier = rank); vulnerability 0 affects < 1.0.1, vulnerability 1 affects 1.0.1 only -/
def exU : U := ⟨[100, 101, 110, 200], id, semverDiff, 2, fun v r => if v = 0 then r < 101 else r = 101⟩
example : Sorted exU.rank exU.vs := by unfold Sorted exU; decide
example : round exU lMinor 100 = some 101 ∧ round exU lMinor 101 = some 110 ∧ loop exU lMinor 4 100 = 110 := by decide
example : round exU lPatch 101 = none := by decide   -- 1.1.0 is a minor step from 1.0.1: the scan breaks

end Scalibr.Override

namespace Scalibr.OverrideMulti
open Scalibr.Upgrade Scalibr.Override

/-- Override with several packages, any round — the part that needs no assumption: the requirement a round
leaves for package `p` is either the one it found, or a known version of `p` chosen against the version `p`
resolves to IN THIS ROUND (whatever moved it there), with a difference the package's level allows, the level
not None, and with fewer of the vulnerabilities that affect the resolved version. -/
theorem C11_override_multi_step (u : MU) (res : Res) (pins : Pins) (p b : Nat) (h : stepP u res pins p = some b) :
    pins.getD p none = some b ∨
    ∃ r, res.getD p none = some r ∧ pickP u p r = some b ∧ u.level p ≠ lNone ∧ b ∈ u.vs p ∧
      allows (u.level p) (u.diff p r b) = true ∧
      ((vulnsAt u p r).filter (u.aff · p b)).length < (vulnsAt u p r).length := by
  rcases stepP_cases u res pins p with ⟨e, -⟩ | ⟨r, c, hr, hp, e, -⟩ <;> rw [e] at h
  · exact Or.inl h
  · obtain rfl := Option.some.inj h
    obtain ⟨h1, h2, h3, h4⟩ := round_spec (pkg u p) (u.level p) r c hp
    exact Or.inr ⟨r, hr, hp, h1, versionsGreater_sub _ _ _ c h2, h3, h4⟩

/-- … and the version a round picks for a package is strictly above the version that package resolves to in that
round, when the package's version list is sorted by its comparator -/
theorem C11_override_multi_upward_partial (u : MU) (p r b : Nat) (h : pickP u p r = some b)
    (hs : Sorted (u.rank p) (u.vs p)) : u.rank p r < u.rank p b :=
  versionsGreater_gt _ _ _ hs b (round_spec (pkg u p) (u.level p) r b h).2.1

/-- Termination for several packages, any resolver that honours pins (`HonoursPinsM`: a pinned package resolves to
its pin or is absent; everything else is unconstrained): the sum over the packages of "versions above the
requirement" (all versions plus one while there is none) drops in every round that patches something, so the
loop reports `done` — it never runs out of fuel — whenever the fuel exceeds that sum.  Needs each package's
version list sorted by its comparator (see `C11_terminates_partial`). -/
theorem C11_terminates_multi_partial (u : MU) (resolve : Pins → Res) (hh : HonoursPinsM resolve)
    (hs : ∀ p, Sorted (u.rank p) (u.vs p)) (fuel : Nat) (pins : Pins) (hf : measure u pins < fuel) :
    (loop u resolve fuel pins 0).done = true := loop_done u resolve hh hs fuel pins 0 hf

/-- in particular with the fuel the driver uses: one more than all versions and packages together -/
theorem C11_terminates_multi_bound_partial (u : MU) (resolve : Pins → Res) (hh : HonoursPinsM resolve)
    (hs : ∀ p, Sorted (u.rank p) (u.vs p)) (pins : Pins) :
    (loop u resolve (((List.range u.np).map fun p => (u.vs p).length + 1).sum + 1) pins 0).done = true :=
  loop_done u resolve hh hs _ pins 0 (by have := measure_le u pins; omega)

/-- The level applies to the ORIGINAL requirement of every package the manifest pinned from the start (direct
dependencies), after any number of rounds and whatever the other packages do: the final requirement is not
below the original one and the difference between the two is allowed.  (For a package that had no entry the
first pin is chosen against the version resolved in that round — `C11_override_multi_step` — which another
override may overtake: known finding C11/override-pin-overtaken.) -/
theorem C11_cumulative_multi_partial (u : MU) (resolve : Pins → Res) (hh : HonoursPinsM resolve)
    (L : ∀ p, DiffClassLaws (u.diff p)) (hs : ∀ p, Sorted (u.rank p) (u.vs p)) (pins0 : Pins) (fuel : Nat)
    (p a : Nat) (hp : p < u.np) (ha : pins0.getD p none = some a) :
    ∃ b, (loop u resolve fuel pins0 0).pins.getD p none = some b ∧ u.rank p a ≤ u.rank p b ∧
      allows (u.level p) (u.diff p a b) = true := by
  have h0 : Within u pins0 pins0 := by
    intro q _ x hx
    exact ⟨x, hx, Nat.le_refl _, allows_refl (u.diff q) (L q) (u.level q) x⟩
  exact within_loop u resolve hh L hs pins0 fuel pins0 0 h0 p hp a ha

/-- a package at level None keeps its requirement in every round -/
theorem C11_none_untouched_multi (u : MU) (res : Res) (pins : Pins) (p : Nat) (h : u.level p = lNone) :
    stepP u res pins p = pins.getD p none := by
  have hp : ∀ r, pickP u p r = none := fun r => by
    rw [pickP_eq_round, h]; exact (C11_none_untouched_override (pkg u p) 0 r).1
  unfold stepP
  cases res.getD p none <;> simp [hp]

/-! Non-vacuity: two packages, two rounds.  Package 0 = app {1.0.0, 1.1.0}, package 1 = lib {1.0.0, 1.0.1, 1.0.5,
1.0.6}; app 1.0.0 brings lib 1.0.0, app 1.1.0 brings lib 1.0.5.  Record 0 affects app 1.0.0 and lib ≤ 1.0.1, record 1
affects lib 1.0.5.  Round 1 moves app to 1.1.0 and lib to 1.0.5; round 2 scans lib's candidates from 1.0.5 and moves
it UP to 1.0.6.  The resolver honours pins. -/
def exMU : MU := ⟨2, fun p => if p = 0 then [0, 1] else [0, 1, 2, 3], fun _ x => x, fun _ a b => if a = b then dSame else dPatch, 2,
  fun v p r => if v = 0 then (if p = 0 then r = 0 else r ≤ 1) else (p = 1 && r = 2), fun _ => lMajor⟩
def exResolve : Pins → Res := fun pins =>
  let a := (pins.getD 0 none).getD 0
  [some a, some ((pins.getD 1 none).getD (if a = 0 then 0 else 2))]
example : loop exMU exResolve 5 [some 0, none] 0 = ⟨[some 1, some 3], 2, true⟩ := by decide
example : HonoursPinsM exResolve := by
  intro pins p b h
  unfold exResolve
  match p with
  | 0 => left; simp [List.getD] at h ⊢; simp [h]
  | 1 => left; simp [List.getD] at h ⊢; simp [h]
  | n + 2 => right; simp [List.getD]

/-
Full-strength statement for several packages — "every override written moves its package strictly upward
from the version it resolves to WITHOUT that override in the final manifest" — is FALSE for the unchanged
code: each round judges every package against the versions resolved at the START of the round, so a
dependencyManagement pin chosen for a transitive package can be overtaken by another package's override
(of the same or a later round) whose newer version requires something newer still.  Known finding
C11/override-pin-overtaken; in force: `C11_override_multi_step` (upward from the version resolved in the
round that chose it).
-/

/-- app {1.0.0, 1.1.0}, lib {1.0.0, 1.0.1, 1.0.5}; app 1.0.0 brings lib 1.0.0, app 1.1.0 brings lib 1.0.5; one record
affects app 1.0.0 and lib 1.0.0.  One round overrides app to 1.1.0 AND pins lib to 1.0.1; without that pin the
final manifest would resolve lib to 1.0.5. -/
theorem C11_override_pin_overtaken_witness :
    let u : MU := ⟨2, fun p => if p = 0 then [0, 1] else [0, 1, 2], fun _ x => x, fun _ a b => if a = b then dSame else dPatch, 1,
      fun _ _ r => r = 0, fun _ => lMajor⟩
    let resolve : Pins → Res := fun pins =>
      let a := (pins.getD 0 none).getD 0
      [some a, some ((pins.getD 1 none).getD (if a = 0 then 0 else 2))]
    loop u resolve 5 [some 0, none] 0 = ⟨[some 1, some 1], 1, true⟩ ∧ resolve [some 1, none] = [some 1, some 2] := by
  decide

end Scalibr.OverrideMulti

namespace Scalibr.Relax
open Scalibr.Upgrade

/-- Relax, one step: the version the relaxed requirement is built from lies strictly above the highest
version matching the old requirement (indices in `semver.NPM.Compare` order), the difference between
the two is allowed by the level, and the level is not None.  Any version table. -/
theorem C11_relax_step (t : T) (level : Nat) (o : Out) (h : relax t level = some o) :
    level ≠ lNone ∧ o.last < o.idx ∧ allows level ((t.diff o.last o.idx).getD dOther) = true := by
  unfold relax at h
  split at h
  · cases h
  rename_i hl
  split at h
  · cases h
  · cases h
  rename_i last next p hs
  obtain ⟨-, hln⟩ := scanTop_spec t t.n none true last next p hs (fun x hx => nomatch hx)
  simp only at h
  split at h
  · cases h
  rename_i ha
  rw [Bool.not_eq_true, Bool.not_eq_false'] at ha
  generalize hd0 : (t.diff last next).getD dOther = d0 at h ha
  generalize hcd : (if d0 = dMajor then (next, dMinor) else (last, d0)) = cd at h
  obtain rfl := Option.some.inj h
  have hb := best_spec t level cd.1 cd.2 p (t.n + 1) (next + 1) next (Nat.lt_succ_self _)
  refine ⟨hl, by rcases hb with e | ⟨e, -⟩ <;> simp only at e ⊢ <;> omega, ?_⟩
  split at hcd
  · -- a major step was allowed, so the level allows everything
    rename_i hm
    exact allows_major_all level _ (hm ▸ ha)
  · subst hcd
    rcases hb with e | ⟨-, d, hd, hda⟩ <;> simp only at * 
    · rw [e, hd0]; exact ha
    · rw [hd]; exact hda
/-- (definitional: the first test of `Relax` — it says that no requirement is rewritten for a package at level None; the
package's RESOLVED version can still move when something above it is relaxed, which the property's "never touches" has
to be read against: see the C12 side-effect cases) -/
theorem C11_none_untouched_relax (t : T) : relax t lNone = none := by simp [relax]

/-! Non-vacuity: versions 1.0.0 1.0.1 1.1.0 2.0.0 with requirement "1.0.0", level minor: `^1.1.0`. -/
def exT : T := ⟨4, fun i => i = 0, fun _ => false,
  fun i j => some (Scalibr.Override.semverDiff ([100, 101, 110, 200].getD i 0) ([100, 101, 110, 200].getD j 0))⟩
example : relax exT lPatch = some ⟨true, 1, 0⟩ ∧ relax exT lMajor = some ⟨true, 1, 0⟩ := by decide

end Scalibr.Relax

namespace Scalibr.Suggest
open Scalibr.Upgrade

/-- Bulk update, full strength (after fixes 3e9bb9ee and 63128997): for every level, requirement and
version table, a proposed version is one of the known versions, `current` is known, the proposal lies
STRICTLY above `current` in the order `mavenutil.CompareVersions` defines, and its difference to
`current` is allowed by the level.  The model has no panic outcome: every nil-able value of the Go code
is an `Option` matched before use (see `Model/SuggestMaven.lean`), which the correspondence stream checks
against the real function on every case, ranges that no known version satisfies included. -/
theorem C11_update_step (level : Nat) (simple : Bool) (cur : Option V) (vs : List V) (v : V)
    (h : suggest level simple cur vs = .update v) :
    ∃ c, cur = some c ∧ v ∈ vs ∧ allows level v.diff = true ∧ c.rank < v.rank := by
  unfold suggest at h
  split at h
  · cases h
  rename_i c
  split at h
  · cases h
  rename_i w hf
  split at h
  · obtain rfl := Res.update.inj h
    exact ⟨c, rfl, foldl_step_eligible level c vs vs none (fun _ h => h) (fun _ hw => nomatch hw) w hf⟩
  · cases h

/-- The same with the comparator in the statement: `pos v` is the version each table row stands for, `c` the current
one; for every `cmp` that is a total preorder on them and whose rank the table carries, a proposed version is
strictly greater than the current one under `cmp`. -/
theorem C11_update_step_cmp_partial {α : Type} (cmp : α → α → Ordering) (pos : V → α) (level : Nat) (simple : Bool)
    (c : V) (vs : List V) (v : V) (hT : TotalPreorderOn cmp ((c :: vs).map pos))
    (hr : ∀ x ∈ c :: vs, x.rank = countBelow cmp ((c :: vs).map pos) (pos x))
    (h : suggest level simple (some c) vs = .update v) : cmp (pos c) (pos v) = .lt ∧ allows level v.diff = true := by
  obtain ⟨c', hc, hv, ha, hlt⟩ := C11_update_step level simple (some c) vs v h
  obtain rfl := Option.some.inj hc
  have R := rankFor_of_countBelow cmp pos (c :: vs) V.rank hT hr
  exact ⟨(rank_lt_iff R List.mem_cons_self (List.mem_cons_of_mem _ hv)).mp hlt, ha⟩

/-- a range that no known version satisfies leaves the requirement alone (the former nil dereference) -/
theorem C11_update_no_current (level : Nat) (simple : Bool) (vs : List V) : suggest level simple none vs = .keep := rfl

/-- what `Suggest` finally reports: never for level None, and only versions strictly above `current`
with an allowed difference -/
theorem C11_update_reported (level : Nat) (simple : Bool) (cur : Option V) (curId : Option Nat) (vs : List V) (v : V)
    (h : suggestUpdate level simple cur curId vs = .update v) :
    level ≠ lNone ∧ ∃ c, cur = some c ∧ v ∈ vs ∧ allows level v.diff = true ∧ c.rank < v.rank := by
  unfold suggestUpdate suggestFn at h
  split at h
  · cases h
  rename_i hl
  split at h
  · rename_i w hs
    split at h
    · cases h
    · exact ⟨hl, C11_update_step level simple cur vs v (Res.update.inj h ▸ hs)⟩
  · rename_i hk
    exact absurd h (hk v)
/-- Bulk update of a whole manifest: EVERY requirement for which an update is reported — also one of several
requirements naming the same package with different versions — is moved to a known version strictly above
ITS OWN current version, with a difference the level of its package allows, and its level is not None. -/
theorem C11_update_patch (rbs : List RB) (i : Nat) (rb : RB) (v : V) (hi : rbs[i]? = some rb)
    (h : (suggestPatch rbs)[i]? = some (.update v)) :
    rb.level ≠ lNone ∧ ∃ c, rb.cur = some c ∧ v ∈ rb.vs ∧ allows rb.level v.diff = true ∧ c.rank < v.rank := by
  unfold suggestPatch at h
  rw [List.getElem?_map, hi] at h
  simp only [Option.map, Option.some.injEq] at h
  split at h
  · cases h
  · exact C11_update_reported rb.level rb.simple rb.cur rb.curId rb.vs v h

theorem C11_none_untouched_update (simple : Bool) (cur : Option V) (curId : Option Nat) (vs : List V) :
    suggestUpdate lNone simple cur curId vs = .keep := by simp [suggestUpdate]

/-- fix 63128997, on the model: a range nothing satisfies keeps the requirement (`current` is nil and is not
dereferenced); requirement `1.0` (id 9) with the equal known version `1.0.0` (id 0) keeps the requirement (an equal
version is not an update) -/
theorem C11_update_fixed_witnesses :
    suggest lMajor false none [⟨0, 0, dOther, false⟩] = .keep ∧
    suggestUpdate lPatch true (some ⟨9, 5, dSame, true⟩) (some 9) [⟨0, 5, dSame, true⟩] = .keep := by decide

/-! Non-vacuity: requirement 2.5.0 (rank 3) with {2.0.0, 2.1.0, 3.0.0} at level minor keeps the
requirement (fix 3e9bb9ee: no downgrade to 2.1.0); with 2.6.0 known it moves up to it. -/
example : suggest lMinor true (some ⟨9, 3, dSame, true⟩) [⟨0, 1, dMinor, false⟩, ⟨1, 2, dMinor, false⟩, ⟨2, 5, dMajor, false⟩] = .keep := by decide
example : suggest lMinor true (some ⟨9, 3, dSame, true⟩) [⟨0, 1, dMinor, false⟩, ⟨1, 4, dMinor, false⟩, ⟨2, 5, dMajor, false⟩] = .update ⟨1, 4, dMinor, false⟩ := by decide

/-! Non-vacuity: level minor, versions {1.2.0, 1.9.0, 2.1.0, 2.5.0}; one requirement at 2.1.0 and one at 1.2.0 for the
same package get DIFFERENT targets (2.5.0 and 1.9.0), each within its own major line. -/
example : suggestPatch
    [⟨lMinor, false, true, some ⟨2, 2, dSame, true⟩, some 2, [⟨0, 0, dMajor, false⟩, ⟨1, 1, dMajor, false⟩, ⟨2, 2, dSame, true⟩, ⟨3, 3, dMinor, false⟩]⟩,
     ⟨lMinor, false, true, some ⟨0, 0, dSame, true⟩, some 0, [⟨0, 0, dSame, true⟩, ⟨1, 1, dMinor, false⟩, ⟨2, 2, dMajor, false⟩, ⟨3, 3, dMajor, false⟩]⟩]
    = [.update ⟨3, 3, dMinor, false⟩, .update ⟨1, 1, dMinor, false⟩] := by decide

end Scalibr.Suggest
