/-
C15 — SBOMs the library writes can be read back by the library.
Property theorems only; helper lemmas live in `Scalibr.Proofs.Sbom`.

Shape. `roundTripSpdx` / `roundTripCdx` = (writer of the chosen format) ∘ ToSPDX23 / ToCDX, then the SBOM
extractor's `Extract` on the written file (file-name dispatch included). The serialiser/parser pair is the
parameter `codecOf f : Codec Doc Bytes`; `Codec.roundtrips` for it is an ASSUMPTION about tools-golang /
cyclonedx-go (validated differentially by `harness/cmd/c15gen`, not proved). The purl library is the
parameter `ops`; `norm u` is what `purl.FromString(u.String())` returns.

Known finding C15/spdx-tag-value-supplier. For the SPDX tag-value format the assumption is FALSE on the
unchanged tree for every document ToSPDX23 produces, the empty inventory included: every package (the
"main" one too) gets `PackageSupplier{Supplier: NOASSERTION, SupplierType: NOASSERTION}`, the writer prints
`PackageSupplier: NOASSERTION: NOASSERTION`, the reader rejects the sub-key `NOASSERTION`
(`C15_tagvalue_supplier_rejected`), so `decode (encode d) = none` and `C15_codec_failure` applies: the scan of
the written file fails. Behind it, a newline or `<text>` / `</text>` in a name or location breaks the same format.
-/
import Scalibr.Proofs.Sbom
namespace Scalibr.Sbom

variable {Purl Bytes : Type}

/-! ## The scan of the file written for THIS inventory, if its document survives the format's writer + reader -/

theorem C15_spdx_at (ops : PurlOps Purl) (env : Env) (cfg : SPDXConfig)
    (codecOf : SpdxFormat → Codec SpdxDoc Bytes) (f : SpdxFormat) (hf : f ≠ .rdf) (inv : List (Pkg Purl))
    (hc : (codecOf f).decode ((codecOf f).encode (toSpdx ops env cfg inv)) = some (toSpdx ops env cfg inv)) :
    ∃ pkgs, roundTripSpdx ops env cfg codecOf f inv = .ok pkgs ∧ purlsOf pkgs = specSpdx ops inv := by
  refine ⟨convertSpdxDocToPackage ops (toSpdx ops env cfg inv) (spdxFileName f), ?_, spdx_doc_import ops env cfg _ inv⟩
  unfold roundTripSpdx extractSpdx
  rw [spdx_dispatch f hf]
  simp only [hc]

theorem C15_cdx_at (ops : PurlOps Purl) (env : Env) (cfg : CDXConfig)
    (codecOf : CdxFormat → Codec Bom Bytes) (f : CdxFormat) (hempty : ops.parse "" = none) (inv : List (Pkg Purl))
    (hc : (codecOf f).decode ((codecOf f).encode (toCdx ops env cfg inv)) = some (toCdx ops env cfg inv)) :
    ∃ pkgs, roundTripCdx ops env cfg codecOf f inv = .ok pkgs ∧ purlsOf pkgs = specCdx ops inv := by
  refine ⟨convertCdxBomToPackage ops (toCdx ops env cfg inv) (cdxFileName f), ?_, cdx_doc_import ops env cfg _ hempty inv⟩
  unfold roundTripCdx extractCdx
  rw [cdx_dispatch f]
  simp only [hc]

/-! ## SPDX 2.3 (JSON, YAML, tag-value) -/

/-- General form, all inventories, no hypothesis on purls: if the chosen format's codec round-trips, the
scan of the written file succeeds and returns — in inventory order — the parsed-back purl of every package
ToSPDX23 exports (purl present, name and version non-empty) whose purl string the library can parse. -/
theorem C15_spdx_general (ops : PurlOps Purl) (env : Env) (cfg : SPDXConfig)
    (codecOf : SpdxFormat → Codec SpdxDoc Bytes) (f : SpdxFormat) (hf : f ≠ .rdf)
    (hc : (codecOf f).roundtrips) (inv : List (Pkg Purl)) :
    ∃ pkgs, roundTripSpdx ops env cfg codecOf f inv = .ok pkgs ∧ purlsOf pkgs = specSpdx ops inv :=
  C15_spdx_at ops env cfg codecOf f hf inv (hc _)

/-- (Superseded by `C15_spdx_partial`, whose codec hypothesis is pointwise and whose `norm` is constrained; kept because the
identity-codec examples and the driver use it.) **C15 for SPDX**: with a round-tripping codec and every purl of the inventory parsing back to its
normal form, the purls imported from the written file are a permutation of (indeed equal to) the exported
packages' normalised purls — for every inventory (duplicates, purl-less packages, any length). -/
theorem C15_spdx (ops : PurlOps Purl) (env : Env) (cfg : SPDXConfig)
    (codecOf : SpdxFormat → Codec SpdxDoc Bytes) (f : SpdxFormat) (hf : f ≠ .rdf)
    (hc : (codecOf f).roundtrips) (norm : Purl → Purl) (inv : List (Pkg Purl)) (hn : ParsesBack ops norm inv) :
    ∃ pkgs, roundTripSpdx ops env cfg codecOf f inv = .ok pkgs ∧
      (purlsOf pkgs).Perm (((inv.filter (exportedSpdx ops)).filterMap (·.purl)).map norm) := by
  obtain ⟨pkgs, h1, h2⟩ := C15_spdx_general ops env cfg codecOf f hf hc inv
  rw [specSpdx, specPurls_eq_specNorm ops norm _ inv hn] at h2
  exact ⟨pkgs, h1, .of_eq h2⟩

/-- The statement with plain `hasPurl` (every package that has a purl comes back) needs: no purl of the
inventory has an empty name or version. -/
theorem C15_spdx_hasPurl (ops : PurlOps Purl) (env : Env) (cfg : SPDXConfig)
    (codecOf : SpdxFormat → Codec SpdxDoc Bytes) (f : SpdxFormat) (hf : f ≠ .rdf)
    (hc : (codecOf f).roundtrips) (norm : Purl → Purl) (inv : List (Pkg Purl)) (hn : ParsesBack ops norm inv)
    (hnv : ∀ p ∈ inv, ∀ u, p.purl = some u → ops.name u ≠ "" ∧ ops.version u ≠ "") :
    ∃ pkgs, roundTripSpdx ops env cfg codecOf f inv = .ok pkgs ∧
      (purlsOf pkgs).Perm (((inv.filter hasPurl).filterMap (·.purl)).map norm) := by
  obtain ⟨pkgs, h1, h2⟩ := C15_spdx ops env cfg codecOf f hf hc norm inv hn
  refine ⟨pkgs, h1, ?_⟩
  have : inv.filter (exportedSpdx ops) = inv.filter hasPurl := by
    apply List.filter_congr
    intro p hp
    cases hu : p.purl with
    | none => simp [exportedSpdx, hasPurl, hu]
    | some u => have := hnv p hp u hu; simp [exportedSpdx, hasPurl, hu, this.1, this.2]
  rw [← this]; exact h2

/-! ### the statements the property needs: POINTWISE codec hypothesis, constrained `norm`

`Codec.roundtrips` (∀ d) is far stronger than needed and FALSE for the real tag-value codec on every document (and for YAML
on documents with control characters), so theorems that assume it say nothing for those formats even on clean inventories.
The `_partial` theorems below only assume that THIS inventory's document survives the codec, and they constrain `norm`
(`NormLaws`) and conclude field-level facts about every purl that comes back. `_partial`: the hypotheses (`hc`, `ParsesBack`,
`NormLaws`) narrow the property — `hc` is exactly the assumption about tools-golang / cyclonedx-go that the stream validates. -/

/-- what a returned purl `q` shares with the exported purl `u` it is the normal form of: everything but the case of the type, the
case / separator folding of the name, case and empty segments of the namespace, the case of qualifier keys and meaningless
sub-path segments -/
def SameUpToType (ops : PurlOps Purl) (fld : PurlFields Purl) (q u : Purl) : Prop :=
  ops.version q = ops.version u ∧ canonName (ops.name q) = canonName (ops.name u) ∧ (fld.typ q).toList = lowerL (fld.typ u) ∧
  (cleanSegs (fld.ns q)).map lowerL = (cleanSegs (fld.ns u)).map lowerL ∧
  (∀ x, x ∈ canonQuals (fld.quals q) ↔ x ∈ canonQuals (fld.quals u)) ∧ cleanSegs (fld.subpath q) = cleanSegs (fld.subpath u)

/-- every purl of the spec list is the normal form of an exported package's purl, with that package's version, a name equal
up to `canonName`, and is itself normal -/
theorem specNorm_fields (ops : PurlOps Purl) (fld : PurlFields Purl) (norm : Purl → Purl) (hl : NormLaws ops fld norm) (exported : Pkg Purl → Bool)
    (inv : List (Pkg Purl)) : ∀ q ∈ specNorm norm exported inv, ∃ p ∈ inv, ∃ u, exported p = true ∧ p.purl = some u ∧ q = norm u ∧
      SameUpToType ops fld q u ∧ norm q = q := by
  intro q hq
  simp only [specNorm, List.mem_map, List.mem_filterMap, List.mem_filter] at hq
  obtain ⟨u, ⟨p, ⟨hp, hex⟩, hu⟩, rfl⟩ := hq
  exact ⟨p, hp, u, hex, hu, rfl, ⟨hl.version u, hl.name u, hl.typ u, hl.ns u, hl.quals u, hl.subpath u⟩, hl.idem u⟩

/-- **C15 for SPDX (json / yaml / tag-value alike)**: if the document built for THIS inventory survives the format's
writer + reader, the scan of the written file returns, as a multiset, exactly the normal forms of the exported packages' purls;
and each of them carries the version of the package it came from, the same name up to case / separator folding, and is a fixed
point of the normalisation. -/
theorem C15_spdx_partial (ops : PurlOps Purl) (env : Env) (cfg : SPDXConfig)
    (codecOf : SpdxFormat → Codec SpdxDoc Bytes) (f : SpdxFormat) (hf : f ≠ .rdf) (inv : List (Pkg Purl))
    (hc : (codecOf f).decode ((codecOf f).encode (toSpdx ops env cfg inv)) = some (toSpdx ops env cfg inv))
    (fld : PurlFields Purl) (norm : Purl → Purl) (hn : ParsesBack ops norm inv) (hl : NormLaws ops fld norm) :
    ∃ pkgs, roundTripSpdx ops env cfg codecOf f inv = .ok pkgs ∧
      (purlsOf pkgs).Perm (((inv.filter (exportedSpdx ops)).filterMap (·.purl)).map norm) ∧
      ∀ q ∈ purlsOf pkgs, ∃ p ∈ inv, ∃ u, exportedSpdx ops p = true ∧ p.purl = some u ∧ q = norm u ∧
        SameUpToType ops fld q u ∧ norm q = q := by
  obtain ⟨pkgs, h1, h2⟩ := C15_spdx_at ops env cfg codecOf f hf inv hc
  rw [specSpdx, specPurls_eq_specNorm ops norm _ inv hn] at h2
  exact ⟨pkgs, h1, .of_eq h2, h2 ▸ specNorm_fields ops fld norm hl _ inv⟩

/-- **C15 for CycloneDX (json / xml)**, same shape; exported = has a purl -/
theorem C15_cdx_partial (ops : PurlOps Purl) (env : Env) (cfg : CDXConfig)
    (codecOf : CdxFormat → Codec Bom Bytes) (f : CdxFormat) (hempty : ops.parse "" = none) (inv : List (Pkg Purl))
    (hc : (codecOf f).decode ((codecOf f).encode (toCdx ops env cfg inv)) = some (toCdx ops env cfg inv))
    (fld : PurlFields Purl) (norm : Purl → Purl) (hn : ParsesBack ops norm inv) (hl : NormLaws ops fld norm) :
    ∃ pkgs, roundTripCdx ops env cfg codecOf f inv = .ok pkgs ∧
      (purlsOf pkgs).Perm (((inv.filter hasPurl).filterMap (·.purl)).map norm) ∧
      ∀ q ∈ purlsOf pkgs, ∃ p ∈ inv, ∃ u, hasPurl p = true ∧ p.purl = some u ∧ q = norm u ∧
        SameUpToType ops fld q u ∧ norm q = q := by
  obtain ⟨pkgs, h1, h2⟩ := C15_cdx_at ops env cfg codecOf f hempty inv hc
  rw [specCdx, specPurls_eq_specNorm ops norm _ inv hn] at h2
  exact ⟨pkgs, h1, .of_eq h2, h2 ▸ specNorm_fields ops fld norm hl _ inv⟩

/-- a normalisation that sends everything to one purl violates `NormLaws` as soon as two purls have different versions
(so a "parser" returning one fixed purl does not satisfy the hypotheses of the `_partial` theorems) -/
theorem C15_constant_norm_excluded (ops : PurlOps Purl) (fld : PurlFields Purl) (e u : Purl) (h : ops.version u ≠ ops.version e) :
    ¬ NormLaws ops fld (fun _ => e) := fun hl => h (hl.version u).symm

/-- A library that maps every purl to type "evil" (keeping name and version) violates
`NormLaws` as soon as one purl has another type; so does one that drops or rewrites a qualifier value (seeded change C15e: a blank
in `distro=Plucky Puffin` read back as `+`) -/
theorem C15_evil_type_excluded (ops : PurlOps Purl) (fld : PurlFields Purl) (norm : Purl → Purl)
    (hevil : ∀ u, fld.typ (norm u) = "evil") (u : Purl) (hu : lowerL (fld.typ u) ≠ "evil".toList) : ¬ NormLaws ops fld norm :=
  fun hl => hu ((hl.typ u).symm.trans (by rw [hevil u]))

theorem C15_qualifier_rewrite_excluded (ops : PurlOps Purl) (fld : PurlFields Purl) (norm : Purl → Purl) (u : Purl) (k v : String)
    (hv : v ≠ "") (hin : (k, v) ∈ fld.quals u) (hout : ∀ k', (k', v) ∉ fld.quals (norm u)) : ¬ NormLaws ops fld norm := by
  intro hl
  have h1 : (lowerL k, v) ∈ canonQuals (fld.quals u) := by
    simp only [canonQuals, List.mem_map, List.mem_filter]
    exact ⟨(k, v), ⟨hin, by simpa using hv⟩, rfl⟩
  have h2 := (hl.quals u (lowerL k, v)).mpr h1
  simp only [canonQuals, List.mem_map, List.mem_filter] at h2
  obtain ⟨⟨k', v'⟩, ⟨hm, _⟩, he⟩ := h2
  simp only [Prod.mk.injEq] at he
  exact hout k' (he.2 ▸ hm)

/-! ### the wrapper package is recognised by STRUCTURE, never by name

ToSPDX23 puts one synthetic package in front (the target of the document's DESCRIBES relationship, without external
references); every other package of the document stands for an inventory package and carries exactly one purl reference.
The importer keeps a package iff it has a parsable purl (or a CPE) — so every non-wrapper package whose purl parses is
imported, WHATEVER its name or SPDX id looks like (`main`, `main-bower-files`, `Package-main`, ids that collide after
sanitising). A reader that skipped packages by an id / name prefix (seeded change C15d) contradicts this theorem's model. -/
theorem spdxLoop_refs (ops : PurlOps Purl) (env : Env) (mainId : String) : ∀ (inv : List (Pkg Purl)) (k : Nat),
    ∀ p ∈ (spdxLoop ops env mainId k inv).1, ∃ loc, p.extRefs = [{ category := "PACKAGE-MANAGER", refType := "purl", locator := loc }] := by
  intro inv k
  -- one case per branch of the loop: the two `continue`s, and the appended entry
  fun_induction spdxLoop ops env mainId k inv
  case case4 ih => exact fun p hp => (List.mem_cons.mp hp).elim (· ▸ ⟨_, rfl⟩) (ih p)
  all_goals simp_all

theorem C15_spdx_nonwrapper_imported (ops : PurlOps Purl) (env : Env) (cfg : SPDXConfig) (inv : List (Pkg Purl)) (path : String) :
    ∃ w rest, (toSpdx ops env cfg inv).packages = w :: rest ∧
      -- the wrapper, structurally: the DESCRIBES target, with no external reference
      (∃ r ∈ (toSpdx ops env cfg inv).relationships, r.kind = "DESCRIBES" ∧ r.refB = toDocElementID w.id) ∧ w.extRefs = [] ∧
      -- every other package: one purl reference; if it parses, the package is imported with that purl
      ∀ p ∈ rest, ∃ loc, p.extRefs = [{ category := "PACKAGE-MANAGER", refType := "purl", locator := loc }] ∧
        ∀ u, ops.parse loc = some u →
          ∃ ip ∈ convertSpdxDocToPackage ops (toSpdx ops env cfg inv) path, ip.purl = some u ∧ ip.name = ops.name u := by
  refine ⟨_, (spdxLoop ops env _ 1 inv).1, rfl, ⟨_, List.mem_cons_self, rfl, rfl⟩, rfl, ?_⟩
  intro p hp
  obtain ⟨loc, hloc⟩ := spdxLoop_refs ops env _ inv 1 p hp
  refine ⟨loc, hloc, fun u hu => ?_⟩
  have hconv : convertSpdxPackage ops path p = some { name := ops.name u, version := "", locations := [path], cpes := [], purl := some u } := by
    simp [convertSpdxPackage, hloc, refStep, hu]
  refine ⟨{ name := ops.name u, version := "", locations := [path], cpes := [], purl := some u }, ?_, rfl, rfl⟩
  simp only [convertSpdxDocToPackage, List.mem_filterMap]
  exact ⟨p, by simp [toSpdx, hp], hconv⟩

/-! ## CycloneDX (JSON, XML) -/

theorem C15_cdx_general (ops : PurlOps Purl) (env : Env) (cfg : CDXConfig)
    (codecOf : CdxFormat → Codec Bom Bytes) (f : CdxFormat)
    (hc : (codecOf f).roundtrips) (hempty : ops.parse "" = none) (inv : List (Pkg Purl)) :
    ∃ pkgs, roundTripCdx ops env cfg codecOf f inv = .ok pkgs ∧ purlsOf pkgs = specCdx ops inv :=
  C15_cdx_at ops env cfg codecOf f hempty inv (hc _)

/-- **C15 for CycloneDX**: every package with a purl comes back, normalised; nothing else carries a purl. -/
theorem C15_cdx (ops : PurlOps Purl) (env : Env) (cfg : CDXConfig)
    (codecOf : CdxFormat → Codec Bom Bytes) (f : CdxFormat)
    (hc : (codecOf f).roundtrips) (hempty : ops.parse "" = none)
    (norm : Purl → Purl) (inv : List (Pkg Purl)) (hn : ParsesBack ops norm inv) :
    ∃ pkgs, roundTripCdx ops env cfg codecOf f inv = .ok pkgs ∧
      (purlsOf pkgs).Perm (((inv.filter hasPurl).filterMap (·.purl)).map norm) := by
  obtain ⟨pkgs, h1, h2⟩ := C15_cdx_general ops env cfg codecOf f hc hempty inv
  rw [specCdx, specPurls_eq_specNorm ops norm _ inv hn] at h2
  exact ⟨pkgs, h1, .of_eq h2⟩

/-! ## The order of the inventory is irrelevant to the multiset -/

theorem C15_inventory_order (ops : PurlOps Purl) (exported : Pkg Purl → Bool) (inv inv' : List (Pkg Purl))
    (h : inv.Perm inv') : (specPurls ops exported inv).Perm (specPurls ops exported inv') :=
  (h.filter _).filterMap _

/-! ## Without a round-tripping codec the importer fails (formal shape of the tag-value finding) -/

/-- If the parser rejects what the writer produced, scanning the written file fails — whatever the
inventory, the empty one included. -/
theorem C15_codec_failure (ops : PurlOps Purl) (env : Env) (cfg : SPDXConfig)
    (codecOf : SpdxFormat → Codec SpdxDoc Bytes) (f : SpdxFormat) (hf : f ≠ .rdf) (inv : List (Pkg Purl))
    (hrej : (codecOf f).decode ((codecOf f).encode (toSpdx ops env cfg inv)) = none) :
    roundTripSpdx ops env cfg codecOf f inv = .error .parse := by
  unfold roundTripSpdx extractSpdx
  rw [spdx_dispatch f hf]
  simp only [hrej]

theorem C15_codec_failure_cdx (ops : PurlOps Purl) (env : Env) (cfg : CDXConfig)
    (codecOf : CdxFormat → Codec Bom Bytes) (f : CdxFormat) (inv : List (Pkg Purl))
    (hrej : (codecOf f).decode ((codecOf f).encode (toCdx ops env cfg inv)) = none) :
    roundTripCdx ops env cfg codecOf f inv = .error .parse := by
  unfold roundTripCdx extractCdx
  rw [cdx_dispatch f]
  simp only [hrej]

/-- Every document ToSPDX23 builds contains the supplier pair (NOASSERTION, NOASSERTION): on its first
package, for every inventory. -/
theorem C15_every_doc_has_noassertion_supplier (ops : PurlOps Purl) (env : Env) (cfg : SPDXConfig) (inv : List (Pkg Purl)) :
    ∃ m rest, (toSpdx ops env cfg inv).packages = m :: rest ∧
      m.supplier = some { supplier := "NOASSERTION", supplierType := "NOASSERTION" } :=
  ⟨_, _, rfl, rfl⟩

/-- tools-golang's tag-value writer prints that pair as `NOASSERTION: NOASSERTION`, and its reader rejects
the line (sub-key `NOASSERTION` is neither `Person` nor `Organization`). -/
theorem C15_tagvalue_supplier_rejected :
    tvWriteSupplier "NOASSERTION".toList "NOASSERTION".toList = "NOASSERTION: NOASSERTION".toList ∧
    tvReadSupplier (tvWriteSupplier "NOASSERTION".toList "NOASSERTION".toList) = none := by
  repeat rw [String.toList_ofList]
  decide +kernel

/-- …whereas the pair (NOASSERTION, "") — what the reader itself produces for `PackageSupplier: NOASSERTION`
— survives. (The one-line repair; it changes literals asserted by converter_test.go, hence a known finding.) -/
theorem C15_tagvalue_supplier_repair :
    tvReadSupplier (tvWriteSupplier "NOASSERTION".toList []) = some ("NOASSERTION".toList, []) := by
  repeat rw [String.toList_ofList]
  decide +kernel

/-! ## File-name dispatch does not depend on Go's map iteration order -/

/-- no key of `extensionHandlers` / `cdxExtensions` is a suffix of another key … -/
theorem C15_dispatch_keys_suffix_free :
    (∀ a ∈ spdxExtensionHandlers, ∀ b ∈ spdxExtensionHandlers, a.1.toList <:+ b.1.toList → a = b) ∧
    (∀ a ∈ cdxExtensions, ∀ b ∈ cdxExtensions, a.1.toList <:+ b.1.toList → a = b) := by
  decide +kernel

/-- … hence at most one key matches any path, and `findExtractor`'s result is the same for every
iteration order of the map. -/
theorem C15_spdx_dispatch_unambiguous (path : String) (a b : String × SpdxFormat)
    (ha : a ∈ spdxExtensionHandlers) (hb : b ∈ spdxExtensionHandlers)
    (h1 : hasFileExtension path a.1 = true) (h2 : hasFileExtension path b.1 = true) : a = b := by
  unfold hasFileExtension at h1 h2
  rw [List.isSuffixOf_iff_suffix] at h1 h2
  rcases Nat.le_total a.1.toList.length b.1.toList.length with hl | hl
  · exact C15_dispatch_keys_suffix_free.1 a ha b hb (List.suffix_of_suffix_length_le h1 h2 hl)
  · exact (C15_dispatch_keys_suffix_free.1 b hb a ha (List.suffix_of_suffix_length_le h2 h1 hl)).symm

/-! ## Where the unchanged code leaves the plain-`hasPurl` reading for SPDX, and non-vacuity -/

/-- a toy purl library: purls are their strings; `FromString` rejects "" and "pkg:bogus/x@1" and lower-cases
the type of one upper-case purl -/
def toyOps : PurlOps String where
  str := id
  parse := fun s => if s = "" ∨ s = "pkg:bogus/x@1" then none else if s = "pkg:NPM/B@2" then some "pkg:npm/B@2" else some s
  name := fun s => if s = "pkg:npm/@1" then "" else "n"
  version := fun s => if s = "pkg:gem/v" then "" else "1"

def toyNorm (s : String) : String := if s = "pkg:NPM/B@2" then "pkg:npm/B@2" else s
def toyEnv : Env := { uuid := fun k => toString k, now := "2025-01-01T00:00:00Z" }
def idCodec (Doc : Type) : Codec Doc Doc := { encode := id, decode := some }
/-- a codec whose parser rejects everything (the tag-value situation) -/
def deafCodec (Doc : Type) : Codec Doc Doc := { encode := id, decode := fun _ => none }

def mkPkg (name : String) (purl : Option String) : Pkg String :=
  { name := name, version := "1", locations := ["f"], extractor := "x", purl := purl, cpes := [] }

/-- three packages: an upper-case-type purl, a package without purl, and a duplicate of the first -/
def exInv : List (Pkg String) := [mkPkg "b" (some "pkg:NPM/B@2"), mkPkg "nopurl" none, mkPkg "b" (some "pkg:NPM/B@2"), mkPkg "a" (some "pkg:npm/a@1")]

example : (idCodec SpdxDoc).roundtrips := fun _ => rfl
example : (idCodec Bom).roundtrips := fun _ => rfl
example : toyOps.parse "" = none := by decide
example : ParsesBack toyOps toyNorm exInv := by
  intro p hp u hu
  simp only [exInv, mkPkg, List.mem_cons, List.mem_nil_iff, or_false] at hp
  rcases hp with rfl | rfl | rfl | rfl <;> simp at hu <;> subst hu <;> decide
example : ∀ p ∈ exInv, ∀ u, p.purl = some u → toyOps.name u ≠ "" ∧ toyOps.version u ≠ "" := by
  intro p hp u hu
  simp only [exInv, mkPkg, List.mem_cons, List.mem_nil_iff, or_false] at hp
  rcases hp with rfl | rfl | rfl | rfl <;> simp at hu <;> subst hu <;> decide
/-- the model really returns the three normalised purls, duplicate kept, purl-less package absent -/
example : (roundTripSpdx toyOps toyEnv {} (fun _ => idCodec SpdxDoc) .json exInv).toOption.map purlsOf
    = some ["pkg:npm/B@2", "pkg:npm/B@2", "pkg:npm/a@1"] := by decide +kernel
example : (roundTripCdx toyOps toyEnv {} (fun _ => idCodec Bom) .xml exInv).toOption.map purlsOf
    = some ["pkg:npm/B@2", "pkg:npm/B@2", "pkg:npm/a@1"] := by decide +kernel
/-- `C15_codec_failure`'s hypothesis is satisfiable, for the empty inventory already -/
example : (deafCodec SpdxDoc).decode ((deafCodec SpdxDoc).encode (toSpdx toyOps toyEnv {} [])) = none := rfl
example : (roundTripSpdx toyOps toyEnv {} (fun _ => deafCodec SpdxDoc) .tagValue ([] : List (Pkg String))).toOption.map purlsOf = none := by decide +kernel

/-- Outside `hnv`: a package whose purl has no version (or no name) is not exported to SPDX at all, so the
plain-`hasPurl` statement fails there although the codec round-trips and the purl parses. CycloneDX keeps it. -/
theorem C15_spdx_versionless_dropped :
    (roundTripSpdx toyOps toyEnv {} (fun _ => idCodec SpdxDoc) .json [mkPkg "v" (some "pkg:gem/v")]).toOption.map purlsOf = some [] ∧
    (roundTripCdx toyOps toyEnv {} (fun _ => idCodec Bom) .json [mkPkg "v" (some "pkg:gem/v")]).toOption.map purlsOf = some ["pkg:gem/v"] := by
  decide +kernel

/-- Outside `ParsesBack`: an exported purl that `FromString` rejects is silently lost by both importers. -/
theorem C15_unparsable_lost :
    (roundTripSpdx toyOps toyEnv {} (fun _ => idCodec SpdxDoc) .yaml [mkPkg "x" (some "pkg:bogus/x@1")]).toOption.map purlsOf = some [] ∧
    (roundTripCdx toyOps toyEnv {} (fun _ => idCodec Bom) .xml [mkPkg "x" (some "pkg:bogus/x@1")]).toOption.map purlsOf = some [] := by
  decide +kernel

/-! non-vacuity of the `_partial` hypotheses: the toy library's normalisation obeys `NormLaws`; the identity codec satisfies
the pointwise hypothesis on the example inventory -/
def toyFld : PurlFields String where
  typ := fun s => if s = "pkg:NPM/B@2" then "NPM" else if s = "pkg:npm/B@2" then "npm" else "t"
  ns := fun _ => ""
  quals := fun s => if s = "pkg:NPM/B@2" ∨ s = "pkg:npm/B@2" then [("arch", "amd64")] else []
  subpath := fun _ => ""

example : NormLaws toyOps toyFld toyNorm := by
  refine ⟨fun u => ?_, fun u => ?_, fun u => ?_, fun u => ?_, fun u => ?_, fun u x => ?_, fun u => ?_⟩
  · unfold toyNorm; split <;> simp
  · unfold toyNorm toyOps; split
    · rename_i h; subst h; decide
    · rfl
  · unfold toyNorm toyOps; split
    · rename_i h; subst h; simp
    · rfl
  · unfold toyNorm toyFld; split
    · rename_i h; subst h; decide
    · rename_i h; simp only [h, if_false]; split <;> decide
  · rfl
  · unfold toyNorm toyFld; split
    · rename_i h; subst h; simp
    · rfl
  · rfl

/-- the toy library with every type rewritten to "evil" is NOT a model of the laws -/
example : ¬ NormLaws toyOps { toyFld with typ := fun s => if s = "pkg:npm/a@1" then "npm" else "evil" } (fun _ => "x") :=
  C15_evil_type_excluded _ _ _ (fun _ => by decide) "pkg:npm/a@1" (by decide)
example : (idCodec SpdxDoc).decode ((idCodec SpdxDoc).encode (toSpdx toyOps toyEnv {} exInv)) = some (toSpdx toyOps toyEnv {} exInv) := rfl

/-- a package whose purl NAME is `main` (and whose SPDX id therefore starts with `SPDXRef-Package-main-`, exactly like the
wrapper's) is imported: the wrapper is the DESCRIBES target, not "whatever is called main" -/
def mainOps : PurlOps String where
  str := id
  parse := fun s => if s = "" then none else some s
  name := fun s => if s = "pkg:npm/main@1" then "main" else "other"
  version := fun _ => "1"
example : (roundTripSpdx mainOps toyEnv {} (fun _ => idCodec SpdxDoc) .json
      [mkPkg "main" (some "pkg:npm/main@1"), mkPkg "x" (some "pkg:npm/x@1")]).toOption.map purlsOf
    = some ["pkg:npm/main@1", "pkg:npm/x@1"] := by decide +kernel

end Scalibr.Sbom
