/-
C18 — consequences of `C18_range_decl` that a user of guided remediation relies on directly: the three sentences of the
property text read off the order-free specification, for EVERY well-formed range in any listing order, any number of
events, events sharing versions included. Helper lemmas are local and private; nothing here weakens `C18.lean`.
-/
import Scalibr.Properties.C18
namespace Scalibr.Vulns

/-- the decision on a well-formed range is the order-free specification, as a sentence -/
private theorem rangeDecision_iff (es : List Ev) (q : Nat) (hw : WF es = true) : rangeDecision es q = true ↔
    ∃ i ∈ es, i.k = .intro ∧ i.v ≤ q ∧
      ∀ c ∈ es, ¬ (c.k = .fixed ∧ i.v < c.v ∧ c.v ≤ q) ∧ ¬ (c.k = .last ∧ i.v ≤ c.v ∧ c.v < q) := by
  simp only [C18_range_decl es q hw, osvDecl, List.any_eq_true, Bool.and_eq_true, Bool.not_eq_true', List.any_eq_false,
    Bool.or_eq_true, decide_eq_true_eq, not_or, and_assoc]

/-- **A version below every `introduced` event is not affected** by the range. -/
theorem C18_before_introduced (es : List Ev) (q : Nat) (hw : WF es = true)
    (h : ∀ i ∈ es, i.k = .intro → q < i.v) : rangeDecision es q = false := by
  rw [← Bool.not_eq_true, rangeDecision_iff es q hw]
  rintro ⟨i, hi, hk, hv, _⟩
  exact absurd (h i hi hk) (by omega)

/-- **Upgrading to a `fixed` version (or past it) fixes**: a version at or above a `fixed` event, with no `introduced`
event between that `fixed` event and the version (both ends included), is not affected. -/
theorem C18_at_or_after_fixed (es : List Ev) (q : Nat) (hw : WF es = true) (f : Ev) (hf : f ∈ es) (hk : f.k = .fixed)
    (hq : f.v ≤ q) (h : ∀ i ∈ es, i.k = .intro → ¬ (f.v ≤ i.v ∧ i.v ≤ q)) : rangeDecision es q = false := by
  rw [← Bool.not_eq_true, rangeDecision_iff es q hw]
  rintro ⟨i, hi, hik, hv, hc⟩
  have := h i hi hik
  exact (hc f hf).1 ⟨hk, by omega, hq⟩

/-- **Past a `last_affected` version is safe**: a version strictly above a `last_affected` event, with no `introduced`
event strictly above that event and at or below the version, is not affected. -/
theorem C18_after_last_affected (es : List Ev) (q : Nat) (hw : WF es = true) (l : Ev) (hl : l ∈ es) (hk : l.k = .last)
    (hq : l.v < q) (h : ∀ i ∈ es, i.k = .intro → ¬ (l.v < i.v ∧ i.v ≤ q)) : rangeDecision es q = false := by
  rw [← Bool.not_eq_true, rangeDecision_iff es q hw]
  rintro ⟨i, hi, hik, hv, hc⟩
  have := h i hi hik
  exact (hc l hl).2 ⟨hk, by omega, hq⟩

/-- **The version that introduces the vulnerability is itself affected** — whatever else the range lists (a `fixed` or
`last_affected` event on the same version included: `fixed X, introduced X` are adjacent intervals, and
`introduced X, last_affected X` is exactly the version X). -/
theorem C18_introduced_version_affected (es : List Ev) (hw : WF es = true) (i : Ev) (hi : i ∈ es) (hk : i.k = .intro) :
    rangeDecision es i.v = true := by
  rw [rangeDecision_iff es i.v hw]
  refine ⟨i, hi, hk, Nat.le_refl _, fun c _ => ⟨?_, ?_⟩⟩ <;> (rintro ⟨_, a, b⟩; omega)

/-- **Inside an interval**: between an `introduced` event and the version, if no event of any kind lies strictly between
the opening and the version and none closes AT the version (`fixed` at the version) or at the opening
(`last_affected` at the opening, for a later version), the version is affected. -/
theorem C18_inside_interval (es : List Ev) (q : Nat) (hw : WF es = true) (i : Ev) (hi : i ∈ es) (hk : i.k = .intro)
    (hv : i.v ≤ q) (h : ∀ c ∈ es, c.k ≠ .intro → ¬ (i.v ≤ c.v ∧ c.v ≤ q) ∨ (c.k = .last ∧ c.v = q) ∨ (c.k = .fixed ∧ c.v = i.v)) :
    rangeDecision es q = true := by
  rw [rangeDecision_iff es q hw]
  refine ⟨i, hi, hk, hv, fun c hc => ⟨?_, ?_⟩⟩
  · rintro ⟨a, b, d⟩
    rcases h c hc (by simp [a]) with x | ⟨x, _⟩ | ⟨_, x⟩
    · omega
    · rw [a] at x; cases x
    · omega
  · rintro ⟨a, b, d⟩
    rcases h c hc (by simp [a]) with x | ⟨_, x⟩ | ⟨x, _⟩
    · omega
    · omega
    · rw [a] at x; cases x

/-! non-vacuity: a well-formed range with two intervals and a tie, and each theorem's premises met on it -/
def exRange : List Ev := [⟨.fixed, 5⟩, ⟨.intro, 2⟩, ⟨.intro, 5⟩, ⟨.last, 8⟩, ⟨.intro, 12⟩]
example : WF exRange = true := by decide
example : rangeDecision exRange 1 = false ∧ rangeDecision exRange 2 = true ∧ rangeDecision exRange 5 = true ∧
    rangeDecision exRange 8 = true ∧ rangeDecision exRange 9 = false ∧ rangeDecision exRange 12 = true := by decide
example : ∀ i ∈ exRange, i.k = .intro → 1 < i.v := by decide
example : ∀ i ∈ exRange, i.k = .intro → ¬ ((8 : Nat) < i.v ∧ i.v ≤ 11) := by decide

end Scalibr.Vulns
