/-
C01 — Every required file is extracted exactly once, and nothing else is.
Property theorems only (model: Model/Walk.lean, specification: Spec/Walk.lean).
`GiOK c` = the gitignore matcher obeys go-git's domain rule (a pattern set parsed for directory d only
matches paths strictly below d).  All statements hold for every forest, every fault plan and every
combination of the scan options, within the stated configuration class.

NAMING AND CONFIGURATION CLASSES.  A theorem that holds only inside a class of configurations carries the class in its NAME
(`_benign`, `_fatalcfg`, `_limitcfg`, `_cancelcfg`): that is a restriction of the property's quantifier over configurations,
not a relabelling; `_partial` marks a hypothesis that narrows the quantifier over inputs (DistinctNames, one root, `paths = []`,
NoGiFaults, NoReadFaults).  Names without suffix hold for EVERY configuration (at most `NoExtractorPanic` / the matcher's domain law).
  * `Benign c` (no inode limit, no cancellation, `ErrorOnFSErrors` off, extractors do not panic): the EXACT
    theorems `C01_calls_benign`, `C01_inv_spec_benign`, `C01_once_run_partial`, `C01_subdir_partial`, `C01_requested_*` — the attempts are the
    specification's, as a list.
  * EVERY configuration (inode limit, size limit, cancellation before / inside any `Extract`, fatal errors,
    panicking extractors, and all their combinations): the invariant-style theorems `C01_only_required_run`,
    `C01_calls_are_files`, `C01_limit_shared_run`, `C01_limit_shared_step`, `C01_inv`.
  * The other exact classes are in C09 (`FatalCfg`: fatal errors; `C09_fatal_clean_fatalcfg`: fatal errors and no
    traversal fault = the benign scan; `C09_eofs_only_by_failing`: any configuration) and C10 (`LimitCfg`,
    `CancelCfg`, and `run_trace` for every non-fatal, non-panicking configuration).  Combinations limit+fatal,
    cancellation+fatal and any configuration with a panicking extractor have ONLY the invariant-style theorems
    (plus `C09_eofs_only_by_failing`, which reduces a fatal configuration that does not fail to its non-fatal twin).
Hypotheses that DO narrow the input carry the `_partial`-style caveat in their docstring: `DistinctNames`
(sibling names distinct — true of every real filesystem listing), one root, `paths = []`.
-/
import Scalibr.Proofs.WalkSpec
import Scalibr.Proofs.WalkMore
import Scalibr.Model.Gitignore
import Scalibr.Proofs.WalkSubdir
import Scalibr.Proofs.WalkInv
import Scalibr.Proofs.WalkOnce
import Scalibr.Proofs.WalkSubdirHyp
namespace Scalibr.Walk

/-- The extraction attempts of a scan are exactly the ones the specification lists — as a list: in
enumeration order, each with its multiplicity — and the scan succeeds. `Extract` itself runs for the
attempts whose file can be opened (`opened`). -/
theorem C01_calls_benign (c : Cfg) (hb : Benign c) (roots : List (Node × Faults)) (ho : GiOK c) :
    (run c roots).err = .none ∧ (run c roots).calls = mustExtract c roots :=
  run_spec c hb roots ho

/-- "Exactly once" (specification; narrowing hypothesis: `DistinctNames`, i.e. no directory lists a name twice):
no (extractor, file) PAIR is owed twice within one walk — stated on the pairs `(cl.ext, cl.path)`, not on the
attempt records (two equally named siblings of different sizes would give distinct records for the same pair). -/
theorem C01_once_partial (c : Cfg) (f : Faults) (above : List GiEntry) (p : Path) (n : Node) (h : DistinctNames n) :
    ((mustFrom c f above p n).map fun cl => (cl.ext, cl.path)).Nodup :=
  mustFrom_keys_nodup c f above p n h

/-- … and for the engine (class `Benign`; narrowing: one root, whole-tree scan, `DistinctNames`): no
(extractor, file) pair is ATTEMPTED twice by the scan.  (With several roots, or a path requested twice, the
same relative path is legitimately extracted once per root / request: see `C08_roots_benign`.) -/
theorem C01_once_run_partial (c : Cfg) (hb : Benign c) (ho : GiOK c) (hp : c.paths = []) (root : Node) (f : Faults)
    (h : DistinctNames root) : ((run c [(root, f)]).calls.map fun cl => (cl.ext, cl.path)).Nodup :=
  run_keys_nodup c hb ho hp root f h

/-- "Every file": `allFiles`, over which the specification quantifies, enumerates exactly the non-directory
nodes of the tree — `q` leads to a file of kind `k` and size `sz` iff the enumeration has a record with that
path, kind and size (`DistinctNames`: `lookup` resolves a name to its FIRST entry; the direction "every file
`lookup` finds is enumerated" needs no hypothesis: `C01_allFiles_complete`). -/
theorem C01_allFiles_exact (root : Node) (h : DistinctNames root) (q : Path) (k : Kind) (sz : Nat) :
    lookup root q = some (.file k sz) ↔ ∃ r ∈ allFiles [] [] root, r.path = q ∧ r.kind = k ∧ r.size = sz :=
  allFiles_iff_lookup root h q k sz

theorem C01_allFiles_complete (root : Node) (q : Path) (k : Kind) (sz : Nat) (h : lookup root q = some (.file k sz)) :
    ∃ r ∈ allFiles [] [] root, r.path = q ∧ r.kind = k ∧ r.size = sz :=
  allFiles_complete root q k sz h

/-- DEFINITIONAL (an unfolding of the specification function `mustOne`, kept as a reading aid — not in the audited list;
the statement about the ENGINE is `C01_only_required_run` / `C01_calls_are_files`).
"and on no other file": every owed attempt is for a regular file (or a symlink when symlink reading
is on) that the extractor requires, that no configured rule excludes, and that is within the size limit. -/
theorem C01_only_required (c : Cfg) (f : Faults) (above : List GiEntry) (r : FileRec) (cl : Call)
    (h : cl ∈ mustOne c f above r) :
    cl.path = r.path ∧ c.required cl.ext r.path = true ∧ reached c f above r = true ∧ sizeOk c f r = true := by
  unfold mustOne at h
  split at h
  · rename_i hc
    simp only [Bool.and_eq_true] at hc
    simp only [List.mem_map, List.mem_filter] at h
    obtain ⟨e, ⟨_, hreq⟩, rfl⟩ := h
    exact ⟨rfl, hreq, hc.1, hc.2⟩
  · simp at h

/-- DEFINITIONAL (an unfolding of `mustOne` / `sizeOk`; the statements about the ENGINE are `C01_limit_shared_run` and
`C01_limit_shared_step`).  The size limit is shared: a file above the limit reaches NO extractor, not just the first one. -/
theorem C01_limit_shared (c : Cfg) (f : Faults) (above : List GiEntry) (r : FileRec)
    (hm : c.maxFileSize > 0) (hs : r.size > c.maxFileSize) : mustOne c f above r = [] := by
  unfold mustOne sizeOk; simp [hm, hs]

/-- "and on no other file", ENGINE level, EVERY configuration (faults, limits, cancellation, fatal errors,
panicking extractors): each extraction attempt of a scan is made by an extractor whose `FileRequired` accepts
that path.  (`C01_only_required` above is the corresponding fact about the specification.) -/
theorem C01_only_required_run (c : Cfg) (roots : List (Node × Faults)) :
    ∀ cl ∈ (run c roots).calls, c.required cl.ext cl.path = true :=
  runRoots_logged c _ roots (fun _ _ _ _ cl h1 _ h3 _ => by rw [h1]; exact h3) _ [] [] (fun _ h => nomatch h)

/-- … and each attempt is for a non-directory node of one of the scanned trees (a record of the declarative
enumeration `allFiles`), carries that node's size, and that node is required by the extractor — ENGINE level,
EVERY configuration. -/
theorem C01_calls_are_files (c : Cfg) (roots : List (Node × Faults)) :
    ∀ cl ∈ (run c roots).calls, ∃ rf ∈ roots, ∃ r ∈ allFiles [] [] rf.1,
      r.path = cl.path ∧ r.size = cl.size ∧ c.required cl.ext r.path = true :=
  runRoots_logged c _ roots (fun rf hrf r hr cl h1 h2 h3 _ => ⟨rf, hrf, r, hr, h1.symm, h2.symm, h3⟩) _ [] []
    (fun _ h => nomatch h)

/-- The size limit is shared, ENGINE level, EVERY configuration: every attempt — by whichever extractor — is for
a file of the forest whose size is within the limit; so a file above the limit has no attempt from any extractor. -/
theorem C01_limit_shared_run (c : Cfg) (roots : List (Node × Faults)) (hm : c.maxFileSize > 0) :
    ∀ cl ∈ (run c roots).calls, ∃ rf ∈ roots, ∃ r ∈ allFiles [] [] rf.1,
      r.path = cl.path ∧ r.size = cl.size ∧ r.size ≤ c.maxFileSize := by
  intro cl hcl
  obtain ⟨rf, hrf, r, hr, h1, h2, _⟩ := C01_calls_are_files c roots cl hcl
  refine ⟨rf, hrf, r, hr, h1, h2, ?_⟩
  rw [h2]
  unfold run at hcl
  exact runRoots_sizeInv c roots _ [] [] (by intro x hx; simp at hx) cl hcl hm

/-- … and step-wise: `handleFile` on a file above `MaxFileSize` changes NOTHING in the engine state — no
extractor gets an attempt, not just the first one that asked for the size (every configuration). -/
theorem C01_limit_shared_step (c : Cfg) (f : Faults) (s : St) (p : Path) (k : Kind) (size : Nat)
    (hm : c.maxFileSize > 0) (hs : size > c.maxFileSize) : (handleLeaf c f s p k size).1 = s := by
  have : mustExts c f s.gis ⟨p, k, size, []⟩ = [] := by unfold mustExts sizeOk; simp [hm, hs]
  rw [handleLeaf_eq c f s.gis s p k size (fun _ => rfl), this]
  split
  · split <;> rfl
  · rfl

/-- The reported inventory is exactly the union of what the `Extract` invocations returned, each
package attributed to the extractor and file that produced it — in every configuration in which the
scan does not fail (limits, faults and cancellation included). -/
theorem C01_inv (c : Cfg) (hx : NoExtractorPanic c) (roots : List (Node × Faults))
    (hok : (run c roots).err = .none) : (run c roots).pkgs = pkgsOfCalls c (run c roots).calls := by
  unfold run at *
  exact runRoots_pkgs c hx roots _ [] [] (by simp [pkgsOfCalls]) hok

/-- … and in a benign scan that inventory is determined by the specification alone. -/
theorem C01_inv_spec_benign (c : Cfg) (hb : Benign c) (roots : List (Node × Faults)) (ho : GiOK c) :
    (run c roots).pkgs = pkgsOfCalls c (mustExtract c roots) :=
  (run_results c hb roots ho).1

/-- Sub-directory equivalence (specification level): on a tree with distinct sibling names, in a
whole-tree configuration without the sub-directory cut-off, if the whole-tree scan reaches directory `d`
(every directory above it lets the walk through: `dirPasses` along the chain leading to `d`), then
requesting `d` explicitly owes exactly the whole-tree scan's attempts that lie under `d`, in order. -/
theorem C01_subdir_spec_partial (c : Cfg) (hp : c.paths = []) (hisd : c.ignoreSubDirs = false) (f : Faults)
    (root : Node) (hdn : DistinctNames root) (d : Path) (gi : Option PatSet) (es : List (String × Node))
    (chain : List DirInfo) (hch : chainOf [] root d = some (chain, .dir gi es))
    (hreach : ∀ i, i < chain.length → dirPasses c f [] chain i = true)
    (hs0 : f.statFail [] = false) (hsd : f.statFail d = false) :
    mustRequested { c with paths := [d] } f root d = (mustRoot c f root).filter (fun cl => under d cl.path) :=
  mustRequested_subdir c hp hisd f root hdn d gi es chain hch hreach hs0 hsd

/-- … and for the engine: the scan that requests `d` makes exactly the attempts of the whole-tree scan
that lie under `d`. -/
theorem C01_subdir_partial (c : Cfg) (hb : Benign c) (ho : GiOK c) (hp : c.paths = []) (hisd : c.ignoreSubDirs = false)
    (f : Faults) (root : Node) (hdn : DistinctNames root) (d : Path) (gi : Option PatSet) (es : List (String × Node))
    (chain : List DirInfo) (hch : chainOf [] root d = some (chain, .dir gi es))
    (hreach : ∀ i, i < chain.length → dirPasses c f [] chain i = true)
    (hs0 : f.statFail [] = false) (hsd : f.statFail d = false) :
    (run { c with paths := [d] } [(root, f)]).calls = (run c [(root, f)]).calls.filter (fun cl => under d cl.path) :=
  subdir_run c hb ho f root d (C01_subdir_spec_partial c hp hisd f root hdn d gi es chain hch hreach hs0 hsd)

/-- The same from the DECIDABLE form of the hypotheses (`subdirHyp`, Proofs/WalkSubdirHyp.lean: `paths = []`, no
sub-directory cut-off, distinct sibling names, `d` is a directory the whole-tree walk reaches, both start points can
be stat'ed) — this is the form the driver evaluates (`subdirhyp=`) so that the paired-scan oracle of checks/c01.py
judges the IMPLEMENTATION exactly where the theorem applies. -/
theorem C01_subdir_decidable_partial (c : Cfg) (hb : Benign c) (ho : GiOK c) (f : Faults) (root : Node) (d : Path)
    (h : subdirHyp c f root d = true) :
    (run { c with paths := [d] } [(root, f)]).calls = (run c [(root, f)]).calls.filter (fun cl => under d cl.path) :=
  subdir_run c hb ho f root d (mustRequested_subdir_of_hyp c f root d h)

/-- The gitignore context of a REQUESTED directory (`parentGis`, which `mustRequested` takes from the model's
`ParseParentGitignores`) is, declaratively, the `giEntryOf`s of the chain of directories leading from the root to it —
the same patterns the whole-tree enumeration puts above the files below that directory. -/
theorem C01_parentGis_is_chain (f : Faults) (root : Node) (d : Path) (chain : List DirInfo) (m : Node)
    (h : chainOf [] root d = some (chain, m)) : (parentGis f root d).1 = chain.map (giEntryOf f) :=
  parentGis_chain f root d chain m h

/-- `DistinctNames` is decidable: `distinctB` (printed by the driver as `distinct=`) -/
theorem C01_distinct_decidable (n : Node) : distinctB n = true ↔ DistinctNames n := distinctB_iff n

/-- The concrete go-git matcher of the generated pattern sub-language satisfies the domain rule the
theorems rely on. -/
theorem C01_matcher_domainLaw : DomainLaw matcherMatch := matcherMatch_domain

/-- …and so does the matcher that answers from a table of the real go-git matcher's verdicts (full gitignore syntax:
globs, anchors, `**`, classes), whatever the table contains: all walk theorems cover such scans. -/
theorem C01_table_matcher_domainLaw (key : PatSet → Option String) (tbl : List (String × List String × Bool)) :
    DomainLaw (tableMatch key tbl) := tableMatch_domain key tbl

/-! Non-vacuity: a benign configuration with gitignore handling, a skip glob and a size limit, on a
tree with a nested `.gitignore`; both extractors are owed `a/x` once each, `a/b` is ignored. -/
def exCfg : Cfg where
  nExt := 2
  required := fun _ p => p.getLast? != some ".gitignore"
  extract := fun _ _ => {}
  glob := some fun p => p = ["skipme"]
  useGitignore := true
  maxFileSize := 10
  giMatch := matcherMatch
def exTree : Node :=
  .dir none [("a", .dir (some [⟨"b", false, false⟩]) [("x", .file .reg 3), ("b", .file .reg 3), (".gitignore", .file .reg 2)]),
             ("skipme", .dir none [("y", .file .reg 1)]), ("big", .file .reg 11)]
example : Benign exCfg := ⟨rfl, rfl, rfl, rfl, fun _ _ => rfl⟩
example : DistinctNames exTree := by simp [exTree, DistinctNames, DistinctNamesL]
example : GiOK exCfg := matcherMatch_domain
example : (mustExtract exCfg [(exTree, {})]).map (fun cl => (cl.ext, cl.path)) = [(0, ["a", "x"]), (1, ["a", "x"])] := by decide
example : ((chainOf [] exTree ["a"]).map fun x => x.1.map (·.path)) = some [[]] := by decide
example : dirPasses exCfg {} [] [⟨[], none, 0⟩] 0 = true := by decide
example : (run exCfg [(exTree, {})]).calls = mustExtract exCfg [(exTree, {})] :=
  (C01_calls_benign exCfg ⟨rfl, rfl, rfl, rfl, fun _ _ => rfl⟩ _ matcherMatch_domain).2

/-- `C01_subdir_partial` at work on the example (its hypotheses are satisfiable on a tree with a nested `.gitignore`, a
skip glob and a size limit): requesting directory `a` makes exactly the whole-tree scan's attempts under `a`. -/
example : (run { exCfg with paths := [["a"]] } [(exTree, {})]).calls
    = (run exCfg [(exTree, {})]).calls.filter (fun cl => under ["a"] cl.path) :=
  C01_subdir_partial exCfg ⟨rfl, rfl, rfl, rfl, fun _ _ => rfl⟩ matcherMatch_domain rfl rfl {} exTree
    (by simp [exTree, DistinctNames, DistinctNamesL]) ["a"] _ _ [⟨[], none, 0⟩] rfl
    (by intro i hi; have : i = 0 := by simpa using hi
        subst this; decide) rfl rfl

/-! ### How an explicitly requested path is read (the interpretation of "reaches it")

`mustRequested` — and, by `C01_calls_benign`, the engine — treats a REQUESTED path as reached by the request itself:
  * a requested FILE is handed to the extractors that require it, whatever the skip list, regex, glob or any
    `.gitignore` says about it or about the directories above it (only kind, size limit and `FileRequired` apply;
    `fs.Stat` follows a requested symlink);
  * a requested DIRECTORY is walked even when a directory ABOVE it is excluded by a skip rule; the rules apply to
    the requested directory itself and to everything below it, and the `.gitignore` files of the directories above
    it are honoured for what lies below.
This mirrors `walkIndividualPaths`; it is the reading of "not excluded by a configured skip rule … explicitly
requested path that reaches it" recorded in DESIGN.md. -/

/-- A requested file bypasses every skip rule: two configurations that agree on the extractors, `FileRequired`,
the size limit and symlink reading owe the same attempts for it — skip list, regex, glob, gitignore handling,
sub-directory cut-off and requested-path list play no role. -/
theorem C01_requested_file_bypasses_skip_rules (c c' : Cfg) (f : Faults) (root : Node) (p : Path) (k : Kind) (sz : Nat)
    (hl : lookup root p = some (.file k sz))
    (h1 : c'.nExt = c.nExt) (h2 : c'.required = c.required) (h3 : c'.maxFileSize = c.maxFileSize)
    (h4 : c'.readSymlinks = c.readSymlinks) :
    mustRequested c' f root p = mustRequested c f root p := by
  unfold mustRequested
  rw [hl]
  simp only [mustOne, reached, fileEligible, sizeOk, List.length_nil, List.range_zero, List.all_nil, Bool.true_and,
    Bool.false_and, Bool.not_false, Bool.and_true, h1, h2, h3, h4]

/-- … for the engine: the benign scans requesting that file make the same attempts under both configurations. -/
theorem C01_requested_file_bypasses_skip_rules_run_benign (c c' : Cfg) (hb : Benign c) (hb' : Benign c') (ho : GiOK c) (ho' : GiOK c')
    (f : Faults) (root : Node) (p : Path) (k : Kind) (sz : Nat) (hl : lookup root p = some (.file k sz))
    (hp : c.paths = [p]) (hp' : c'.paths = [p])
    (h1 : c'.nExt = c.nExt) (h2 : c'.required = c.required) (h3 : c'.maxFileSize = c.maxFileSize)
    (h4 : c'.readSymlinks = c.readSymlinks) :
    (run c' [(root, f)]).calls = (run c [(root, f)]).calls := by
  rw [(run_spec c hb _ ho).2, (run_spec c' hb' _ ho').2]
  simp only [mustExtract, List.flatMap_cons, List.flatMap_nil, List.append_nil, mustRoot, hp, hp',
    List.isEmpty_cons, Bool.false_eq_true, if_false]
  rw [C01_requested_file_bypasses_skip_rules c c' f root p k sz hl h1 h2 h3 h4]

/-! decided witnesses on the example tree: `a/b` is ignored by `a/.gitignore` and `skipme` is excluded by the glob in
a whole-tree scan (see above: only `a/x` is owed), yet requesting them owes their extraction -/
example : (mustRequested { exCfg with paths := [["a", "b"]] } {} exTree ["a", "b"]).map (fun cl => (cl.ext, cl.path))
    = [(0, ["a", "b"]), (1, ["a", "b"])] := by decide
example : (mustRequested { exCfg with paths := [["skipme", "y"]] } {} exTree ["skipme", "y"]).map (fun cl => (cl.ext, cl.path))
    = [(0, ["skipme", "y"]), (1, ["skipme", "y"])] := by decide
/-- a requested DIRECTORY below an excluded directory is walked (`skipme` is excluded by the glob, `skipme/sub` is not) … -/
def exTreeSub : Node := .dir none [("skipme", .dir none [("sub", .dir none [("z", .file .reg 1)]), ("y", .file .reg 1)])]
example : mustExtract exCfg [(exTreeSub, {})] = [] := by decide
example : (mustRequested { exCfg with paths := [["skipme", "sub"]] } {} exTreeSub ["skipme", "sub"]).map (fun cl => (cl.ext, cl.path))
    = [(0, ["skipme", "sub", "z"]), (1, ["skipme", "sub", "z"])] := by decide
/-- … while a requested directory that is ITSELF excluded is not entered. -/
example : mustRequested { exCfg with paths := [["skipme"]] } {} exTreeSub ["skipme"] = [] := by decide

example : subdirHyp exCfg {} exTree ["a"] = true ∧ subdirHyp exCfg {} exTree ["skipme"] = true ∧
    subdirHyp exCfg {} exTreeSub ["skipme", "sub"] = false ∧ distinctB exTree = true := by decide

/-! ### Disclosed reading / finding candidate: NESTED requested paths under the sub-directory cut-off

`shouldSkipDir` (and `excludedDir`, which is its definition of "configured skip rule") exempts from the cut-off every directory
that is ITSELF a requested path, wherever the walk comes from.  With `PathsToExtract = [a, a/b]` and `IgnoreSubDirs` the walk of
request `a` therefore enters `a/b`, and the files directly in `a/b` are owed — and extracted — TWICE: once through `a` (which
the cut-off should have stopped at `a/b`) and once through `a/b`.  Below `a/b` the cut-off works (`a/b/c/h` is owed by nobody).
Engine = specification here (`C01_calls_benign`), so no stream can see it; against the property's "exactly once, per explicitly
requested path that reaches it" the first of the two extractions is one too many (request `a`, cut off, does not reach `a/b/g`).
(A cut-off that compared with the CURRENT walk root instead of the whole list of requested paths would not have this effect.) -/
def exNested : Node := .dir none [("a", .dir none [("f", .file .reg 1), ("b", .dir none [("g", .file .reg 1), ("c", .dir none [("h", .file .reg 1)])])])]
def exNestedCfg : Cfg := { nExt := 1, required := fun _ _ => true, extract := fun _ _ => {}, paths := [["a"], ["a", "b"]], ignoreSubDirs := true,
                           giMatch := fun _ _ _ _ => false }
theorem C01_nested_requests_cutoff_witness :
    (mustExtract exNestedCfg [(exNested, {})]).map (·.path) = [["a", "f"], ["a", "b", "g"], ["a", "b", "g"]] := by decide

end Scalibr.Walk
