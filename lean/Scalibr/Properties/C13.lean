/-
C13 — Manifest writers change exactly the requested requirements.
Property theorems only; helper lemmas live in `Scalibr.Proofs.NpmWriter` / `Scalibr.Proofs.PomProps`.
-/
import Scalibr.Proofs.NpmWriter
import Scalibr.Proofs.NpmFile
import Scalibr.Proofs.PomProps
import Scalibr.Proofs.PomWrite
import Scalibr.Proofs.PomTokens

namespace Scalibr.Npm

/-- Fix 36cc05c9: whatever the package name contains (`.`, `*`, `?`, `|`, `#`, `@`, `\`, …), the path
component the writer hands to gjson/sjson is parsed back as exactly that key: literal, not a
wildcard, not split. -/
theorem C13_npm_escape (n : Str) : parsePart (escape n) = ⟨n, false, none⟩ := parsePart_escape n

/-- package.json round trip.  For a document with unique keys per section and well-formed updates
(plain version strings; an aliased update names its package and old version), a successful `Write`
yields a document whose requirements, as `Read` computes them (alias parsing and the
prod → optional → dev cascade included), are the original requirements with the updated versions
substituted; keys and their order are unchanged and every entry whose key no update addresses is
untouched.  No bound on sections, names or the number of updates. -/
theorem C13_npm_roundtrip_partial (d d' : Doc) (us : List Up) (hwf : WFdoc d) (hu : ∀ u ∈ us, WFup u = true)
    (h : write d us = .ok d') :
    requirements d' = substitute (requirements d) us ∧ sameOutside us d d' := by
  have := write_eq_spec d d' us hwf h
  subst this
  exact ⟨requirements_applyAll us hu d, sameOutside_applyAll us d⟩

/-- With no updates the three sections are returned as they are (`rfl` on the section model; the statement about
the FILE — every byte — is `C13_npm_bytes_identity` below). -/
theorem C13_npm_identity (d : Doc) : write d [] = .ok d := rfl

/-- No silent success, step by step: when `Write` succeeds, every update of the list was processed on
some intermediate document, and if that document held the update's key in any of the three sections
then a section that held `key ↦ old value` now holds `key ↦ new value`. -/
theorem C13_npm_no_silent_success (d d' : Doc) (pre post : List Up) (u : Up)
    (h : write d (pre ++ u :: post) = .ok d') :
    ∃ d1 d2, write d pre = .ok d1 ∧ apply1 d1 u = .ok d2 ∧ write d2 post = .ok d' ∧
      (keyPresent u d1 → applied u d1 d2) := by
  obtain ⟨d1, d2, h1, h2, h3, ha⟩ := write_applied d d' pre post u h
  exact ⟨d1, d2, h1, h2, h3, fun _ => ha⟩

/-- No silent success, at requirement level: an update addressed to a requirement present in the file
either makes `Write` fail or shows up when the written file is read back. -/
theorem C13_npm_present_applied (d d' : Doc) (u : Up) (hwf : WFdoc d) (hu : WFup u = true)
    (hp : present u d) (h : write d [u] = .ok d') :
    ∃ r ∈ requirements d', r.name = u.name ∧ r.knownAs = u.knownAs ∧ r.ver = u.to := by
  obtain ⟨hr, _⟩ := C13_npm_roundtrip_partial d d' [u] hwf (by simpa using hu) h
  obtain ⟨r, hr1, hr2⟩ := hp
  refine ⟨substReq u r, ?_, ?_⟩
  · rw [hr]; simp only [substitute, List.foldl]; exact List.mem_map_of_mem hr1
  · unfold substReq; simp only [hr2, if_true]
    unfold addresses at hr2
    simp only [Bool.and_eq_true, decide_eq_true_eq] at hr2
    exact ⟨hr2.1.1, hr2.1.2, trivial⟩

/-! Non-vacuity: a scoped, dotted, wildcard-looking and aliased name in three sections. -/
def exDoc : Doc :=
  { dev := [("socket.io".toList, "^1.0.0".toList), ("a*b".toList, "1".toList)],
    opt := [("socket.io".toList, "^1.0.0".toList)],
    prod := [("@s/p".toList, "~2".toList), ("al".toList, "npm:real@^3".toList), ("socket.io".toList, "^0.9".toList)] }
def exUps : List Up :=
  [⟨"socket.io".toList, none, "^1.0.0".toList, "^2.0.0".toList⟩, ⟨"real".toList, some "al".toList, "^3".toList, "^4".toList⟩,
   ⟨"a*b".toList, none, "1".toList, "2".toList⟩]
/- Decided instances, here and below: a literal is `String.ofList` of its characters by definition, so
`String.toList_ofList` rewrites every `"…".toList` into the character list before the kernel evaluates.  Left in place,
each literal would be decoded from its UTF-8 bytes by the kernel, which takes longer than everything else together. -/
example : WFdoc exDoc := by
  unfold exDoc; repeat rw [String.toList_ofList]
  decide +kernel
example : ∀ u ∈ exUps, WFup u = true := by
  unfold exUps; repeat rw [String.toList_ofList]
  decide +kernel
example : ∃ d', write exDoc exUps = .ok d' ∧ d' ≠ exDoc := by
  unfold exDoc exUps; repeat rw [String.toList_ofList]
  exact exists_ok (by decide +kernel)
example : present ⟨"real".toList, some "al".toList, "^3".toList, "^4".toList⟩ exDoc := by
  unfold present exDoc; repeat rw [String.toList_ofList]
  decide +kernel
/-- the hypothesis `WFup` is not decoration: a new version containing `@` does not survive the alias syntax -/
theorem C13_npm_alias_at_witness :
    let d : Doc := ⟨[], [], [("al".toList, "npm:real@1".toList)]⟩
    let u : Up := ⟨"real".toList, some "al".toList, "1".toList, "2@3".toList⟩
    ∃ d', write d [u] = .ok d' ∧ requirements d' ≠ substitute (requirements d) [u] := by
  repeat rw [String.toList_ofList]
  exact exists_ok (by decide +kernel)

/-- `Read` loses no entry, for EVERY document: each entry of the three sections that `makeNPMReqVer` accepts is among the
requirements under its own identity (package and alias).  Holds since fix 8304c0d6; the former cascade (matching on the package
alone) fails it on `{"dependencies": {"foo": …}, "devDependencies": {"bar": "npm:foo@…"}}` — second statement, decided. -/
theorem C13_npm_read_complete (d : Doc) : readComplete d (requirements d) = true := readComplete_requirements d

theorem C13_npm_read_complete_old_witness :
    let d : Doc := ⟨[("bar".toList, "npm:foo@^2.0.0".toList)], [], [("foo".toList, "^1.0.0".toList)]⟩
    -- what the cascade keyed by the package alone reported
    readComplete d [⟨"foo".toList, some "bar".toList, "^2.0.0".toList⟩] = false := by
  repeat rw [String.toList_ofList]
  decide +kernel

/-- fix 8304c0d6, on the model: `"foo": "^1.0.0"` in dependencies and `"bar": "npm:foo@^2.0.0"` in devDependencies (or
optionalDependencies) are two requirements — `foo` and `foo` known as `bar` — and an update of either re-reads as
substituted.  (Before the fix the section cascade matched on the package alone: `Read` reported the alias only, the plain
entry could neither be resolved nor updated.) -/
theorem C13_npm_alias_separate_fixed_witness :
    (let d : Doc := ⟨[("bar".toList, "npm:foo@^2.0.0".toList)], [], [("foo".toList, "^1.0.0".toList)]⟩
     requirements d = [⟨"foo".toList, none, "^1.0.0".toList⟩, ⟨"foo".toList, some "bar".toList, "^2.0.0".toList⟩] ∧
     (∀ u ∈ [(⟨"foo".toList, none, "^1.0.0".toList, "^1.5.0".toList⟩ : Up), ⟨"foo".toList, some "bar".toList, "^2.0.0".toList, "^3.0.0".toList⟩],
       ∃ d', write d [u] = .ok d' ∧ requirements d' = substitute (requirements d) [u] ∧ requirements d' ≠ requirements d)) ∧
    (let d : Doc := ⟨[], [("bar".toList, "npm:foo@^2.0.0".toList)], [("baz".toList, "npm:foo@^1.0.0".toList)]⟩
     requirements d = [⟨"foo".toList, some "baz".toList, "^1.0.0".toList⟩, ⟨"foo".toList, some "bar".toList, "^2.0.0".toList⟩]) ∧
    -- the same entry in two sections is still one requirement (the later section's version)
    (let d : Doc := ⟨[("bar".toList, "npm:foo@^2.0.0".toList)], [], [("bar".toList, "npm:foo@^1.0.0".toList)]⟩
     requirements d = [⟨"foo".toList, some "bar".toList, "^2.0.0".toList⟩]) := by
  repeat rw [String.toList_ofList]
  refine ⟨⟨by decide +kernel, ?_⟩, by decide +kernel, by decide +kernel⟩
  intro u hu
  simp only [List.mem_cons, List.mem_nil_iff, or_false] at hu
  rcases hu with rfl | rfl <;> exact exists_ok (by decide +kernel)

/-- An update for a key that NO section holds is an error since fix 400b3071 (it was passed over: `Write` answered ok and changed
nothing — e.g. for a section spelled "Dependencies", which Read accepts and the JSON path does not find). -/
theorem C13_npm_absent_key_witness :
    write exDoc [⟨"absent.pkg".toList, none, "1.0.0".toList, "2.0.0".toList⟩] = .err := by
  unfold exDoc; repeat rw [String.toList_ofList]
  decide +kernel

/-- … so a successful `Write` has applied EVERY update of its list (no hypothesis on the updates): each was processed on some
intermediate document, where a section that held `key ↦ old value` now holds `key ↦ new value`. -/
theorem C13_npm_every_update_applied (d d' : Doc) (pre post : List Up) (u : Up)
    (h : write d (pre ++ u :: post) = .ok d') :
    ∃ d1 d2, write d pre = .ok d1 ∧ apply1 d1 u = .ok d2 ∧ write d2 post = .ok d' ∧ applied u d1 d2 :=
  write_applied d d' pre post u h

/-! ### the file: bytes outside the edited values -/

/-- package.json, span level.  For a file whose sections have unique keys, a successful `Write` yields the SAME
sequence of spans: every span the writer does not address (all bytes between the values: punctuation, white
space, keys, other members) is in place and untouched; a value span of the three dependency sections whose entry
no update changes keeps ITS BYTES as found in the file (non-canonical escapes included); a span whose entry an
update changes holds the new value in the writer's rendering.  Hence the output bytes are the input bytes with
exactly the value spans of the changed entries replaced.
What this does and does not say: locating the value spans in the byte string is the scanner of
gjson/sjson, which is NOT modelled — there is no `tokenize : bytes → File` in Lean, so on the side of the bytes this
theorem composes the trusted contract "SetBytes on a literal key rewrites that member's value span only" with the
proved section logic (which entries change, to what); the harness compares the real output bytes with the re-rendered
file on every generated case. -/
theorem C13_npm_bytes_partial (quote : Str → Str) (f f' : File) (us : List Up) (hwf : WFdoc (docOf f))
    (h : writeFile quote f us = some f') :
    f' = f.map (mapSeg quote (substAll us)) ∧ bytes f' = bytes (f.map (mapSeg quote (substAll us))) := by
  have e := writeFile_eq quote f f' us hwf h
  exact ⟨e, congrArg bytes e⟩

/-- … in particular, when no span is addressed (by key and old value) by any update the file is returned as it is -/
theorem C13_npm_bytes_untouched_partial (quote : Str → Str) (f f' : File) (us : List Up) (hwf : WFdoc (docOf f))
    (h : writeFile quote f us = some f')
    (hno : ∀ s k v b, Seg.val s k v b ∈ f → ∀ u ∈ us, ¬ (k = wkey u ∧ v = origVer u)) :
    f' = f ∧ bytes f' = bytes f := by
  have e : f' = f := by
    rw [(C13_npm_bytes_partial quote f f' us hwf h).1]
    apply map_unchanged
    intro s k v b hm
    exact congrArg Prod.snd (substAll_self us (k, v) (hno s k v b hm))
  exact ⟨e, e ▸ rfl⟩

/-- With no updates the file written is the file read, span for span and byte for byte — for every file, no hypothesis. -/
theorem C13_npm_bytes_identity (quote : Str → Str) (f : File) : writeFile quote f [] = some f := by
  have := putBack_map quote id f
  rw [List.map_id, List.map_id, List.map_id, map_unchanged quote id f fun _ _ _ _ _ => rfl] at this
  simp only [writeFile, write, docOf, this]

/-- non-vacuity: two spans are rewritten, everything else (incl. the noise section and a non-canonically escaped value) stays -/
example : writeFile (fun v => '"' :: v ++ ['"'])
    [.raw "{\"devDependencies\": {\"socket.io\": ".toList, .val .dev "socket.io".toList "^1.0.0".toList "\"^1.0.0\"".toList,
     .raw "},\n \"peerDependencies\": {\"socket.io\": \"^1.0.0\"},\n \"dependencies\": {\"socket.io\": ".toList,
     .val .prod "socket.io".toList "^1.0.0".toList "\"\\u005e1.0.0\"".toList, .raw ", \"x\": ".toList, .val .prod "x".toList "~1".toList "\"\\u007e1\"".toList, .raw "}}".toList]
    [⟨"socket.io".toList, none, "^1.0.0".toList, "^2.0.0".toList⟩]
  = some [.raw "{\"devDependencies\": {\"socket.io\": ".toList, .val .dev "socket.io".toList "^2.0.0".toList "\"^2.0.0\"".toList,
     .raw "},\n \"peerDependencies\": {\"socket.io\": \"^1.0.0\"},\n \"dependencies\": {\"socket.io\": ".toList,
     .val .prod "socket.io".toList "^2.0.0".toList "\"^2.0.0\"".toList, .raw ", \"x\": ".toList, .val .prod "x".toList "~1".toList "\"\\u007e1\"".toList, .raw "}}".toList] := by
  repeat rw [String.toList_ofList]
  decide +kernel

end Scalibr.Npm

namespace Scalibr.Pom

/-- Fix 3277e05b: `generatePropertyPatches` never slices out of range — for all strings, with or
without placeholders. -/
theorem C13_pom_props_total (s1 s2 : Str) : gen s1 s2 ≠ .panic := gen_total s1 s2

/-- … and the model's recursion bound (`s1.length + 1`) is adequate: `gen` never answers "out of fuel", so "no" is
always the Go function's `false`, not an artefact of the bound.  (Every Go slice expression of the function is the
checked `slice` of the model, so `.panic` is a reachable outcome of `aux` in principle — the three pre-3277e05b
shapes produced it — and the totality theorem is not true by construction.) -/
theorem C13_pom_props_fuel_adequate (s1 s2 : Str) : gen s1 s2 ≠ .fuel := gen_fuel s1 s2

/-- Soundness of the returned patch map, full strength (fix d4dd80ce): whenever `generatePropertyPatches`
answers with a map, interpolating the old requirement string with that map gives exactly the requested
version — for all strings, repeated placeholder names included — and no name was assigned two values. -/
theorem C13_pom_props_sound (s1 s2 : Str) (ps : List (Str × Str)) (h : gen s1 s2 = .ok ps) :
    interpolate (lookupLast ps) s1 = s2 ∧ Consistent ps :=
  ⟨gen_sound s1 s2 ps h, gen_consistent s1 s2 ps h⟩

/-- fix d4dd80ce, on the model: `${v}-${v}` → `1-2` is refused (one name, two values), `${v}-${v}` → `2-2` is answered `{v ↦ 2}` -/
theorem C13_pom_props_repeated_name_fixed :
    gen "${v}-${v}".toList "1-2".toList = .no ∧
    gen "${v}-${v}".toList "2-2".toList = .ok [("v".toList, "2".toList), ("v".toList, "2".toList)] := by
  repeat rw [String.toList_ofList]
  decide +kernel

/-- fix 3277e05b, on the model: three shapes on which an unchecked slice expression is out of range are answered "no" -/
theorem C13_pom_props_fixed_witnesses :
    gen "1.0.${rev}".toList "2".toList = .no ∧ gen "1.${x}.5".toList "1.5".toList = .no ∧
    gen "${a}-jre".toList "9".toList = .no := by
  repeat rw [String.toList_ofList]
  decide +kernel

/-- the requirements of what `Write` produced (nothing is produced when it returns an error) -/
def reqsAfter (pom : Pom) (us : List Upd) : Option (List Req) := (write pom us).map requirements

/-- Abstract pom writer: with no updates it succeeds and nothing changes. -/
theorem C13_pom_identity (pom : Pom) : write pom [] = some pom := by
  have h1 : pom.deps.map (applyDep ⟨[], []⟩) = pom.deps := Lists.map_eq_self fun d _ => rfl
  have h2 : pom.props.map (applyProp ⟨[], []⟩) = pom.props := Lists.map_eq_self fun p _ => rfl
  simp only [write, buildPatches, buildFrom, Option.map, applyPatches, newDeps, List.filter_nil, List.map_nil,
    List.append_nil, h1, h2]

/-- the writer's error return: an update whose Name is not `groupId:artifactId` makes `Write` fail (no file is
written) — whatever else the update list holds before it -/
theorem C13_pom_invalid_name_error (pom : Pom) (u : Upd) (us : List Upd) (h : u.ga = none) :
    write pom (u :: us) = none := by
  simp [write, buildPatches, buildFrom, buildPatch1, h]

/-
Full-strength statement for the pom.xml writer at requirement level:
    write pom us = some pom' → requirements pom' = substitute (requirements pom) us
for every pom and every set of updates addressed to requirements present in it ("re-read = substitute", which
contains "never reports success without having applied an update").  It is FALSE for the unchanged code in the
situations of `C13_pom_class_witnesses` and `C13_pom_other_profile_witness` (known findings C13/pom-…).  In force:
`C13_pom_literal_roundtrip_partial` / `C13_pom_no_silent_success_partial` (any number of updates on the literal
fragment); property-based versions, parents and plugins are covered by the correspondence stream with this very
statement as its oracle (`Spec.WFcase` = no known class).
-/

/-- pom.xml round trip, literal fragment, ANY NUMBER of updates: all versions in the file are literals, dependency
keys are unique over the whole file, the updates address pairwise different keys, and each addresses an existing
entry (by key, origin and old version) under a well-formed name with a literal new version.  Then `Write`
succeeds, re-reading the written pom gives the original requirements with the versions substituted, exactly the
addressed entries changed, and no property was touched.  Any number of dependencies, sections, profiles. -/
theorem C13_pom_literal_roundtrip_partial (pom : Pom) (us : List Upd) (c : LiteralCases pom us) :
    ∃ pom', write pom us = some pom' ∧ requirements pom' = substitute (requirements pom) us ∧
      pom'.deps = pom.deps.map (updated us) ∧ pom'.props = pom.props :=
  ⟨_, write_literal pom us c, roundtrip_literal pom _ us c (write_literal pom us c)⟩

/-- No silent success on the literal fragment: when `Write` succeeds, the entry every update addresses holds the
update's new version. -/
theorem C13_pom_no_silent_success_partial (pom pom' : Pom) (us : List Upd) (c : LiteralCases pom us)
    (h : write pom us = some pom') (u : Upd) (hu : u ∈ us) :
    ∃ d ∈ pom.deps, d.key = u.key ∧ { d with ver := u.to } ∈ pom'.deps := by
  obtain ⟨-, -, d, hm, hk, -⟩ := c.each u hu
  refine ⟨d, hm, hk, ?_⟩
  have : updated us d = { d with ver := u.to } := by
    unfold updated
    split
    · rename_i w hf
      have hwk : w.key = d.key := by simpa using List.find?_some hf
      rw [Lists.eq_of_key_eq c.ukeys (List.mem_of_find?_eq_some hf) hu (hwk.trans hk)]
    · rename_i hf
      exact absurd (by simp [hk]) (List.find?_eq_none.mp hf u hu)
  rw [(roundtrip_literal pom pom' us c h).2.1, ← this]
  exact List.mem_map_of_mem hm

/-- the two classes in which the unchanged pom.xml writer still leaves the property, on the model: two declarations of one key that
the update cannot tell apart (two profiles declaring x:y at the same version: the writer takes the first, the re-read requirements
are not the substituted ones), and a property shared with another dependency.  In both `Write` succeeds. -/
theorem C13_pom_class_witnesses :
    (let pom : Pom := ⟨[⟨"profile@p1".toList, ['x'], ['y'], [], [], "1.0".toList, false⟩, ⟨"profile@p2@management".toList, ['x'], ['y'], [], [], "1.0".toList, false⟩,
                        ⟨"profile@p3@management".toList, ['x'], ['y'], [], [], "1.0".toList, false⟩], [], "1.0".toList, []⟩
     let us : List Upd := [⟨"x:y".toList, [], [], sManagement, "1.0".toList, "2.5".toList⟩]
     (write pom us).isSome = true ∧ reqsAfter pom us ≠ some (substitute (requirements pom) us) ∧ feature pom us = some "C13/pom-origin-ignored") ∧
    (let pom : Pom := ⟨[⟨[], ['x'], ['y'], [], [], "${v}".toList, false⟩, ⟨[], ['x'], ['z'], [], [], "${v}".toList, false⟩], [⟨[], ['v'], "1.0".toList⟩], "1.0".toList, []⟩
     let us : List Upd := [⟨"x:y".toList, [], [], [], "1.0".toList, "1.5".toList⟩]
     (write pom us).isSome = true ∧ reqsAfter pom us ≠ some (substitute (requirements pom) us) ∧ feature pom us = some "C13/pom-shared-property") := by
  repeat rw [String.toList_ofList]
  decide +kernel

/-- fix b0b162fc, on the model: the same key in `<dependencies>` (1.0) and in `<dependencyManagement>` (2.0).  An update of the
dependencyManagement requirement 2.0 → 2.5 rewrites THAT entry, an update of the dependency 1.0 → 1.5 the other one, and both re-read as
substituted; a new dependencyManagement requirement (no old version) for a key that only a profile's `<dependencies>` holds is added to
dependencyManagement instead of rewriting the profile's entry.  (`OriginalDependency` scores the declarations by origin; it does not
take the first one with the key.) -/
theorem C13_pom_origin_fixed_witnesses :
    (let pom : Pom := ⟨[⟨[], ['x'], ['y'], [], [], "1.0".toList, false⟩, ⟨sManagement, ['x'], ['y'], [], [], "2.0".toList, false⟩], [], "1.0".toList, []⟩
     (let us : List Upd := [⟨"x:y".toList, [], [], sManagement, "2.0".toList, "2.5".toList⟩]
      reqsAfter pom us = some (substitute (requirements pom) us) ∧ feature pom us = none) ∧
     (let us : List Upd := [⟨"x:y".toList, [], [], [], "1.0".toList, "1.5".toList⟩]
      reqsAfter pom us = some (substitute (requirements pom) us) ∧ feature pom us = none)) ∧
    (let pom : Pom := ⟨[⟨[], ['g'], ['p'], [], [], "1.0".toList, false⟩, ⟨"profile@extra".toList, ['g'], ['t'], [], [], "1.0".toList, false⟩], [], "1.0".toList, []⟩
     let us : List Upd := [⟨"g:t".toList, [], [], sManagement, [], "2.0".toList⟩]
     write pom us = some { pom with deps := pom.deps ++ [⟨sManagement, ['g'], ['t'], sJar, [], "2.0".toList, false⟩] }) := by
  repeat rw [String.toList_ofList]
  decide +kernel

/-- fix 95fbdd2e (class C13/pom-property-other-profile), on the model: a dependency in profile p1 with version
`${w}`, `w` defined only in profile p2.  No definition of `w` applies to the dependency, so the dependency itself is
rewritten (`${w}` → the new version) and the pom re-reads as substituted.  (A property patch chosen by the name alone
would be recorded under property origin "", where nothing holds `w`: `Write` would report success and write the input back.) -/
theorem C13_pom_other_profile_witness :
    let pom : Pom := ⟨[⟨[], ['x'], ['m'], [], [], "1.0".toList, false⟩, ⟨"profile@p1".toList, ['x'], ['q'], [], [], "${w}".toList, false⟩],
                      [⟨"profile@p2".toList, ['w'], "1.0".toList⟩], "1.0".toList, []⟩
    let us : List Upd := [⟨"x:q".toList, [], [], [], "${w}".toList, "2.0".toList⟩]
    write pom us = some { pom with deps := [⟨[], ['x'], ['m'], [], [], "1.0".toList, false⟩, ⟨"profile@p1".toList, ['x'], ['q'], [], [], "2.0".toList, false⟩] } ∧
    reqsAfter pom us = some (substitute (requirements pom) us) ∧ otherProfileProp pom us = true ∧ feature pom us = none := by
  repeat rw [String.toList_ofList]
  decide +kernel

/-- `VersionFrom` plays no part in the pom.xml writer — neither in the model nor in the Go code it mirrors (`buildPatches`,
`writeDependency` never look at it; package.json's writer refuses a mismatch).  An update whose old version is not the one
in the file is written all the same.  Such an update is not "addressed to a requirement present in the file", so it is
outside the property's quantifier; recorded as a witness and exercised by the stream (wrong-from updates). -/
theorem C13_pom_ignores_version_from_witness :
    let pom : Pom := ⟨[⟨[], ['x'], ['y'], [], [], "1.0".toList, false⟩], [], "1.0".toList, []⟩
    write pom [⟨"x:y".toList, [], [], [], "0.0.0-wrong".toList, "1.5".toList⟩] =
      some ⟨[⟨[], ['x'], ['y'], [], [], "1.5".toList, false⟩], [], "1.0".toList, []⟩ := by
  repeat rw [String.toList_ofList]
  decide +kernel

/-- fixes 5743d35a (white space in a key element), f5d17448 (`${project.version}`) and d4dd80ce (a repeated placeholder
with different values), on the model: each re-reads as substituted. -/
theorem C13_pom_fixed_witnesses :
    (let pom : Pom := ⟨[⟨[], ['x'], ['y'], [], [], "1.0".toList, true⟩], [], "1.0".toList, []⟩
     let us : List Upd := [⟨"x:y".toList, [], [], [], "1.0".toList, "1.5".toList⟩]
     reqsAfter pom us = some (substitute (requirements pom) us)) ∧
    (let pom : Pom := ⟨[⟨[], ['x'], ['y'], [], [], "${project.version}".toList, false⟩], [], "1.0".toList, []⟩
     let us : List Upd := [⟨"x:y".toList, [], [], [], "1.0".toList, "1.5".toList⟩]
     reqsAfter pom us = some (substitute (requirements pom) us)) ∧
    (let pom : Pom := ⟨[⟨[], ['x'], ['z'], [], [], "${v}-${v}".toList, false⟩], [⟨[], ['v'], "1.0".toList⟩], "1.0".toList, []⟩
     let us : List Upd := [⟨"x:z".toList, [], [], [], "1.0-1.0".toList, "1.0-2.0".toList⟩]
     reqsAfter pom us = some (substitute (requirements pom) us)) := by
  repeat rw [String.toList_ofList]
  decide +kernel

/-- fix e5fd6d2f, on the model: a dependency written `${project.groupId}:y` (or `${pom.groupId}:y`) in project `g:…` is the
requirement `g:y`; the update `g:y 1.0 → 1.5` finds it (`ResolvedKey`), rewrites that entry — the file keeps the
placeholder — and the pom re-reads as substituted.  (Without `ResolvedKey` the update is taken for a key the pom does not
hold, as it still is for a user property: `C13_pom_key_property_witness`.) -/
theorem C13_pom_project_key_fixed_witness :
    (let pom : Pom := ⟨[⟨[], "${project.groupId}".toList, ['y'], [], [], "1.0".toList, false⟩], [], "1.0".toList, ['g']⟩
     let us : List Upd := [⟨"g:y".toList, [], [], [], "1.0".toList, "1.5".toList⟩]
     write pom us = some ⟨[⟨[], "${project.groupId}".toList, ['y'], [], [], "1.5".toList, false⟩], [], "1.0".toList, ['g']⟩ ∧
     reqsAfter pom us = some (substitute (requirements pom) us) ∧ feature pom us = none) ∧
    (let pom : Pom := ⟨[⟨sManagement, "${pom.groupId}".toList, ['y'], [], [], "${project.version}".toList, false⟩], [], "1.0".toList, ['g']⟩
     let us : List Upd := [⟨"g:y".toList, [], [], sManagement, "1.0".toList, "1.5".toList⟩]
     reqsAfter pom us = some (substitute (requirements pom) us) ∧ feature pom us = none) := by
  repeat rw [String.toList_ofList]
  decide +kernel

/-- known finding C13/pom-key-property, on the model: the group id of a dependency is a property of the pom
(`<groupId>${grp}</groupId>`, `grp` = `g`).  `Read` reports the requirement `g:y 1.0`; the writer resolves only the project's
own coordinates in a key, takes the update `g:y 1.0 → 1.5` for a key the pom does not hold and adds a dependencyManagement
entry `g:y 1.5`, while the `<dependencies>` entry stays at 1.0: `Write` succeeds and the re-read requirements are not the
substituted ones. -/
theorem C13_pom_key_property_witness :
    let pom : Pom := ⟨[⟨[], "${grp}".toList, ['y'], [], [], "1.0".toList, false⟩], [⟨[], "grp".toList, ['g']⟩], "1.0".toList, "root".toList⟩
    let us : List Upd := [⟨"g:y".toList, [], [], [], "1.0".toList, "1.5".toList⟩]
    (write pom us).isSome = true ∧ reqsAfter pom us ≠ some (substitute (requirements pom) us) ∧
    reqsAfter pom us = some [⟨[], (['g'], ['y'], sJar, []), "1.0".toList⟩, ⟨sManagement, (['g'], ['y'], sJar, []), "1.5".toList⟩] ∧
    feature pom us = some "C13/pom-key-property" := by
  repeat rw [String.toList_ofList]
  decide +kernel

/-- `LiteralCases` is satisfiable on a pom with a profile and dependencyManagement, with two updates. -/
example : LiteralCases
    ⟨[⟨[], ['x'], ['y'], [], [], "1.0".toList, false⟩, ⟨sManagement, ['x'], ['m'], [], [], "2.0".toList, false⟩,
      ⟨"profile@p1".toList, ['x'], ['q'], [], [], "3.0".toList, false⟩], [⟨[], ['v'], "9".toList⟩], "1.0".toList, []⟩
    [⟨"x:m".toList, [], [], sManagement, "2.0".toList, "2.5".toList⟩, ⟨"x:y".toList, [], [], [], "1.0".toList, "1.1".toList⟩] := by
  repeat rw [String.toList_ofList]
  constructor <;> decide +kernel

/-! Non-vacuity: prefix + placeholder + suffix, and two placeholders. -/
example : gen "1.${a}.${b}-jre".toList "1.22.333-jre".toList =
    .ok [("a".toList, "22".toList), ("b".toList, "333".toList)] := by
  repeat rw [String.toList_ofList]
  decide +kernel
example : Consistent [("a".toList, "22".toList), ("b".toList, "333".toList)] := by
  repeat rw [String.toList_ofList]
  decide +kernel
example : interpolate (lookupLast [("a".toList, "22".toList), ("b".toList, "333".toList)]) "1.${a}.${b}-jre".toList
    = "1.22.333-jre".toList := by
  repeat rw [String.toList_ofList]
  decide +kernel

end Scalibr.Pom

namespace Scalibr.PomTok

/-
Full-strength statement at token level — "with no updates the output equals the input": the writer hands every
`<dependency>` / `<parent>` element to `writeString` with `version ↦ (the element's own version text)`, so it
would need `write values ts = ts` for every token list.  FALSE for the unchanged code when the
`<version>` element holds anything besides that text (a comment): `C13_pom_tokens_comment_witness`
(known finding C13/pom-version-comment).  In force: the `_partial` form.
-/

/-- `writeString` is the identity on every element in which each addressed child already holds exactly
its value (`<version>1.0</version>`, or an empty element for the empty value) — whatever else the element
contains: comments, nested elements, attributes, other children, in any number.
Scope: this is ONE `writeString` call with an arbitrary `values` map — what the writer does to one
`<dependency>` / `<parent>` / `<properties>` element; the dispatch that finds those elements in a file
(`write` / `writeProject` / `writeDependency`) is not modelled, so there is no file-level token theorem. -/
theorem C13_pom_tokens_identity_partial (values : Str → Option Str) (ts : List Tok)
    (hs : simple values ts = true) : write values ts = ts := write_simple values ts hs

/-- adequacy of `write`'s loop bound: more fuel changes nothing -/
theorem C13_pom_tokens_fuel_adequate (values : Str → Option Str) (ts : List Tok) (f : Nat) (hf : ts.length < f) :
    writeString values f ts = write values ts := writeString_fuel values f _ ts hf (by omega)

/-- `<dependency><version><!--c-->1.0</version></dependency>` rewritten with its own version: the comment is lost. -/
theorem C13_pom_tokens_comment_witness :
    let vals : Str → Option Str := fun n => if n = "version".toList then some "1.0".toList else none
    let ts := [Tok.start "dependency".toList [], .start "version".toList [], .comment ['c'], .text "1.0".toList,
               .stop "version".toList, .stop "dependency".toList]
    write vals ts = [Tok.start "dependency".toList [], .start "version".toList [], .text "1.0".toList,
               .stop "version".toList, .stop "dependency".toList] ∧ write vals ts ≠ ts := by
  repeat rw [String.toList_ofList]
  decide +kernel

/-! Non-vacuity: a dependency with a comment beside (not inside) the version, an attribute and an exclusion. -/
example : simple (fun n => if n = "version".toList then some "1.0".toList else none)
    [.start "dependency".toList [], .comment ['x'], .start "groupId".toList [], .text ['g'], .stop "groupId".toList,
     .start "version".toList "a=b".toList, .text "1.0".toList, .stop "version".toList,
     .start "exclusions".toList [], .stop "exclusions".toList, .stop "dependency".toList] = true := by
  repeat rw [String.toList_ofList]
  decide +kernel

end Scalibr.PomTok
