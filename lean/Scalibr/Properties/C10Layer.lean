/-
C10, layer byte-limit clause (`C10_layer_bytes`): an image load never exposes a layer file at or above the per-file
byte limit in any view, and never writes more than that many bytes of it to disk.  Stated on the image model
(`Model/Overlay.lean`, `Model/OverlayImage.lean`); the tie to `image.FromV1Image` is the C04 correspondence stream
(`c04gen` emits file sizes L-1, L, L+1 with `Config.MaxFileBytes = L`).

What these theorems do NOT say: what a view shows IN PLACE of a rejected file.  `C10_layer_bytes*` only bound the sizes of the
file nodes that exist.  A rejected entry leaves a whiteout node of its path (`PEntry.node?`: the model mirrors the code after
fix <P3>), which is no file node; that this is what the views should show there is C04's business
(Spec/OverlayRejected.lean, `specEffective_eq`).
-/
import Scalibr.Model.OverlayImage
import Scalibr.Proofs.OverlayLoad
import Scalibr.Proofs.OverlayImage
import Scalibr.Proofs.OverlayRequired
namespace Scalibr.Overlay

/-- every regular-file node is below the limit -/
def SizeOK (limit : Nat) (t : Tree) : Prop := ∀ q n, t.get q = some n → n.kind = .file → n.size < limit

theorem linkEntry_kind (vp segs : Path) (w : Bool) (mode : Nat) (link : String) :
    (linkEntry vp segs w mode link).e.kind = .link := by
  unfold linkEntry; split
  · rfl
  · split <;> rfl

theorem classify_accept_size (limit : Nat) (r : RawEntry) (vp segs : Path) (w : Bool)
    (ha : (classify limit r vp segs w).act = .accept) (hk : (classify limit r vp segs w).e.kind = .file) :
    (classify limit r vp segs w).e.size < limit := by
  revert ha hk
  fun_cases classify limit r vp segs w <;> intro ha hk
  case case2 =>
    dsimp only at ha ⊢
    split at ha
    · cases ha
    · omega
  case case3 => rw [linkEntry_kind] at hk; cases hk
  case case4 => rw [linkEntry_kind] at hk; cases hk
  all_goals cases hk

theorem normEntry_accept_size (limit : Nat) (r : RawEntry) (pe : PEntry) (h : normEntry limit r = some pe)
    (ha : pe.act = .accept) (hk : pe.e.kind = .file) : pe.e.size < limit := by
  revert h
  fun_cases normEntry limit r <;> intro h <;> cases h
  exact classify_accept_size limit r _ _ _ ha hk

theorem effective_sizes (limit : Nat) (raw : List RawEntry) :
    ∀ e ∈ effective (normLayer limit raw), e.kind = .file → e.size < limit := by
  intro e he hk
  unfold effective normLayer at he
  simp only [List.mem_filterMap] at he
  obtain ⟨pe, ⟨r, _, hr⟩, hpe⟩ := he
  unfold PEntry.node? at hpe
  cases ha : pe.act <;> rw [ha] at hpe <;> simp only [Option.some.injEq] at hpe
  · subst hpe; exact normEntry_accept_size limit r pe hr ha hk
  · subst hpe; cases hk        -- the whiteout left for a rejected file is no file node
  · subst hpe; cases hk
  · cases hpe
  · cases hpe

theorem SizeOK_upd {limit : Nat} {t : Tree} (ht : SizeOK limit t) (p : Path) (n : Node)
    (hn : n.kind = .file → n.size < limit) : SizeOK limit (upd t p n) := by
  intro q m hm hk
  rw [upd_get] at hm
  split at hm
  · cases hm; exact hn hk
  · exact ht q m hm hk

theorem SizeOK_fill1 {limit : Nat} {t : Tree} (ht : SizeOK limit t) (p : Path) (n : Node)
    (hn : n.kind = .file → n.size < limit) : SizeOK limit (fill1 t p n) := by
  fun_cases fill1 t p n
  · exact ht
  · exact ht
  · exact SizeOK_upd ht p n hn

theorem SizeOK_upgrade {limit : Nat} {t : Tree} (ht : SizeOK limit t) (i : Nat) (p : Path) (n : Node)
    (hn : n.kind = .file → n.size < limit) : SizeOK limit (upgrade i t p n) := by
  fun_cases upgrade i t p n
  · exact SizeOK_upd ht p n hn
  · exact ht
  · exact ht

theorem SizeOK_parentsFold {limit : Nat} (i : Nat) (ds : List Path) : ∀ (ov : Tree × Tree),
    SizeOK limit ov.2 → SizeOK limit (parentsFold i ov ds).2 := by
  induction ds with
  | nil => intro ov hw; exact hw
  | cons d ds ih =>
    intro ov hw
    rw [parentsFold_cons]
    split
    · exact ih ov hw
    · exact ih _ (SizeOK_fill1 hw d _ nofun)

/-- one entry keeps the later view small, whatever the layer's own chain is: that only decides which of the steps
is taken -/
theorem SizeOK_entryStep {limit : Nat} (i : Nat) (ov : Tree × Tree) (e : Entry)
    (he : e.kind = .file → e.size < limit) (hw : SizeOK limit ov.2) : SizeOK limit (entryStep i ov e).2 := by
  fun_cases entryStep i ov e
  · exact SizeOK_upgrade hw i e.p _ he
  · exact hw
  · exact SizeOK_fill1 (SizeOK_parentsFold i _ ov hw) e.p _ he

theorem SizeOK_foldl {limit : Nat} (i : Nat) (l : Layer) (hl : ∀ e ∈ l, e.kind = .file → e.size < limit) :
    ∀ (ov : Tree × Tree), SizeOK limit ov.2 → SizeOK limit (l.foldl (entryStep i) ov).2 := by
  induction l with
  | nil => intro ov hw; exact hw
  | cons e l ih =>
    intro ov hw
    exact ih (fun x hx => hl x (List.mem_cons_of_mem e hx)) _ (SizeOK_entryStep i ov e (hl e List.mem_cons_self) hw)

theorem SizeOK_root (limit i : Nat) : SizeOK limit (rootTree i) := by
  intro q n hn hk
  cases rootTree_get_some i hn
  cases hk

theorem SizeOK_revFrom {limit : Nat} (layers : List Layer)
    (hl : ∀ l ∈ layers, ∀ e ∈ l, e.kind = .file → e.size < limit) :
    ∀ (k : Nat) (v : Tree), SizeOK limit v → SizeOK limit (revFrom layers k v) := by
  intro k
  induction k with
  | zero => intro v hv; exact hv
  | succ k ih =>
    intro v hv
    simp only [revFrom]
    apply ih
    unfold revLayer
    have hlk : ∀ e ∈ layers.getD k [], e.kind = .file → e.size < limit := by
      intro e he
      rw [List.getD_eq_getElem?_getD] at he
      cases hg : layers[k]? with
      | none => rw [hg] at he; simp at he
      | some l => rw [hg] at he; exact hl l (List.mem_of_getElem? hg) e he
    exact SizeOK_foldl k _ hlk (rootTree k, v) hv

/-- **C10_layer_bytes (views).** Whatever tars the layers hold and whatever the limit is, no view of the image has a
regular-file node of size ≥ `MaxFileBytes`; a file of exactly the limit is dropped too. -/
theorem C10_layer_bytes (limit : Nat) (raws : List (List RawEntry)) (j : Nat) :
    SizeOK limit (viewOf (raws.map fun r => effective (normLayer limit r)) j) := by
  unfold viewOf
  apply SizeOK_revFrom _ _ _ _ (SizeOK_root limit j)
  intro l hl
  simp only [List.mem_map] at hl
  obtain ⟨r, _, rfl⟩ := hl
  exact effective_sizes limit r

/-- the same for the trees of the literal lock-step loader -/
theorem C10_layer_bytes_loader (limit : Nat) (raws : List (List RawEntry)) (j : Nat) (hj : j < raws.length) :
    SizeOK limit ((loadCore (raws.map fun r => effective (normLayer limit r))).getD j emptyTree) := by
  rw [loadCore_eq_viewOf _ j (by simpa using hj)]
  exact C10_layer_bytes limit raws j

/-- and for the final view after `removeUnnecessaryFileNodes` -/
theorem C10_layer_bytes_final (limit : Nat) (U : List Path) (req : Path → Bool) (depth : Nat) (t : Tree)
    (h : SizeOK limit t) : SizeOK limit (pruneFinal U req depth t) :=
  fun q n hn hk => h q n (pruneFinal_get_some hn) hk

/-- at the limit: a regular file of exactly `MaxFileBytes` bytes is rejected, one byte less is accepted -/
theorem C10_layer_bytes_boundary (limit : Nat) (hl : 0 < limit) (name : String) (mode cid : Nat) (vp segs : Path) (w : Bool) :
    (classify limit ⟨'f', name, mode, limit, cid, ""⟩ vp segs w).act = .big ∧
    (classify limit ⟨'f', name, mode, limit - 1, cid, ""⟩ vp segs w).act = .accept := by
  have h1 : ¬ (limit - 1 ≥ limit) := by omega
  constructor <;> simp [classify, h1]

/-! ### bytes on disk -/

/-- every file object of a layer directory has at most `limit` bytes -/
def DiskOK (limit : Nat) (d : Disk) : Prop := ∀ x ∈ d, ∀ bs, x.2 = .file bs → bs.length ≤ limit

theorem DiskOK_cons {limit : Nat} {d : Disk} (hd : DiskOK limit d) (p : Path) (o : DObj)
    (ho : ∀ bs, o = .file bs → bs.length ≤ limit) : DiskOK limit ((p, o) :: d) := by
  intro x hx bs hb
  rcases List.mem_cons.mp hx with rfl | hx
  · exact ho bs hb
  · exact hd x hx bs hb

theorem DiskOK_mkdirAllAux {limit : Nat} (rest : List String) (d : Disk) (pre : Path) (d' : Disk)
    (hd : DiskOK limit d) (h : mkdirAllAux d pre rest = some d') : DiskOK limit d' := by
  fun_induction mkdirAllAux d pre rest
  case case1 => cases h; exact hd
  case case2 ih => exact ih hd h
  case case3 => cases h
  case case4 ih => exact ih (DiskOK_cons hd _ _ nofun) h

/-- **C10_layer_bytes (disk).** `handleFile` never leaves more than `MaxFileBytes` bytes of an entry on disk
(`io.LimitReader`), also when it overwrites an earlier file of the same name without truncation. -/
theorem C10_disk_bytes (limit : Nat) (d d' : Disk) (pe : PEntry) (hd : DiskOK limit d)
    (h : diskStep limit d pe = some d') : DiskOK limit d' := by
  revert h
  fun_cases diskStep limit d pe <;> intro h
  case case2 => exact DiskOK_mkdirAllAux _ _ _ _ hd h
  case case5 =>
    -- written over an earlier file, which has at most `limit` bytes itself
    rename_i d1 hmk old hold new
    have hd1 := DiskOK_mkdirAllAux _ _ _ _ hd hmk
    have hold' : old.length ≤ limit := by
      unfold Disk.get at hold
      split at hold
      · cases hold
      · obtain ⟨y, hy, hy2⟩ := Option.map_eq_some_iff.mp hold
        exact hd1 y (List.mem_of_find?_eq_some hy) _ hy2
    cases h
    refine DiskOK_cons hd1 _ _ fun bs hb => ?_
    cases hb
    have hnew : new.length ≤ limit := List.length_replicate ▸ Nat.min_le_right _ _
    rw [List.length_append, List.length_drop]
    omega
  case case6 =>
    cases h
    refine DiskOK_cons (DiskOK_mkdirAllAux _ _ _ _ hd ‹mkdirAll d _ = some _›) _ _ fun bs hb => ?_
    cases hb
    rw [List.length_replicate]
    exact Nat.min_le_right _ _
  all_goals cases h
  all_goals exact hd

/-! ### lifted to a whole load (`loadImage`: what the driver runs) -/

/-- **C10_layer_bytes (disk), whole load.** Whatever the tars contain, after a successful `FromV1Image` no file below
any layer's extraction directory holds more than `MaxFileBytes` bytes. -/
theorem C10_disk_bytes_load (limit : Nat) (layers : List (List PEntry)) (c : List Tree) (ds : List (Nat × Disk))
    (h : loadImage limit layers = some (c, ds)) : ∀ x ∈ ds, DiskOK limit x.2 :=
  (loadLoop_spec limit (DiskOK limit) (fun d d' pe => C10_disk_bytes limit d d' pe) nofun layers _ _ _ c ds h nofun).2

/-- **C10_layer_bytes, whole load.** For raw tar headers, `MaxFileBytes = limit`: every chain layer `loadImage` returns,
and the final one after `removeUnnecessaryFileNodes`, is free of file nodes of size ≥ `limit`.  (`limit = 0` cannot
occur: `validateConfig` rejects `MaxFileBytes <= 0`; the statement then says "no file nodes", which is what
`classify` does with `size ≥ 0`.) -/
theorem C10_layer_bytes_image (limit : Nat) (raws : List (List RawEntry)) (c : List Tree) (ds : List (Nat × Disk))
    (h : loadImage limit (raws.map (normLayer limit)) = some (c, ds)) (j : Nat) (hj : j < raws.length)
    (U : List Path) (req : Path → Bool) (depth : Nat) :
    SizeOK limit (c.getD j emptyTree) ∧ SizeOK limit (pruneFinal U req depth (c.getD j emptyTree)) := by
  have hc := loadImage_chains limit _ c ds h
  have : SizeOK limit (c.getD j emptyTree) := by
    rw [hc, List.map_map]
    exact C10_layer_bytes_loader limit raws j hj
  exact ⟨this, C10_layer_bytes_final limit U req depth _ this⟩

end Scalibr.Overlay
