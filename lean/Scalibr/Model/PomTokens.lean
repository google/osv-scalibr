/-
Model of `writeString` (`pomxml.go`, C13): the token-level rewrite the pom.xml writer applies to one
`<dependency>`, `<parent>` or `<properties>` element.  The XML tokenizer / encoder pair (forkedxml) is
trusted to round-trip a token (DESIGN.md §3); a document is its token sequence, CDATA counted as the
text it contains and adjacent text merged.

  for each token:  StartElement whose local name is a key of `values`
                      → DecodeElement(&str) consumes the whole element, EncodeElement(value, start)
                        writes start, the value as text (nothing for ""), end
                   anything else → copied
-/
namespace Scalibr.PomTok

abbrev Str := List Char

inductive Tok
  | start (name attrs : Str)
  | stop (name : Str)
  | text (s : Str)
  | comment (s : Str)
  | other (s : Str)          -- processing instruction / directive
deriving Repr, DecidableEq

/-- what `DecodeElement` consumes after the start tag: everything up to and including the matching end -/
def skipElem : Nat → List Tok → List Tok
  | _, [] => []
  | d, .start _ _ :: ts => skipElem (d + 1) ts
  | 0, .stop _ :: ts => ts
  | d + 1, .stop _ :: ts => skipElem d ts
  | d, _ :: ts => skipElem d ts

theorem skipElem_length (d : Nat) (ts : List Tok) : (skipElem d ts).length ≤ ts.length := by
  fun_induction skipElem d ts with
  | case1 d => exact Nat.le_refl _
  | case3 n ts => exact Nat.le_succ _
  | case2 d n a ts ih => exact Nat.le_succ_of_le ih
  | case4 d n ts ih => exact Nat.le_succ_of_le ih
  | case5 d t ts _ _ _ ih => exact Nat.le_succ_of_le ih

/-- `writeString`; `fuel` bounds the loop (each iteration consumes at least one token) -/
def writeString (values : Str → Option Str) : Nat → List Tok → List Tok
  | 0, _ => []
  | _ + 1, [] => []
  | f + 1, .start n a :: ts =>
    match values n with
    | some v => .start n a :: ((if v = [] then [] else [.text v]) ++ .stop n :: writeString values f (skipElem 0 ts))
    | none => .start n a :: writeString values f ts
  | f + 1, t :: ts => t :: writeString values f ts

def write (values : Str → Option Str) (ts : List Tok) : List Tok := writeString values (ts.length + 1) ts

/-- every element that `values` addresses already holds exactly its value: `<n>v</n>`, or an empty element for "" -/
def simple (values : Str → Option Str) : List Tok → Bool
  | [] => true
  | .start n _ :: ts =>
    match values n with
    | some v =>
      if v = [] then (match ts with | .stop m :: r => m = n && simple values r | _ => false)
      else (match ts with | .text s :: .stop m :: r => s = v && m = n && simple values r | _ => false)
    | none => simple values ts
  | _ :: ts => simple values ts

end Scalibr.PomTok
