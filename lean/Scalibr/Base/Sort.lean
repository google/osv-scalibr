/-
Stable insertion sort used by every model that mirrors a `slices.SortFunc` / `sort.Strings` call,
with the facts the property theorems need: it returns a permutation, the result is sorted
when the comparator is a total preorder — on the elements present (`_on`) —, sorted permutations are
unique when comparator-equal elements are equal (so the listing order of the input is irrelevant), and
sorting commutes with a map along which the comparators agree (`isort_map`: the key sequence of the sorted
list is the sorted key sequence).
`slices.SortFunc` itself is trusted by contract (DESIGN.md §3); for n ≤ 12 it *is* a stable
insertion sort, which is why ties keep listing order in the correspondence runs.
-/
namespace Scalibr

/-- insert `x` into `l` (sorted w.r.t. `lt`) after all elements that are not greater: stable. -/
def insertBy {α} (lt : α → α → Bool) (x : α) : List α → List α
  | [] => [x]
  | y :: ys => if lt x y then x :: y :: ys else y :: insertBy lt x ys

def isort {α} (lt : α → α → Bool) (l : List α) : List α :=
  l.foldl (fun acc x => insertBy lt x acc) []

theorem insertBy_perm {α} (lt : α → α → Bool) (x : α) (l : List α) :
    (insertBy lt x l).Perm (x :: l) := by
  induction l with
  | nil => simp [insertBy]
  | cons y ys ih =>
    unfold insertBy
    split
    · exact List.Perm.refl _
    · exact (List.Perm.cons y ih).trans (List.Perm.swap x y ys)

theorem foldl_insertBy_perm {α} (lt : α → α → Bool) (l acc : List α) :
    (l.foldl (fun acc x => insertBy lt x acc) acc).Perm (acc ++ l) := by
  induction l generalizing acc with
  | nil => simp
  | cons x xs ih =>
    simp only [List.foldl]
    refine (ih _).trans ?_
    have h1 : (insertBy lt x acc ++ xs).Perm ((x :: acc) ++ xs) :=
      List.Perm.append_right xs (insertBy_perm lt x acc)
    refine h1.trans ?_
    simp only [List.cons_append]
    exact (List.perm_middle (a := x) (l₁ := acc) (l₂ := xs)).symm

theorem isort_perm {α} (lt : α → α → Bool) (l : List α) : (isort lt l).Perm l := by
  have := foldl_insertBy_perm lt l []
  simpa [isort] using this

/-- `le x y` read off a strict comparator -/
def leOf {α} (lt : α → α → Bool) (x y : α) : Prop := lt y x = false

/-- The comparator laws are needed only among the elements present: `P` holds of all of them. -/
theorem insertBy_pairwise_on {α} (P : α → Prop) (lt : α → α → Bool)
    (asymm : ∀ a b, P a → P b → lt a b = true → lt b a = false)
    (trans : ∀ a b c, P a → P b → P c → lt b a = false → lt c b = false → lt c a = false)
    (x : α) (l : List α) (hx : P x) (hl : ∀ a ∈ l, P a) (h : l.Pairwise (leOf lt)) :
    (insertBy lt x l).Pairwise (leOf lt) := by
  induction l with
  | nil => simp [insertBy]
  | cons y ys ih =>
    have hy := (List.pairwise_cons.mp h)
    have hPy : P y := hl y (by simp)
    have hPys : ∀ a ∈ ys, P a := fun a ha => hl a (by simp [ha])
    unfold insertBy
    split
    · rename_i hxy
      refine List.pairwise_cons.mpr ⟨?_, h⟩
      intro z hz
      have hxy' : leOf lt x y := asymm x y hx hPy hxy
      rcases List.mem_cons.mp hz with rfl | hz
      · exact hxy'
      · exact trans x y z hx hPy (hPys z hz) hxy' (hy.1 z hz)
    · rename_i hxy
      have hxy' : leOf lt y x := by simpa [leOf] using hxy
      refine List.pairwise_cons.mpr ⟨?_, ih hPys hy.2⟩
      intro z hz
      have : z ∈ x :: ys := (insertBy_perm lt x ys).subset hz
      rcases List.mem_cons.mp this with rfl | hz'
      · exact hxy'
      · exact hy.1 z hz'

theorem isort_pairwise_on {α} (P : α → Prop) (lt : α → α → Bool)
    (asymm : ∀ a b, P a → P b → lt a b = true → lt b a = false)
    (trans : ∀ a b c, P a → P b → P c → lt b a = false → lt c b = false → lt c a = false)
    (l : List α) (hl : ∀ a ∈ l, P a) : (isort lt l).Pairwise (leOf lt) := by
  unfold isort
  suffices ∀ acc : List α, (∀ a ∈ acc, P a) → acc.Pairwise (leOf lt) →
      (l.foldl (fun acc x => insertBy lt x acc) acc).Pairwise (leOf lt) from this [] (by simp) List.Pairwise.nil
  induction l with
  | nil => intro acc _ h; simpa
  | cons x xs ih =>
    intro acc ha h
    have hx : P x := hl x (by simp)
    refine ih (fun a h => hl a (by simp [h])) _ (fun a h => ?_) (insertBy_pairwise_on P lt asymm trans x acc hx ha h)
    rcases List.mem_cons.mp ((insertBy_perm lt x acc).subset h) with rfl | h
    · exact hx
    · exact ha a h

theorem isort_pairwise {α} (lt : α → α → Bool)
    (asymm : ∀ a b, lt a b = true → lt b a = false)
    (trans : ∀ a b c, lt b a = false → lt c b = false → lt c a = false)
    (l : List α) : (isort lt l).Pairwise (leOf lt) :=
  isort_pairwise_on (fun _ => True) lt (fun a b _ _ => asymm a b) (fun a b c _ _ _ => trans a b c) l (fun _ _ => trivial)

/-- Listing order is irrelevant: two permutations of the same multiset sort to the same list, as soon
as elements that the comparator cannot separate are equal. -/
theorem isort_eq_of_perm_on {α} (P : α → Prop) (lt : α → α → Bool)
    (asymm : ∀ a b, P a → P b → lt a b = true → lt b a = false)
    (trans : ∀ a b c, P a → P b → P c → lt b a = false → lt c b = false → lt c a = false)
    (l₁ l₂ : List α) (hp : l₁.Perm l₂) (hP : ∀ a ∈ l₁, P a)
    (sep : ∀ a b, a ∈ l₁ → b ∈ l₁ → lt a b = false → lt b a = false → a = b) :
    isort lt l₁ = isort lt l₂ := by
  apply List.Perm.eq_of_pairwise (le := leOf lt)
  · intro a b ha hb hab hba
    have ha' : a ∈ l₁ := (isort_perm lt l₁).subset ha
    have hb' : b ∈ l₁ := hp.symm.subset ((isort_perm lt l₂).subset hb)
    exact sep a b ha' hb' hba hab
  · exact isort_pairwise_on P lt asymm trans l₁ hP
  · exact isort_pairwise_on P lt asymm trans l₂ (fun a h => hP a (hp.symm.subset h))
  · exact ((isort_perm lt l₁).trans hp).trans (isort_perm lt l₂).symm

theorem isort_eq_of_perm {α} (lt : α → α → Bool)
    (asymm : ∀ a b, lt a b = true → lt b a = false)
    (trans : ∀ a b c, lt b a = false → lt c b = false → lt c a = false)
    (l₁ l₂ : List α) (hp : l₁.Perm l₂)
    (sep : ∀ a b, a ∈ l₁ → b ∈ l₁ → lt a b = false → lt b a = false → a = b) :
    isort lt l₁ = isort lt l₂ :=
  isort_eq_of_perm_on (fun _ => True) lt (fun a b _ _ => asymm a b) (fun a b c _ _ _ => trans a b c) l₁ l₂ hp
    (fun _ _ => trivial) sep

theorem insertBy_map {α β} (f : α → β) (lt' : α → α → Bool) (lt : β → β → Bool) (x : α) :
    ∀ (l : List α), (∀ b ∈ l, lt' x b = lt (f x) (f b)) → (insertBy lt' x l).map f = insertBy lt (f x) (l.map f)
  | [], _ => rfl
  | y :: ys, h => by
    simp only [insertBy, List.map_cons, h y (by simp)]
    split
    · rfl
    · rw [List.map_cons, insertBy_map f lt' lt x ys (fun b hb => h b (by simp [hb]))]

theorem isort_map {α β} (f : α → β) (lt' : α → α → Bool) (lt : β → β → Bool) (l : List α)
    (h : ∀ a ∈ l, ∀ b ∈ l, lt' a b = lt (f a) (f b)) : (isort lt' l).map f = isort lt (l.map f) := by
  unfold isort
  suffices ∀ (xs acc : List α), (∀ a ∈ xs, a ∈ l) → (∀ a ∈ acc, a ∈ l) →
      (xs.foldl (fun acc x => insertBy lt' x acc) acc).map f
        = (xs.map f).foldl (fun acc x => insertBy lt x acc) (acc.map f) from
    this l [] (fun _ h => h) (by simp)
  intro xs
  induction xs with
  | nil => intros; rfl
  | cons x xs ih =>
    intro acc hx ha
    have hxl : x ∈ l := hx x (by simp)
    simp only [List.foldl, List.map_cons]
    rw [← insertBy_map f lt' lt x acc (fun b hb => h x hxl b (ha b hb))]
    refine ih _ (fun a h1 => hx a (by simp [h1])) (fun a h1 => ?_)
    rcases List.mem_cons.mp ((insertBy_perm lt' x acc).subset h1) with rfl | h2
    · exact hxl
    · exact ha a h2

theorem isort_map_key {α κ} (lt : κ → κ → Bool) (k : α → κ) (l : List α) :
    (isort (fun a b => lt (k a) (k b)) l).map k = isort lt (l.map k) :=
  isort_map k _ lt l fun _ _ _ _ => rfl

/-- an element that is below none of the list is inserted at the end -/
theorem insertBy_of_ge {α} (lt : α → α → Bool) (x : α) (l : List α)
    (h : ∀ y ∈ l, lt x y = false) : insertBy lt x l = l ++ [x] := by
  induction l with
  | nil => rfl
  | cons y ys ih =>
    have hy : lt x y = false := h y (by simp)
    simp [insertBy, hy, ih (fun z hz => h z (by simp [hz]))]

end Scalibr
