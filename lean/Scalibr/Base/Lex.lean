/-
Strict total orders as Boolean comparators, closed under lexicographic products, and bytewise
lexicographic order on lists (how Go compares strings).  These are the comparators handed to
`slices.SortFunc` in `sortResults`; `StrictTotal` is exactly `SortFunc`'s precondition plus
"comparator-equal ⇒ equal", which makes the sorted output independent of the input order.
-/
import Scalibr.Base.Sort
namespace Scalibr

structure StrictTotal {α} (lt : α → α → Bool) : Prop where
  irrefl : ∀ a, lt a a = false
  trans : ∀ a b c, lt a b = true → lt b c = true → lt a c = true
  total : ∀ a b, lt a b = false → lt b a = false → a = b

namespace StrictTotal
variable {α} {lt : α → α → Bool} (h : StrictTotal lt)
include h

theorem asymm (a b : α) : lt a b = true → lt b a = false := by
  intro hab
  cases hba : lt b a with
  | false => rfl
  | true => have := h.trans a b a hab hba; rw [h.irrefl] at this; cases this

/-- transitivity of "not greater", the form `isort_pairwise` needs -/
theorem negTrans (a b c : α) : lt b a = false → lt c b = false → lt c a = false := by
  intro hba hcb
  cases hca : lt c a with
  | false => rfl
  | true =>
    -- c < a; compare a and b
    cases hab : lt a b with
    | true => have := h.trans c a b hca hab; rw [hcb] at this; cases this
    | false =>
      have : a = b := h.total a b hab hba
      subst this; rw [hca] at hcb; cases hcb

theorem isort_sorted (l : List α) : (isort lt l).Pairwise (leOf lt) :=
  isort_pairwise lt h.asymm h.negTrans l

/-- the sorted output does not depend on the listing order of the input -/
theorem isort_perm_eq (l₁ l₂ : List α) (hp : l₁.Perm l₂) : isort lt l₁ = isort lt l₂ :=
  isort_eq_of_perm lt h.asymm h.negTrans l₁ l₂ hp (fun a b _ _ => h.total a b)
end StrictTotal

/-- lexicographic product -/
def prodLt {α β} (la : α → α → Bool) (lb : β → β → Bool) (x y : α × β) : Bool :=
  if la x.1 y.1 then true else if la y.1 x.1 then false else lb x.2 y.2

theorem prodLt_iff {α β} {la : α → α → Bool} {lb : β → β → Bool} (ha : StrictTotal la) (x y : α × β) :
    prodLt la lb x y = true ↔ la x.1 y.1 = true ∨ (x.1 = y.1 ∧ lb x.2 y.2 = true) := by
  unfold prodLt
  cases h1 : la x.1 y.1 <;> cases h2 : la y.1 x.1 <;> simp
  · exact fun _ => ha.total _ _ h1 h2
  · intro e; rw [e, ha.irrefl] at h2; cases h2

theorem prodLt_strictTotal {α β} {la : α → α → Bool} {lb : β → β → Bool}
    (ha : StrictTotal la) (hb : StrictTotal lb) : StrictTotal (prodLt la lb) where
  irrefl a := by
    rw [← Bool.not_eq_true, prodLt_iff ha, ha.irrefl, hb.irrefl]; simp
  trans a b c hab hbc := by
    rw [prodLt_iff ha] at hab hbc ⊢
    rcases hab with h1 | ⟨e1, h1⟩ <;> rcases hbc with h2 | ⟨e2, h2⟩
    · exact Or.inl (ha.trans _ _ _ h1 h2)
    · exact Or.inl (e2 ▸ h1)
    · exact Or.inl (e1 ▸ h2)
    · exact Or.inr ⟨e1.trans e2, hb.trans _ _ _ h1 h2⟩
  total a b hab hba := by
    rw [← Bool.not_eq_true, prodLt_iff ha, not_or] at hab hba
    have e1 : a.1 = b.1 := ha.total _ _ (by simpa using hab.1) (by simpa using hba.1)
    exact Prod.ext e1 (hb.total _ _ (by simpa [e1] using hab.2) (by simpa [e1] using hba.2))

/-- bytewise lexicographic "less" (Go's `<` on strings) -/
def ltBytes : List Nat → List Nat → Bool
  | [], [] => false
  | [], _ :: _ => true
  | _ :: _, [] => false
  | a :: as, b :: bs => if a < b then true else if b < a then false else ltBytes as bs

theorem ltBytes_cons (a b : Nat) (as bs : List Nat) :
    ltBytes (a :: as) (b :: bs) = true ↔ a < b ∨ (a = b ∧ ltBytes as bs = true) := by
  rw [ltBytes]
  by_cases h1 : a < b
  · simp [h1]
  · by_cases h2 : b < a
    · simp [h1, h2]; omega
    · simp [h1, h2]; omega

theorem ltBytes_strictTotal : StrictTotal ltBytes where
  irrefl a := by
    induction a with
    | nil => rfl
    | cons x xs ih => rw [← Bool.not_eq_true, ltBytes_cons]; simp [ih]
  trans a := by
    induction a with
    | nil => intro b c hab hbc; cases b <;> cases c <;> simp_all [ltBytes]
    | cons x xs ih =>
      intro b c hab hbc
      cases b with
      | nil => cases hab
      | cons y ys =>
        cases c with
        | nil => cases hbc
        | cons z zs =>
          rw [ltBytes_cons] at hab hbc ⊢
          rcases hab with h1 | ⟨e1, h1⟩ <;> rcases hbc with h2 | ⟨e2, h2⟩
          · exact Or.inl (Nat.lt_trans h1 h2)
          · exact Or.inl (e2 ▸ h1)
          · exact Or.inl (e1 ▸ h2)
          · exact Or.inr ⟨e1.trans e2, ih ys zs h1 h2⟩
  total a := by
    induction a with
    | nil => intro b hab hba; cases b <;> simp_all [ltBytes]
    | cons x xs ih =>
      intro b hab hba
      cases b with
      | nil => cases hba
      | cons y ys =>
        rw [← Bool.not_eq_true, ltBytes_cons, not_or] at hab hba
        have e : x = y := by omega
        rw [e, ih ys (by simpa [e] using hab.2) (by simpa [e] using hba.2)]

/-- a comparator pulled back along an injective key function -/
theorem strictTotal_of_key {α κ} {lt : κ → κ → Bool} (h : StrictTotal lt) (key : α → κ)
    (inj : ∀ a b, key a = key b → a = b) : StrictTotal (fun a b => lt (key a) (key b)) where
  irrefl a := h.irrefl _
  trans a b c := h.trans _ _ _
  total a b hab hba := inj a b (h.total _ _ hab hba)

end Scalibr
