/-
Searching tables of strings inside the kernel.

The kernel has no primitive for comparing strings: a literal is re-encoded to UTF-8 and compared byte by byte
through several layers of wrappers, which costs thousands of steps per comparison and makes every quadratic
search over a generated table of names dear. The checks below compare numbers instead — `strKey`, computed once
per string — and use `=` only where two keys agree. They are sound for EVERY key function (a wrong key can only make a
check fail), so nothing has to be proved about `strKey`.
-/
namespace Scalibr

/-- the bytes of a string read as one number -/
def strKey (s : String) : Nat := s.toByteArray.data.toList.foldl (fun n b => n * 256 + b.toNat) 1

def keyIn (x : Nat) : List Nat → Bool
  | [] => false
  | y :: ys => Nat.beq x y || keyIn x ys

def keysDistinct : List Nat → Bool
  | [] => true
  | x :: xs => !keyIn x xs && keysDistinct xs

theorem keyIn_of_mem {x : Nat} : ∀ {l : List Nat}, x ∈ l → keyIn x l = true
  | y :: ys, h => by
    rcases List.mem_cons.mp h with rfl | h
    · simp [keyIn]
    · simp [keyIn, keyIn_of_mem h]

theorem nodup_of_keysDistinct : ∀ {l : List Nat}, keysDistinct l = true → l.Nodup
  | [], _ => List.nodup_nil
  | x :: xs, h => by
    simp only [keysDistinct, Bool.and_eq_true, Bool.not_eq_true'] at h
    refine List.nodup_cons.mpr ⟨fun hx => ?_, nodup_of_keysDistinct h.2⟩
    rw [keyIn_of_mem hx] at h
    exact absurd h.1 (by simp)

theorem nodup_of_keys {α} (f : α → Nat) {l : List α} (h : keysDistinct (l.map f) = true) : l.Nodup :=
  (nodup_of_keysDistinct h).of_map f fun _ _ hne e => hne (congrArg f e)

/-- `a ∈ l`, looking at `=` only where the keys agree -/
def memBy {α} [DecidableEq α] (f : α → Nat) (a : α) : List α → Bool
  | [] => false
  | b :: bs => (Nat.beq (f a) (f b) && decide (a = b)) || memBy f a bs

theorem mem_of_memBy {α} [DecidableEq α] (f : α → Nat) {a : α} : ∀ {l : List α}, memBy f a l = true → a ∈ l
  | b :: bs, h => by
    simp only [memBy, Bool.or_eq_true, Bool.and_eq_true, decide_eq_true_eq] at h
    rcases h with ⟨_, rfl⟩ | h
    · exact List.mem_cons_self
    · exact List.mem_cons_of_mem _ (mem_of_memBy f h)

/-- `l₁ <+ l₂` for lists that list their common elements in the same order (both sorted, say), in one pass -/
def sublistBy {α} [DecidableEq α] (f : α → Nat) : List α → List α → Bool
  | [], _ => true
  | _ :: _, [] => false
  | a :: as, b :: bs => if Nat.beq (f a) (f b) then decide (a = b) && sublistBy f as bs else sublistBy f (a :: as) bs

theorem sublist_of_sublistBy {α} [DecidableEq α] (f : α → Nat) :
    ∀ {l₁ l₂ : List α}, sublistBy f l₁ l₂ = true → l₁.Sublist l₂
  | [], _, _ => List.nil_sublist _
  | _ :: _, [], h => by simp [sublistBy] at h
  | a :: as, b :: bs, h => by
    unfold sublistBy at h
    split at h
    · simp only [Bool.and_eq_true, decide_eq_true_eq] at h
      exact h.1 ▸ (sublist_of_sublistBy f h.2).cons_cons a
    · exact (sublist_of_sublistBy f h).cons b

end Scalibr
