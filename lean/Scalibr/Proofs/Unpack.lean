/-
Helper lemmas for the unpack half of C06: with no ".." in any link text, physical resolution that starts inside the
target directory never leaves it; every step of the unpacker preserves `SafeG`.  The operations are followed branch by
branch (`fun_cases`, `fun_induction`): all but the creating branches leave the state alone, and every creating branch
sits behind the two tests `Safe_create` asks for.
-/
import Scalibr.Spec.Unpack
namespace Scalibr.Unpack
open Scalibr.GoPath

/-! ### paths -/

theorem isPrefix_refl (D : Path) : isPrefix D D = true := by simp [isPrefix]

theorem isPrefix_append (D cur : Path) (c : String) (h : isPrefix D cur = true) : isPrefix D (cur ++ [c]) = true := by
  unfold isPrefix at h ⊢
  simp only [Bool.and_eq_true, decide_eq_true_eq, beq_iff_eq] at h ⊢
  refine ⟨by simp; omega, ?_⟩
  rw [List.take_append_of_le_length h.1]; exact h.2

theorem isPrefix_length {D p : Path} (h : isPrefix D p = true) : D.length ≤ p.length := by
  unfold isPrefix at h; simp at h; exact h.1

/-- `path.Clean` never leaves a ".." among the kept segments -/
theorem cleanStep_no_dotdot (rooted : Bool) (acc : Nat × List String) (c : String)
    (h : ∀ x ∈ acc.2, x ≠ "..") : ∀ x ∈ (cleanStep rooted acc c).2, x ≠ ".." := by
  fun_cases cleanStep rooted acc c
  case case3 => simp
  case case4 => rename_i heq; intro x hx; exact h x (by rw [heq]; exact List.mem_cons_of_mem _ hx)
  case case5 =>
    rename_i hdd
    intro x hx
    rcases List.mem_cons.mp hx with rfl | hx
    · exact hdd
    · exact h x hx
  all_goals exact h

theorem cleanComps_no_dotdot (rooted : Bool) (cs : List String) : ".." ∉ (cleanComps rooted cs).2 := by
  have : ∀ (cs : List String) (acc : Nat × List String), (∀ x ∈ acc.2, x ≠ "..") →
      ∀ x ∈ (cs.foldl (cleanStep rooted) acc).2, x ≠ ".." := by
    intro cs
    induction cs with
    | nil => intro acc h; exact h
    | cons c cs ih => intro acc h; exact ih _ (cleanStep_no_dotdot rooted acc c h)
  intro hm
  exact this cs (0, []) (by simp) ".." (List.mem_reverse.mp hm) rfl

/-! ### the invariant -/

/-- nothing outside `D` differs from the start, every link below `D` has a `good` text, `D` is a directory -/
def SafeG (good : Target → Prop) (D : Path) (s0 s : FS) : Prop :=
  (∀ p, isPrefix D p = false → s.get p = s0.get p) ∧
  (∀ p t, isPrefix D p = true → s.get p = some (.link t) → good t) ∧
  s.get D = some .dir

variable {good : Target → Prop} {D : Path} {s0 : FS}

/-- … with "no `..` in the link text" -/
def Safe (D : Path) (s0 s : FS) : Prop := SafeG (fun t => ".." ∉ t.comps) D s0 s

/-- **Resolution stays inside**: from a directory inside `D`, along components without "..", through links without
"..", the kernel never reaches a location outside `D`. -/
theorem resolve_inside (D : Path) (s : FS)
    (hl : ∀ p t, isPrefix D p = true → s.get p = some (.link t) → ".." ∉ t.comps)
    (fuel : Nat) (cur : Path) (cs : List String) (r : Path) (hcur : isPrefix D cur = true) (hcs : ".." ∉ cs)
    (h : resolve D s fuel cur cs = .ok r) : isPrefix D r = true := by
  fun_induction resolve D s fuel cur cs
  case case2 => cases h; exact hcur
  case case3 => rename_i ih; exact ih hcur (fun hm => hcs (List.mem_cons_of_mem _ hm)) h
  case case4 => exact absurd List.mem_cons_self hcs
  case case7 =>
    rename_i ih
    exact ih (isPrefix_append D _ _ hcur) (fun hm => hcs (List.mem_cons_of_mem _ hm)) h
  case case8 => cases h; exact isPrefix_append D _ _ hcur
  case case10 =>
    rename_i t hget ih
    refine ih ?_ (fun hm => ?_) h
    · split
      · exact isPrefix_refl D
      · exact hcur
    · rcases List.mem_append.mp hm with hm | hm
      · exact hl _ t (isPrefix_append D _ _ hcur) hget hm
      · exact hcs (List.mem_cons_of_mem _ hm)
  all_goals cases h

/-! ### fuel -/

/-- **Fuel monotonicity**: an answer other than "fuel exhausted" is the answer for every larger fuel: at the larger
fuel the same branch is taken at every step. -/
theorem resolve_fuel_mono (D : Path) (s : FS) (fuel : Nat) (cur : Path) (cs : List String) (x : Except RErr Path)
    (h : resolve D s fuel cur cs = x) (hx : x ≠ .error .loop) (k : Nat) : resolve D s (fuel + k) cur cs = x := by
  fun_induction resolve D s fuel cur cs
  case case1 => exact absurd h.symm hx
  all_goals rw [Nat.succ_add, resolve]
  all_goals simp only [*, if_true, if_false, Bool.false_eq_true]

/-- **Adequacy without links**: a path that meets no symbolic link is decided by one unit of fuel per component. -/
theorem resolve_nolink_adequate (D : Path) (s : FS) (hnl : ∀ p t, s.get p ≠ some (.link t))
    (fuel : Nat) (cur : Path) (cs : List String) (hf : cs.length < fuel) : resolve D s fuel cur cs ≠ .error .loop := by
  fun_induction resolve D s fuel cur cs
  case case1 => cases hf
  case case3 => rename_i ih; exact ih (Nat.lt_of_succ_lt_succ hf)
  case case4 => rename_i ih; exact ih (Nat.lt_of_succ_lt_succ hf)
  case case7 => rename_i ih; exact ih (Nat.lt_of_succ_lt_succ hf)
  case case10 => rename_i t hget _; exact absurd hget (hnl _ t)
  all_goals exact nofun

/-! ### one object more, one link less -/

theorem Safe_set {s : FS} (hS : SafeG good D s0 s) {q : Path} (hq : isPrefix D q = true)
    (hne : q ≠ D) (o : Obj) (ho : ∀ t, o = .link t → good t) : SafeG good D s0 (s.put q o) := by
  obtain ⟨h1, h2, h3⟩ := hS
  refine ⟨?_, ?_, ?_⟩
  · intro p hp
    have : p ≠ q := fun e => by subst e; rw [hq] at hp; cases hp
    simp [FS.put, this, h1 p hp]
  · intro p t hp hg
    by_cases hpq : p = q
    · subst hpq; simp [FS.put] at hg; exact ho t hg
    · simp [FS.put, hpq] at hg; exact h2 p t hp hg
  · simp [FS.put, Ne.symm hne, h3]

theorem Safe_put {s : FS} (hS : SafeG good D s0 s) {q : Path} (hq : isPrefix D q = true)
    (hnone : s.get q = none) (o : Obj) (ho : ∀ t, o = .link t → good t) : SafeG good D s0 (s.put q o) :=
  Safe_set hS hq (fun e => by rw [e, hS.2.2] at hnone; cases hnone) o ho

theorem Safe_del {s : FS} (hS : SafeG good D s0 s) {q : Path} (hq : isPrefix D q = true)
    {t : Target} (hg : s.get q = some (.link t)) : SafeG good D s0 (s.del q) := by
  obtain ⟨h1, h2, h3⟩ := hS
  refine ⟨?_, ?_, ?_⟩
  · intro p hp
    have : p ≠ q := fun e => by subst e; rw [hq] at hp; cases hp
    simp [FS.del, this, h1 p hp]
  · intro p t' hp hg'
    by_cases hpq : p = q
    · subst hpq; simp [FS.del] at hg'
    · simp [FS.del, hpq] at hg'; exact h2 p t' hp hg'
  · have : D ≠ q := fun e => by subst e; rw [h3] at hg; cases hg
    simp [FS.del, this, h3]

/-- the test `pathOutsideBaseDirectory` of the evaluated parent, as the model writes it -/
theorem inside_of_test {D pp : Path} (h : ¬(!isPrefix D pp) = true) : isPrefix D pp = true := by simpa using h

/-- what `os.Mkdir` / `os.Symlink` / `os.WriteFile` create after the two tests — the evaluated parent lies inside `D`,
the name is free in it — keeps the invariant -/
theorem Safe_create {s : FS} (hS : SafeG good D s0 s) {pp : Path} {name : String}
    (hpp : ¬(!isPrefix D pp) = true)
    (hfree : ¬(s.get pp != some .dir || tooLong name || (s.get (pp ++ [name])).isSome) = true)
    (o : Obj) (ho : ∀ t, o = .link t → good t) : SafeG good D s0 (s.put (pp ++ [name]) o) := by
  refine Safe_put hS (isPrefix_append D pp name (inside_of_test hpp)) ?_ o ho
  simp only [Bool.or_eq_true, not_or, Bool.not_eq_true, Option.isSome_eq_false_iff, Option.isNone_iff_eq_none] at hfree
  exact hfree.2

/-- `mkdirAllInside` only ever creates a directory whose evaluated parent was tested to be inside `D` -/
theorem mkdirAllIn_safe (todo done : List String) (s : FS)
    (hS : SafeG good D s0 s) : SafeG good D s0 (mkdirAllIn D s done todo).state := by
  fun_induction mkdirAllIn D s done todo
  case case2 => rename_i ih; exact ih hS
  case case7 => rename_i hpp hfree ih; exact ih (Safe_create hS hpp hfree .dir (fun _ h => by cases h))
  all_goals exact hS

/-- the link text an entry would create is `good` -/
def goodEntryG (good : Target → Prop) (e : TarEntry) : Prop := e.typ = 'l' → good (entryTarget e)

/-- the entry's link text is harmless: relative targets have no ".." -/
def goodEntry (e : TarEntry) : Prop := e.typ = 'l' → e.linkAbs = false → ".." ∉ e.linkComps

theorem goodEntryG_of_goodEntry {e : TarEntry} (h : goodEntry e) : goodEntryG (fun t => ".." ∉ t.comps) e := by
  intro ht
  unfold entryTarget
  cases ha : e.linkAbs with
  | true => exact cleanComps_no_dotdot _ _
  | false => exact h ht ha

theorem state_ite (b : Bool) (f : FS) (x : PSt) : (if b = true then Step.fatal f else Step.ok x).state = if b = true then f else x.1 := by
  cases b <;> rfl

/-- a link, or in the non-retain mode the copy written for it, is created only behind the two tests -/
theorem linkAt_safe (cfg : Cfg) (fin : Bool) (s1 : FS) (tg0 : List String)
    (hS1 : SafeG good D s0 s1) (e : TarEntry) (he : goodEntryG good e) (hl : e.typ = 'l') (cleanSegs rel : List String) :
    SafeG good D s0 (linkAt cfg D fin s1 tg0 e cleanSegs rel).state := by
  fun_cases linkAt cfg D fin s1 tg0 e cleanSegs rel
  case case6 =>
    rename_i hfree
    refine Safe_create hS1 (by assumption) (fun hc => hfree ?_) _ fun t ht => ?_
    · rw [Bool.or_eq_true]; exact .inr hc
    · cases ht; exact he hl
  case case12 => exact Safe_create hS1 (by assumption) (by assumption) _ (fun _ h => by cases h)
  all_goals exact hS1

/-- every object a step creates is placed below a directory whose evaluated path was tested to be inside `D`
(regular files, links or — in the non-retain mode — the copies written for them, directory entries, and every level
`mkdirAllInside` makes), for every configuration -/
theorem stepAt_safe (cfg : Cfg) (fin : Bool) (st : PSt) (hS : SafeG good D s0 st.1)
    (e : TarEntry) (he : goodEntryG good e) (cleanSegs rel : List String) : SafeG good D s0 (stepAt cfg D fin st e cleanSegs rel).state := by
  have hmk : ∀ r, mkdirAllIn D st.1 [] rel.dropLast = r → SafeG good D s0 r.state :=
    fun r h => h ▸ mkdirAllIn_safe rel.dropLast [] st.1 hS
  fun_cases stepAt cfg D fin st e cleanSegs rel
  case case6 =>
    exact Safe_put (hmk _ (by assumption)) (isPrefix_append D _ _ (inside_of_test (by assumption))) (by assumption)
      (.file e.cid) (fun _ h => by cases h)
  case case8 => exact hmk _ rfl
  case case9 => exact linkAt_safe cfg fin _ _ (hmk _ rfl) e he (by assumption) cleanSegs rel
  case case15 => exact Safe_create (hmk _ (by assumption)) (by assumption) (by assumption) .dir (fun _ h => by cases h)
  case case16 => exact hS
  all_goals exact hmk _ (by assumption)

theorem unpackStep_safe (cfg : Cfg) (fin : Bool) (st : PSt) (hS : SafeG good D s0 st.1)
    (e : TarEntry) (he : goodEntryG good e) : SafeG good D s0 (unpackStep cfg D fin st e).state := by
  fun_cases unpackStep cfg D fin st e
  case case5 => exact stepAt_safe cfg fin st hS e he _ _
  all_goals exact hS

theorem unpackPass_safe (cfg : Cfg) (fin : Bool) (es : List TarEntry)
    (hes : ∀ e ∈ es, goodEntryG good e) (st : PSt) (h : SafeG good D s0 st.1) :
    SafeG good D s0 (unpackPass cfg D fin st es).state := by
  have h : SafeG good D s0 (Step.ok st).state := h
  unfold unpackPass
  generalize Step.ok st = r at h ⊢
  induction es generalizing r with
  | nil => exact h
  | cons e es ih =>
    rw [List.foldl_cons]
    apply ih (fun x hx => hes x (List.mem_cons_of_mem _ hx))
    cases r with
    | fatal f => exact h
    | ok x => exact unpackStep_safe cfg fin x h e (hes e List.mem_cons_self)

/-- the clean-up only removes links below `D` -/
theorem removeObsolete_safe (fuel : Nat) (s : FS) (d : Path)
    (hd : isPrefix D d = true) (hS : SafeG good D s0 s) : SafeG good D s0 (removeObsolete D fuel s d) := by
  fun_induction removeObsolete D fuel s d
  case case1 => exact hS
  case case2 fuel s d ih =>
    generalize childNames s d = names
    induction names generalizing s with
    | nil => exact hS
    | cons name names ihn =>
      simp only [List.foldl_cons]
      apply ihn
      cases hg : s.get (d ++ [name]) with
      | none => exact hS
      | some o =>
        cases o with
        | dir => exact ih s name (isPrefix_append D d name hd) hS
        | file c => exact hS
        | link t =>
          have key : ∀ b : Bool, SafeG good D s0 (if b = true then s else s.del (d ++ [name])) := by
            intro b
            cases b
            · exact Safe_del hS (isPrefix_append D d name hd) hg
            · exact hS
          exact key _

theorem passes_safe (cfg : Cfg) (es : List TarEntry) (hes : ∀ e ∈ es, goodEntryG good e)
    (n k : Nat) (st : PSt) (h : SafeG good D s0 st.1) : SafeG good D s0 (passes cfg D es n k st).state := by
  fun_induction passes cfg D es n k st
  case case1 => exact h
  case case2 => rename_i k st _ hp; have p := unpackPass_safe cfg (k + 1 == cfg.maxPass) es hes st h; rw [hp] at p; exact p
  case case3 => rename_i k st _ hp ih; have p := unpackPass_safe cfg (k + 1 == cfg.maxPass) es hes st h; rw [hp] at p; exact ih p

/-- **The invariant through a whole unpacking**, for every configuration and every predicate `good` on link texts that
the entries' own link texts satisfy. -/
theorem unpackAllC_safeG (cfg : Cfg) (es : List TarEntry) (hes : ∀ e ∈ es, goodEntryG good e)
    (h0 : SafeG good D s0 s0) : SafeG good D s0 (unpackAllC cfg D s0 es).1 := by
  have p := passes_safe (D := D) cfg es hes cfg.maxPass 0 (s0, []) h0
  fun_cases unpackAllC cfg D s0 es
  case case1 => rename_i hp; rw [hp] at p; exact p
  case case2 => rename_i st hp; rw [hp] at p; exact removeObsolete_safe 64 st.1 D (isPrefix_refl D) p

/-- … and through one that the end of the tarball cuts short -/
theorem unpackAllCut_safeG (cfg : Cfg) (es : List TarEntry) (k : Nat)
    (hes : ∀ e ∈ es, goodEntryG good e) (h0 : SafeG good D s0 s0) : SafeG good D s0 (unpackAllCut cfg D s0 es k).1 := by
  unfold unpackAllCut
  split
  · exact removeObsolete_safe 64 s0 D (isPrefix_refl D) h0
  · exact unpackPass_safe cfg _ (es.take k) (fun e he => hes e (List.mem_of_mem_take he)) (s0, []) h0

theorem unpackAllC_safe {D : Path} {s0 : FS} (cfg : Cfg) (es : List TarEntry) (hes : ∀ e ∈ es, goodEntry e)
    (h0 : Safe D s0 s0) : Safe D s0 (unpackAllC cfg D s0 es).1 :=
  unpackAllC_safeG cfg es (fun e he => goodEntryG_of_goodEntry (hes e he)) h0

theorem unpackAll_safe {D : Path} {s0 : FS} (es : List TarEntry) (hes : ∀ e ∈ es, goodEntry e)
    (h0 : Safe D s0 s0) : Safe D s0 (unpackAll D s0 es).1 := unpackAllC_safe Cfg.dflt es hes h0

end Scalibr.Unpack
