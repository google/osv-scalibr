/-
C18 helper lemmas. The order on range events is one number (`key`), so the comparator facts are arithmetic. The OSV
loop over events in that order has a closed form for EVERY list (`fold_eq_decl`: some interval opened on the way is not
closed later), which is the order-free specification; the code's search + exact-hit scan is that loop on well-formed
lists (`dec`, `fold_ge`); and the statements over the ecosystem's comparison are these, transported along a rank.
-/
import Scalibr.Spec.Vulns
import Scalibr.Spec.VersionOrder
import Scalibr.Proofs.Lists
namespace Scalibr.Vulns

/-! ### the (version, kind) order: the code's comparator, the specification's order, and a numeric key -/

/-- lexicographic (version, kind) as one number -/
def key (e : Ev) : Nat := 3 * e.v + eventOrder e.k

theorem eventOrder_lt (k : Kind) : eventOrder k < 3 := by cases k <;> decide

theorem eventOrder_inj {a b : Kind} (h : eventOrder a = eventOrder b) : a = b := by
  cases a <;> cases b <;> first | rfl | cases h

theorem key_inj {a b : Ev} (h : key a = key b) : a = b := by
  obtain ⟨ak, av⟩ := a
  obtain ⟨bk, bv⟩ := b
  have := eventOrder_lt ak
  have := eventOrder_lt bk
  simp only [key] at h
  rw [show av = bv by omega, eventOrder_inj (a := ak) (b := bk) (by omega)]

theorem evLt_iff (a b : Ev) : evLt a b = true ↔ key a < key b := by
  have := eventOrder_lt a.k
  have := eventOrder_lt b.k
  simp only [evLt, key, Bool.or_eq_true, Bool.and_eq_true, decide_eq_true_eq, beq_iff_eq]
  omega

theorem evLt_false_iff (a b : Ev) : evLt a b = false ↔ key b ≤ key a := by
  rw [← Bool.not_eq_true, evLt_iff, Nat.not_lt]

/-- the code's tie-break is the specification's order of kinds on one version -/
theorem evLt_eq_osvBefore : evLt = osvBefore := by
  funext a b
  unfold evLt osvBefore
  cases a.k <;> cases b.k <;> rfl

theorem sortEvents_eq_osvOrder (es : List Ev) : sortEvents es = osvOrder es := by
  unfold sortEvents osvOrder; rw [evLt_eq_osvBefore]

theorem osvBefore_iff (a b : Ev) : osvBefore a b = true ↔ key a < key b := by
  rw [← evLt_eq_osvBefore]; exact evLt_iff a b

/-! comparator facts: the precondition of `slices.SortFunc`, and: two events the comparator cannot separate are equal -/
theorem evLt_asymm (a b : Ev) : evLt a b = true → evLt b a = false := by
  rw [evLt_iff, evLt_false_iff]; omega
theorem evLt_trans (a b c : Ev) : evLt b a = false → evLt c b = false → evLt c a = false := by
  simp only [evLt_false_iff]; omega
theorem evLt_sep (a b : Ev) : evLt a b = false → evLt b a = false → a = b := by
  simp only [evLt_false_iff]
  exact fun h1 h2 => key_inj (Nat.le_antisymm h2 h1)

theorem key_v_le (a b : Ev) (h : key a ≤ key b) : a.v ≤ b.v := by
  have := eventOrder_lt b.k
  unfold key at h
  omega

/-- `c` closes whatever is open (the loop's view) -/
def closes (q : Nat) (c : Ev) : Bool := (c.k = .fixed && c.v ≤ q) || (c.k = .last && c.v < q)

/-- `c` closes the interval opened by `i` (the specification's view) -/
def closesFor (i : Ev) (q : Nat) (c : Ev) : Bool :=
  (c.k = .fixed && i.v < c.v && c.v ≤ q) || (c.k = .last && i.v ≤ c.v && c.v < q)

/-- `osvDecl` with its two quantifiers over (possibly) different lists -/
def declOn (all : List Ev) (q : Nat) (l : List Ev) : Bool :=
  l.any fun i => i.k = .intro && i.v ≤ q && !(all.any (closesFor i q))

theorem osvDecl_eq (es : List Ev) (q : Nat) : osvDecl es q = declOn es q es := by
  unfold osvDecl declOn closesFor; rfl

theorem step_eq (q : Nat) (acc : Bool) (e : Ev) :
    step q acc e = ((e.k = .intro && e.v ≤ q) || (acc && !closes q e)) := by
  unfold step closes
  cases e.k <;> by_cases h : e.v ≤ q <;> by_cases h' : e.v < q <;> simp [h, h'] <;> omega

theorem closesFor_of_before (i c : Ev) (q : Nat) (hi : i.k = .intro) (h : key i ≤ key c) :
    closesFor i q c = closes q c := by
  unfold closesFor closes
  unfold key at h; rw [hi] at h
  cases hc : c.k <;> simp [hc, eventOrder] at h ⊢ <;> (intros; omega)

theorem closesFor_of_after (i e : Ev) (q : Nat) (hi : i.k = .intro) (h : key e ≤ key i) :
    closesFor i q e = false := by
  unfold closesFor
  unfold key at h; rw [hi] at h
  cases he : e.k <;> simp [he, eventOrder] at h ⊢ <;> (intros; omega)

/-- The loop over events in (version, kind) order, from any accumulated state: it ends "vulnerable" iff some interval
opened on the way is not closed later, or the initial state was "vulnerable" and nothing closes. -/
theorem fold_eq_decl (q : Nat) : ∀ (es : List Ev) (acc : Bool), es.Pairwise (fun a b => key a ≤ key b) →
    es.foldl (step q) acc = (declOn es q es || (acc && !(es.any (closes q))))
  | [], acc, _ => by simp [declOn]
  | e :: es, acc, h => by
    obtain ⟨hlb, h2⟩ := List.pairwise_cons.mp h
    have hd : declOn (e :: es) q (e :: es) =
        ((e.k = .intro && e.v ≤ q && !(es.any (closes q))) || declOn es q es) := by
      unfold declOn
      rw [List.any_cons]
      congr 1
      · -- for i = e: not closed by itself; the later events close it iff they close at all
        by_cases hk : e.k = .intro
        · rw [List.any_cons, closesFor_of_after e e q hk (Nat.le_refl _), Bool.false_or,
            Lists.any_congr fun c hc => closesFor_of_before e c q hk (hlb c hc)]
        · simp [hk]
      · -- for i ∈ es: `e` comes before `i`, so it cannot close `i`'s interval
        apply Lists.any_congr
        intro i hi
        by_cases hk : i.k = .intro
        · rw [List.any_cons, closesFor_of_after i e q hk (hlb i hi), Bool.false_or]
        · simp [hk]
    rw [List.foldl_cons, fold_eq_decl q es (step q acc e) h2, hd, List.any_cons, step_eq]
    -- what is left is propositional
    generalize declOn es q es = D
    generalize (decide (e.k = .intro) && decide (e.v ≤ q)) = I
    generalize closes q e = cl
    generalize es.any (closes q) = C
    revert D I acc cl C
    decide

theorem declOn_perm (q : Nat) (a b : List Ev) (h : a.Perm b) : declOn a q a = declOn b q b := by
  unfold declOn
  have h1 : ∀ i : Ev, (a.any (closesFor i q)) = (b.any (closesFor i q)) := fun i => h.any_eq
  simp only [h1]
  exact h.any_eq

theorem sortEvents_pairwise (es : List Ev) : (sortEvents es).Pairwise (fun a b => key a ≤ key b) := by
  exact (isort_pairwise evLt evLt_asymm evLt_trans es).imp fun h => (evLt_false_iff _ _).mp h

theorem osvRange_eq_osvDecl (es : List Ev) (q : Nat) : osvRange es q = osvDecl es q := by
  unfold osvRange osvScan
  rw [← sortEvents_eq_osvOrder, osvDecl_eq, declOn_perm q es (sortEvents es) (isort_perm evLt es).symm,
    fold_eq_decl q (sortEvents es) false (sortEvents_pairwise es)]
  simp

/-! ### the code's decision in recursive form -/

/-- recursive form of the code's decision -/
def dec (prev : Option Kind) : List Ev → Nat → Bool
  | [], _ => isIntro prev
  | e :: es, q => if e.v < q then dec (some e.k) es q
                  else if e.v = q then exactScan (e :: es) q else isIntro prev

/-- index form with an explicit "event before the list" -/
def codeDecisionP (prev : Option Kind) (es : List Ev) (q : Nat) : Bool :=
  let idx := idxOf es q
  let prevK := if idx = 0 then prev else (es[idx-1]?).map (·.k)
  match es[idx]? with
  | some e => if e.v = q then exactScan (es.drop idx) q else isIntro prevK
  | none => isIntro prevK

theorem codeDecision_eq_P (es : List Ev) (q : Nat) : codeDecision es q = codeDecisionP none es q := by
  unfold codeDecision codeDecisionP
  by_cases h : idxOf es q = 0
  · simp only [h, isIntro]
    cases es[0]? <;> simp
  · have hb : (idxOf es q != 0) = true := by simp [h]
    simp only [hb, Bool.true_and, h, if_false]
    cases es[idxOf es q]? <;> rfl

theorem idxOf_cons_lt (e : Ev) (es : List Ev) (q : Nat) (h : e.v < q) :
    idxOf (e :: es) q = idxOf es q + 1 := by
  simp [idxOf, List.takeWhile, h]

theorem idxOf_cons_ge (e : Ev) (es : List Ev) (q : Nat) (h : ¬ e.v < q) :
    idxOf (e :: es) q = 0 := by
  simp [idxOf, List.takeWhile, h]

theorem codeDecisionP_eq_dec (prev : Option Kind) (es : List Ev) (q : Nat) :
    codeDecisionP prev es q = dec prev es q := by
  induction es generalizing prev with
  | nil => simp [codeDecisionP, dec, idxOf]
  | cons e es ih =>
    by_cases h : e.v < q
    · have hi := idxOf_cons_lt e es q h
      rw [dec, if_pos h, ← ih (some e.k)]
      unfold codeDecisionP
      simp only [hi]
      by_cases h0 : idxOf es q = 0
      · simp [h0]
      · have : idxOf es q + 1 - 1 = (idxOf es q - 1) + 1 := by omega
        simp [h0, this]
    · have hi := idxOf_cons_ge e es q h
      rw [dec, if_neg h]
      unfold codeDecisionP
      simp [hi]

/-! ### the code's decision is the OSV loop on ordered well-formed events -/

theorem foldl_gt (q : Nat) (es : List Ev) (acc : Bool) (h : ∀ e ∈ es, q < e.v) :
    es.foldl (step q) acc = acc := by
  induction es generalizing acc with
  | nil => rfl
  | cons e es ih =>
    have he : q < e.v := h e (by simp)
    have : step q acc e = acc := by
      unfold step; cases e.k <;> simp <;> omega
    simp [List.foldl, this]
    exact ih acc (fun x hx => h x (by simp [hx]))

theorem step_below (q : Nat) (acc : Bool) (e : Ev) (h : e.v < q) : step q acc e = isIntro (some e.k) := by
  have h' : q ≥ e.v := Nat.le_of_lt h
  unfold step
  cases e.k <;> simp [h, h', isIntro]

theorem WFfrom_cons (ei : Bool) (lo : Option Ev) (e : Ev) (es : List Ev) :
    WFfrom ei lo (e :: es) = true ↔
      (∀ l, lo = some l → key l < key e) ∧ isIntro (some e.k) = ei ∧ WFfrom (!ei) (some e) es = true := by
  have h2 : (if ei = true then e.k = .intro else ¬ e.k = .intro) ↔ isIntro (some e.k) = ei := by
    cases ei <;> cases e.k <;> decide
  cases lo <;> simp [WFfrom, h2, osvBefore_iff, and_assoc]

theorem WFfrom_lb (ei : Bool) (lo : Ev) (es : List Ev) (h : WFfrom ei (some lo) es = true) :
    ∀ e ∈ es, key lo < key e := by
  induction es generalizing ei lo with
  | nil => intro e he; cases he
  | cons x xs ih =>
    obtain ⟨h1, _, h3⟩ := (WFfrom_cons ..).mp h
    intro e he
    rcases List.mem_cons.mp he with rfl | he
    · exact h1 lo rfl
    · exact Nat.lt_trans (h1 lo rfl) (ih _ x h3 e he)

theorem exactScan_cons_eq (e : Ev) (es : List Ev) (q : Nat) (h : e.v = q) :
    exactScan (e :: es) q = (inclusive e || exactScan es q) := by
  simp [exactScan, List.takeWhile, h]

theorem exactScan_cons_ne (e : Ev) (es : List Ev) (q : Nat) (h : ¬ e.v = q) :
    exactScan (e :: es) q = false := by
  simp [exactScan, List.takeWhile, h]

theorem v_le_of_lb (e : Ev) (es : List Ev) (hlb : ∀ x ∈ es, key e < key x) : ∀ x ∈ e :: es, e.v ≤ x.v := by
  intro x hx
  rcases List.mem_cons.mp hx with rfl | hx
  · exact Nat.le_refl _
  · exact key_v_le e x (Nat.le_of_lt (hlb x hx))

/-- The OSV loop over ordered well-formed events none of which is below the queried version, from the state `s`: it
leaves the state alone when the first event is not on that version, and otherwise answers what the code's exact-hit
loop answers. (`!s`: an `introduced` is expected next exactly when the state is "not vulnerable".) -/
theorem fold_ge (q : Nat) : ∀ (es : List Ev) (s : Bool) (lo : Option Ev),
    WFfrom (!s) lo es = true → (∀ x ∈ es, q ≤ x.v) →
    es.foldl (step q) s = match es with
      | [] => s
      | e :: _ => if e.v = q then exactScan es q else s
  | [], _, _, _, _ => rfl
  | e :: rest, s, lo, hwf, hge => by
    obtain ⟨_, hk, hrest⟩ := (WFfrom_cons ..).mp hwf
    have hlb := WFfrom_lb _ e rest hrest
    have hgr : ∀ x ∈ rest, q ≤ x.v := fun x hx => hge x (by simp [hx])
    show (e :: rest).foldl (step q) s = if e.v = q then exactScan (e :: rest) q else s
    split
    · rename_i hq
      rw [exactScan_cons_eq e rest q hq, List.foldl_cons, step_eq]
      -- the events after `e` on the same version: their kinds come later in (fixed, introduced, last_affected)
      have hnext : ∀ x ∈ rest.head?, x.v = q → eventOrder e.k < eventOrder x.k := by
        intro x hx hxq
        have := hlb x (List.mem_of_mem_head? hx)
        unfold key at this
        omega
      cases hek : e.k with
      | intro =>
        -- state false → true; only a `last_affected` can follow on this version, and it leaves the state alone
        have hs : s = false := by rw [hek] at hk; revert hk; cases s <;> decide
        have ih := fold_ge q rest true (some e) (by rw [hs] at hrest; exact hrest) hgr
        simp only [hq, Nat.le_refl, decide_true, Bool.and_true, Bool.true_or, inclusive, hek]
        rw [ih]
        cases rest with
        | nil => rfl
        | cons x r =>
          show (if x.v = q then exactScan (x :: r) q else true) = true
          split
          · rename_i hxq
            have := hnext x rfl hxq
            have hxk : x.k = .last := by
              rw [hek] at this
              cases hxk : x.k <;> simp [hxk, eventOrder] at this ⊢
            simp [exactScan_cons_eq x r q hxq, inclusive, hxk]
          · rfl
      | fixed =>
        -- state true → false, and the rest is read from there; `fixed` itself is not inclusive
        have hs : s = true := by rw [hek] at hk; revert hk; cases s <;> decide
        have ih := fold_ge q rest false (some e) (by rw [hs] at hrest; exact hrest) hgr
        simp only [hq, closes, hek, Nat.le_refl, decide_true, Bool.and_true, Bool.not_true, Bool.and_false,
          Bool.or_false, reduceCtorEq, decide_false, Bool.false_and, inclusive, Bool.false_or]
        rw [ih]
        cases rest with
        | nil => rfl
        | cons x r =>
          show (if x.v = q then exactScan (x :: r) q else false) = exactScan (x :: r) q
          split
          · rfl
          · rename_i hxq; rw [exactScan_cons_ne x r q hxq]
      | last =>
        -- the state stays true, and every later event is on a later version
        have hs : s = true := by rw [hek] at hk; revert hk; cases s <;> decide
        have hgt : ∀ x ∈ rest, q < x.v := by
          intro x hx
          have h3 := eventOrder_lt x.k
          have hl : eventOrder Kind.last = 2 := rfl
          have := hlb x hx
          unfold key at this
          rw [hek, hl] at this
          omega
        simp only [closes, hek, hs, hq, Nat.lt_irrefl, reduceCtorEq, decide_false, Bool.false_and, Bool.and_false,
          Bool.or_false, Bool.not_false, Bool.and_true, Bool.or_true, inclusive, decide_true, Bool.true_or]
        exact foldl_gt q rest true hgt
    · rename_i hq
      have := hge e (by simp)
      exact foldl_gt q _ s fun x hx => Nat.lt_of_lt_of_le (by omega) (v_le_of_lb e rest hlb x hx)

theorem dec_eq_fold (prev : Option Kind) (lo : Option Ev) (es : List Ev) (q : Nat)
    (hwf : WFfrom (!isIntro prev) lo es = true) :
    dec prev es q = es.foldl (step q) (isIntro prev) := by
  induction es generalizing prev lo with
  | nil => simp [dec]
  | cons e es ih =>
    obtain ⟨_, hk, hrest⟩ := (WFfrom_cons ..).mp hwf
    by_cases h1 : e.v < q
    · rw [dec, if_pos h1, List.foldl_cons, step_below q _ e h1]
      exact ih (some e.k) (some e) (by rw [hk]; exact hrest)
    · have hlb := WFfrom_lb _ e es hrest
      have hge : ∀ x ∈ e :: es, q ≤ x.v := fun x hx => Nat.le_trans (Nat.not_lt.mp h1) (v_le_of_lb e es hlb x hx)
      rw [fold_ge q (e :: es) (isIntro prev) lo hwf hge, dec, if_neg h1]

theorem codeDecision_eq_osvScan (es : List Ev) (q : Nat) (h : WFsorted es = true) :
    codeDecision es q = osvScan es q := by
  rw [codeDecision_eq_P, codeDecisionP_eq_dec]
  exact dec_eq_fold none none es q h

theorem natcmp_lt_dec (a b : Nat) : (compare a b == Ordering.lt) = decide (a < b) := by
  rw [Bool.eq_iff_iff, beq_iff_eq, Nat.compare_eq_lt, decide_eq_true_eq]
theorem natcmp_eq_dec (a b : Nat) : (compare a b == Ordering.eq) = (a == b) := by
  rw [Bool.eq_iff_iff, beq_iff_eq, beq_iff_eq, Nat.compare_eq_eq]
theorem natcmp_ngt_dec (a b : Nat) : (compare a b != Ordering.gt) = decide (a ≤ b) := by
  rw [Bool.eq_iff_iff, bne_iff_ne, Nat.compare_ne_gt, decide_eq_true_eq]

theorem foldl_congr_mem {α β : Type} (f g : β → α → β) : ∀ (l : List α) (b : β), (∀ b, ∀ x ∈ l, f b x = g b x) →
    l.foldl f b = l.foldl g b
  | [], _, _ => rfl
  | x :: xs, b, h => by
    rw [List.foldl_cons, List.foldl_cons, h b x (by simp), foldl_congr_mem f g xs _ (fun b y hy => h b y (by simp [hy]))]

open Scalibr.Upgrade

theorem cmpBefore_toRank {α : Type} (cmp : α → α → Ordering) (vs : List α) (rank : α → Nat)
    (hr : RankFor cmp vs rank) (a b : EvS α) (ha : a.v ∈ vs) (hb : b.v ∈ vs) :
    (cmp a.v b.v == .lt || (cmp a.v b.v == .eq && kindBefore a.k b.k)) = osvBefore (toRank rank a) (toRank rank b) := by
  rw [hr a.v ha b.v hb, natcmp_lt_dec, natcmp_eq_dec]
  rfl

theorem stepC_toRank {α : Type} (cmp : α → α → Ordering) (rank : α → Nat) (q : α) (acc : Bool) (e : EvS α)
    (h : cmp q e.v = compare (rank q) (rank e.v)) : stepC cmp q acc e = step (rank q) acc (toRank rank e) := by
  simp only [stepC, step, toRank, h, Nat.compare_ne_lt, Nat.compare_eq_gt, ge_iff_le, gt_iff_lt]

theorem osvRangeC_toRank {α : Type} (cmp : α → α → Ordering) (vs : List α) (rank : α → Nat)
    (hr : RankFor cmp vs rank) (es : List (EvS α)) (q : α) (hes : ∀ e ∈ es, e.v ∈ vs) (hq : q ∈ vs) :
    osvRangeC cmp es q = osvRange (es.map (toRank rank)) (rank q) := by
  unfold osvRangeC osvRange osvScan osvOrder
  rw [← isort_map (toRank rank) _ osvBefore es
      (fun a ha b hb => cmpBefore_toRank cmp vs rank hr a b (hes a ha) (hes b hb)), List.foldl_map]
  exact foldl_congr_mem _ _ _ _ fun acc e he =>
    stepC_toRank cmp rank q acc e (hr q hq e.v (hes e ((isort_perm _ es).subset he)))

end Scalibr.Vulns
