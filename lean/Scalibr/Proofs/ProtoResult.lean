/-
The non-package part of the result proto (`Model/ProtoResult.lean`) against `Spec/ProtoResult.lean`: every converter of
an enum, status, severity or finding has a reader that undoes it on the declared values, so the findings loop is
lossless on representable findings; and its outcome is the error of the first finding without advisory or id.
-/
import Scalibr.Spec.ProtoResult

namespace Scalibr.ProtoResult
open Scalibr.ProtoPkg (toInt32)

/-- forget the record: the outcome only -/
def Res.erase {α : Type} : Res α → Res Unit
  | .ok _ => .ok ()
  | .advisoryMissing => .advisoryMissing
  | .advisoryIDMissing => .advisoryIDMissing
  | .panic => .panic

theorem readStatus_scanStatusToProto (s : ScanStatus) (h : StatusOK s) : readStatus (scanStatusToProto s) = s := by
  obtain ⟨st, reason⟩ := s
  obtain ⟨h0, h3⟩ := h
  simp only at h0 h3
  have : st = 0 ∨ st = 1 ∨ st = 2 ∨ st = 3 := by omega
  rcases this with h | h | h | h <;> subst h <;> rfl

theorem _root_.Scalibr.ProtoPkg.toInt32_id (x : Int) (h1 : -2147483648 ≤ x) (h2 : x < 2147483648) : toInt32 x = x := by
  unfold toInt32; omega

theorem _root_.Scalibr.ProtoPkg.sourceCodeToProto_id (s : Option ProtoPkg.SourceCode) : ProtoPkg.sourceCodeToProto s = s := by
  cases s <;> rfl

theorem readPlugin_pluginStatusToProto (s : PluginStatus) (h : PluginOK s) : readPlugin (pluginStatusToProto s) = s := by
  obtain ⟨n, v, st⟩ := s
  obtain ⟨hs, h1, h2⟩ := h
  simp only [readPlugin, pluginStatusToProto, readStatus_scanStatusToProto st hs, ProtoPkg.toInt32_id v h1 h2]

theorem readType_typeEnumToProto (e : Int) (h0 : 0 ≤ e) (h2 : e ≤ 2) : readType (typeEnumToProto e) = e := by
  have : e = 0 ∨ e = 1 ∨ e = 2 := by omega
  rcases this with h | h | h <;> subst h <;> rfl

theorem readSevEnum_severityEnumToProto (e : Int) (h0 : 0 ≤ e) (h5 : e ≤ 5) : readSevEnum (severityEnumToProto e) = e := by
  have : e = 0 ∨ e = 1 ∨ e = 2 ∨ e = 3 ∨ e = 4 ∨ e = 5 := by omega
  rcases this with h | h | h | h | h | h <;> subst h <;> rfl

theorem map_cvssToProto {S : Type} (c : Option (CVSS S)) : c.map cvssToProto = c := by
  cases c <;> rfl

theorem readSeverity_severityToProto {S : Type} (s : Severity S) (h : SeverityOK s) : readSeverity (severityToProto s) = s := by
  obtain ⟨e, v2, v3⟩ := s
  simp only [readSeverity, severityToProto, map_cvssToProto, readSevEnum_severityEnumToProto e h.1 h.2]

/-- what one finding needs for its record to carry it completely: advisory with id, representable enum values -/
def FindingOK {S P : Type} (f : Finding S P) : Prop :=
  ∃ a id, f.adv = some a ∧ a.id = some id ∧ AdvisoryOK a

theorem findingToProto_lossless {S P PP : Type} (pk : P → PP) (f : Finding S P) (h : FindingOK f) :
    ∃ p, findingToProto pk f = .ok p ∧ readFinding p = genericFinding pk f := by
  obtain ⟨a, id, ha, hid, hok⟩ := h
  obtain ⟨adv, target, extra, dets⟩ := f
  obtain ⟨aid, typ, title, desc, recm, sev⟩ := a
  simp only at ha hid
  subst ha hid
  obtain ⟨h0, h2, hsev⟩ := hok
  simp only at h0 h2 hsev
  refine ⟨_, rfl, ?_⟩
  have hs : (sev.map severityToProto).map readSeverity = sev := by
    cases sev with
    | none => rfl
    | some s => simp only [Option.map_some, readSeverity_severityToProto s (hsev s rfl)]
  simp only [readFinding, genericFinding, readType_typeEnumToProto typ h0 h2, hs]

theorem findingsLoop_lossless {S P PP : Type} (pk : P → PP) (fs : List (Finding S P)) (acc : List (PFinding S PP))
    (h : ∀ f ∈ fs, FindingOK f) :
    ∃ ps, findingsLoop pk fs acc = .ok (acc ++ ps) ∧ ps.map readFinding = fs.map (genericFinding pk) := by
  induction fs generalizing acc with
  | nil => exact ⟨[], by simp [findingsLoop], rfl⟩
  | cons f rest ih =>
    obtain ⟨p, hp, hr⟩ := findingToProto_lossless pk f (h f (List.mem_cons_self ..))
    obtain ⟨ps, hps, hm⟩ := ih (acc ++ [p]) (fun g hg => h g (List.mem_cons_of_mem _ hg))
    refine ⟨p :: ps, ?_, ?_⟩
    · simp only [findingsLoop, hp, hps, List.append_assoc, List.singleton_append]
    · simp only [List.map_cons, hr, hm]

theorem findingsLoop_outcome {S P PP : Type} (pk : P → PP) (fs : List (Finding S P)) (acc : List (PFinding S PP)) :
    (findingsLoop pk fs acc).erase = specOutcome fs := by
  induction fs generalizing acc with
  | nil => rfl
  | cons f rest ih =>
    obtain ⟨adv, target, extra, dets⟩ := f
    cases adv with
    | none => rfl
    | some a =>
      obtain ⟨aid, typ, title, desc, recm, sev⟩ := a
      cases aid with
      | none => rfl
      | some id =>
        simp only [findingsLoop, findingToProto, specOutcome]
        exact ih _

theorem specOutcome_ne_panic {S P : Type} (fs : List (Finding S P)) : specOutcome fs ≠ .panic := by
  fun_induction specOutcome fs <;> simp [*]

end Scalibr.ProtoResult
