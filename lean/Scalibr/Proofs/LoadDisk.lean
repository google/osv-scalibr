/-
The loader's disk writes (Model/LoadDisk.lean) keep the invariant "nothing outside `D` differs from the start, there is
no symbolic link below `D`, `D` is a directory" (`SafeG` of Proofs/Unpack.lean with `good := False`): every path the
loader hands to the kernel is `D` followed by components without "..", and with no link below `D` physical resolution
of such a path ends below `D` (`resolve_inside`).
-/
import Scalibr.Model.LoadDisk
import Scalibr.Proofs.Unpack
namespace Scalibr.LoadDisk
open Scalibr.GoPath Scalibr.Unpack

/-- no link below `D`, outside untouched -/
abbrev NL (D : Path) (s0 s : FS) : Prop := SafeG (fun _ => False) D s0 s

theorem resolveA_in {D : Path} {s0 s : FS} (hS : NL D s0 s) (cs : List String) (r : Path) (hcs : ".." ∉ cs)
    (h : resolveA D s D cs = .ok r) : isPrefix D r = true :=
  resolve_inside D s (fun p t hp hg => (hS.2.1 p t hp hg).elim) _ D cs r (isPrefix_refl D) hcs h

/-- `os.Mkdir` / `os.OpenFile(O_CREATE)` of a free name: the parent is where the kernel got along a path without "..",
hence inside `D` -/
theorem NL_create {D : Path} {s0 s : FS} (hS : NL D s0 s) {cs : List String} {pp : Path} (hcs : ".." ∉ cs)
    (hres : resolveA D s D cs = .ok pp) {name : String} (hnone : s.get (pp ++ [name]) = none) (o : Obj)
    (ho : ∀ t, o ≠ .link t) : NL D s0 (s.put (pp ++ [name]) o) :=
  Safe_put hS (isPrefix_append D pp name (resolveA_in hS cs pp hcs hres)) hnone o ho

theorem mkdirAllOS_safe {D : Path} {s0 : FS} (todo done : List String) (s : FS) (hS : NL D s0 s)
    (h : ".." ∉ done ++ todo) : NL D s0 (mkdirAllOS D s done todo).state := by
  fun_induction mkdirAllOS D s done todo
  case case2 ih => exact ih hS (by rw [List.append_assoc]; exact h)
  -- the level is missing and `os.Mkdir` succeeds
  case case6 hres hfree ih =>
    simp only [Bool.or_eq_true, not_or, Bool.not_eq_true, Option.isSome_eq_false_iff, Option.isNone_iff_eq_none] at hfree
    exact ih (NL_create hS (fun hm => h (List.mem_append_left _ hm)) hres hfree.2 .dir nofun)
      (by rw [List.append_assoc]; exact h)
  all_goals exact hS

theorem openCreate_safe {D : Path} {s0 s : FS} (hS : NL D s0 s) (rel : List String) (cid : Nat) (hrel : ".." ∉ rel) :
    NL D s0 (openCreate D s rel cid).state := by
  have hdl : ".." ∉ rel.dropLast := fun hm => hrel (List.dropLast_subset rel hm)
  fun_cases openCreate D s rel cid
  -- the name is free
  case case4 hres _ hg => exact NL_create hS hdl hres hg _ nofun
  -- a regular file is written over
  case case5 pp hres _ c hg =>
    exact Safe_set hS (isPrefix_append D pp _ (resolveA_in hS _ pp hdl hres)) (fun e => by rw [e, hS.2.2] at hg; cases hg) _
      nofun
  -- a symbolic link at the name would be followed: there is none below `D`
  case case7 _ _ pp hres _ t hg _ _ _ _ =>
    exact (hS.2.1 _ t (isPrefix_append D pp _ (resolveA_in hS _ pp hdl hres)) hg).elim
  all_goals exact hS

/-- what the loader hands to the kernel below `D`: the layer directory, then a cleaned name -/
theorem rel_no_dotdot {layer : String} (hl : layer ≠ "..") {e : TarEntry} {segs : List String} (h : relOf e = some segs) :
    ".." ∉ layer :: segs := by
  refine List.not_mem_cons_of_ne_of_not_mem hl.symm ?_
  revert h
  fun_cases relOf e
  case case3 => intro h; cases h; exact cleanComps_no_dotdot _ _
  all_goals exact nofun

theorem MkRes.state_fail (s : FS) : (MkRes.fail s).state = s := rfl

theorem entryStep_safe {D : Path} {s0 s : FS} (hS : NL D s0 s) (layer : String) (hl : layer ≠ "..") (e : TarEntry) (go : Bool) :
    NL D s0 (entryStep D layer s e go).state := by
  fun_cases entryStep D layer s e go
  -- a directory that `os.Stat` does not find
  case case4 _ segs hr _ _ _ => exact mkdirAllOS_safe _ [] s hS (rel_no_dotdot hl hr)
  -- a regular file: its parent directories, then the file
  case case5 _ segs hr _ _ s1 hm =>
    have h1 := mkdirAllOS_safe (D := D) (s0 := s0) (layer :: segs).dropLast [] s hS fun hm =>
      rel_no_dotdot hl hr (List.dropLast_subset _ hm)
    rw [hm] at h1
    exact openCreate_safe h1 _ _ (rel_no_dotdot hl hr)
  case case6 _ segs hr _ _ _ =>
    exact mkdirAllOS_safe _ [] s hS fun hm => rel_no_dotdot hl hr (List.dropLast_subset _ hm)
  all_goals exact hS

/-- the first error ends the archive: the state is the one the failing entry left -/
theorem entries_safe {D : Path} {s0 : FS} (layer : String) (hl : layer ≠ "..") (es : List (TarEntry × Bool)) (s : FS)
    (hS : NL D s0 s) : NL D s0 (entries D layer s es).state := by
  fun_induction entries D layer s es
  case case1 => exact hS
  case case2 s e go rest s1 hm ih =>
    have h1 := entryStep_safe hS layer hl e go
    rw [hm] at h1
    exact ih h1
  case case3 s e go rest _ => exact entryStep_safe hS layer hl e go

theorem layerRun_safe {D : Path} {s0 s : FS} (hS : NL D s0 s) (l : LayerIn) (hl : l.name ≠ "..") :
    NL D s0 (layerRun D s l).state := by
  unfold layerRun
  split
  · exact hS
  · refine entries_safe l.name hl _ _ ?_
    split
    · exact hS
    · rename_i hnone
      exact Safe_put hS (isPrefix_append D D l.name (isPrefix_refl D)) (by simpa using hnone) .dir nofun

theorem layers_safe {D : Path} {s0 : FS} (ls : List LayerIn) (s : FS) (hn : ∀ l ∈ ls, l.name ≠ "..")
    (hS : NL D s0 s) : NL D s0 (layers D s ls).state := by
  fun_induction layers D s ls
  case case1 => exact hS
  case case2 s l rest s1 hm ih =>
    have h1 := layerRun_safe hS l (hn l List.mem_cons_self)
    rw [hm] at h1
    exact ih (fun l' hl' => hn l' (List.mem_cons_of_mem _ hl')) h1
  case case3 s l rest _ => exact layerRun_safe hS l (hn l List.mem_cons_self)

end Scalibr.LoadDisk
