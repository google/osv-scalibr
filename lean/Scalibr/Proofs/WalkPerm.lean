/-
Order independence of the specification (C08): re-arranging the listing of EVERY directory by
ARBITRARY permutations leaves the owed `Extract` calls unchanged as a multiset (for fault plans that
do not contain failing directory reads, whose position in the listing is itself order dependent).
-/
import Scalibr.Spec.Walk
import Scalibr.Proofs.WalkSpec
namespace Scalibr.Walk

/-- a family of rearrangements, one per directory path; `ρ p l` must be a permutation of `l` -/
abbrev Rearr := Path → List (String × Node) → List (String × Node)

mutual
/-- the same content with every directory listed in a different order -/
def permuteTree (ρ : Rearr) (p : Path) : Node → Node
  | .file k sz => .file k sz
  | .dir gi es => .dir gi (ρ p (permuteEntries ρ p es))
def permuteEntries (ρ : Rearr) (p : Path) : List (String × Node) → List (String × Node)
  | [] => []
  | (s, n) :: rest => (s, permuteTree ρ (p ++ [s]) n) :: permuteEntries ρ p rest
end

def stripD (d : DirInfo) : DirInfo := { d with childIdx := 0 }
def strip (r : FileRec) : FileRec := { r with dirs := r.dirs.map stripD }

def NoReadFaults (f : Faults) : Prop := ∀ p k, f.readEntryFail p k = false

theorem giEntryOf_stripD (f : Faults) (d : DirInfo) : giEntryOf f (stripD d) = giEntryOf f d := rfl

theorem map_giEntryOf_strip (f : Faults) (l : List DirInfo) : (l.map stripD).map (giEntryOf f) = l.map (giEntryOf f) := by
  simp [List.map_map, Function.comp_def, giEntryOf_stripD]

theorem dirPasses_strip (c : Cfg) (f : Faults) (hf : NoReadFaults f) (above : List GiEntry) (dirs : List DirInfo) (i : Nat) :
    dirPasses c f above (dirs.map stripD) i = dirPasses c f above dirs i := by
  unfold dirPasses
  rw [List.getElem?_map]
  cases dirs[i]? with
  | none => rfl
  | some d =>
    simp only [Option.map_some]
    have h1 : (List.take i (dirs.map stripD)).map (giEntryOf f) = (List.take i dirs).map (giEntryOf f) := by
      rw [← List.map_take, map_giEntryOf_strip]
    rw [h1]
    have hf' : ∀ p k, f.readEntryFail p k = false := hf
    simp [stripD, hf']

/-- without failing directory reads the specification does not look at listing positions -/
theorem mustOne_strip (c : Cfg) (f : Faults) (hf : NoReadFaults f) (above : List GiEntry) (r : FileRec) :
    mustOne c f above (strip r) = mustOne c f above r := by
  unfold mustOne reached fileEligible sizeOk readable strip
  simp only [List.length_map, map_giEntryOf_strip]
  have : (List.range r.dirs.length).all (dirPasses c f above (r.dirs.map stripD))
       = (List.range r.dirs.length).all (dirPasses c f above r.dirs) := by
    congr 1; funext i; exact dirPasses_strip c f hf above r.dirs i
  rw [this]

mutual
theorem allFiles_strip_anc (p : Path) :
    ∀ (n : Node) (anc anc' : List DirInfo), anc.map stripD = anc'.map stripD →
      (allFiles p anc n).map strip = (allFiles p anc' n).map strip
  | .file k sz, anc, anc', h => by simp [allFiles, strip, h]
  | .dir gi es, anc, anc', h => by
    simp only [allFiles]
    exact allFilesList_strip_anc p gi es anc anc' 0 0 h
theorem allFilesList_strip_anc (p : Path) (gi : Option PatSet) :
    ∀ (es : List (String × Node)) (anc anc' : List DirInfo) (i j : Nat), anc.map stripD = anc'.map stripD →
      (allFilesList p gi anc es i).map strip = (allFilesList p gi anc' es j).map strip
  | [], _, _, _, _, _ => by simp [allFilesList]
  | (s, n) :: rest, anc, anc', i, j, h => by
    simp only [allFilesList, List.map_append]
    rw [allFiles_strip_anc (p ++ [s]) n (anc ++ [(⟨p, gi, i⟩ : DirInfo)]) (anc' ++ [(⟨p, gi, j⟩ : DirInfo)]) (by simp [h, stripD]),
        allFilesList_strip_anc p gi rest anc anc' (i+1) (j+1) h]
end

/-- the stripped enumeration of a listing is invariant under permutations of the listing -/
theorem allFilesList_perm (p : Path) (gi : Option PatSet) (anc : List DirInfo) {l l' : List (String × Node)}
    (hp : l.Perm l') : ∀ i j, ((allFilesList p gi anc l i).map strip).Perm ((allFilesList p gi anc l' j).map strip) := by
  induction hp with
  | nil => intro i j; simp [allFilesList]
  | cons x _ ih =>
    intro i j
    obtain ⟨s, n⟩ := x
    simp only [allFilesList, List.map_append]
    rw [allFiles_strip_anc (p ++ [s]) n (anc ++ [(⟨p, gi, i⟩ : DirInfo)]) (anc ++ [(⟨p, gi, j⟩ : DirInfo)]) (by simp [stripD])]
    exact List.Perm.append_left _ (ih (i+1) (j+1))
  | swap x y l =>
    intro i j
    obtain ⟨s, n⟩ := x
    obtain ⟨t, m⟩ := y
    simp only [allFilesList, List.map_append]
    rw [allFiles_strip_anc (p ++ [t]) m (anc ++ [(⟨p, gi, i⟩ : DirInfo)]) (anc ++ [(⟨p, gi, j+1⟩ : DirInfo)]) (by simp [stripD]),
        allFiles_strip_anc (p ++ [s]) n (anc ++ [(⟨p, gi, i+1⟩ : DirInfo)]) (anc ++ [(⟨p, gi, j⟩ : DirInfo)]) (by simp [stripD]),
        allFilesList_strip_anc p gi l anc anc (i+1+1) (j+1+1) rfl]
    rw [← List.append_assoc, ← List.append_assoc]
    exact List.Perm.append_right _ List.perm_append_comm
  | trans _ _ ih1 ih2 => intro i j; exact (ih1 i 0).trans (ih2 0 j)

mutual
theorem allFiles_permute (ρ : Rearr) (hρ : ∀ p l, (ρ p l).Perm l) (p : Path) :
    ∀ (n : Node) (anc : List DirInfo),
      ((allFiles p anc (permuteTree ρ p n)).map strip).Perm ((allFiles p anc n).map strip)
  | .file k sz, anc => by simp [permuteTree, allFiles]
  | .dir gi es, anc => by
    simp only [permuteTree, allFiles]
    exact (allFilesList_perm p gi anc (hρ p _) 0 0).trans (allFilesList_permute ρ hρ p gi es anc 0)
theorem allFilesList_permute (ρ : Rearr) (hρ : ∀ p l, (ρ p l).Perm l) (p : Path) (gi : Option PatSet) :
    ∀ (es : List (String × Node)) (anc : List DirInfo) (i : Nat),
      ((allFilesList p gi anc (permuteEntries ρ p es) i).map strip).Perm ((allFilesList p gi anc es i).map strip)
  | [], _, _ => by simp [permuteEntries, allFilesList]
  | (s, n) :: rest, anc, i => by
    simp only [permuteEntries, allFilesList, List.map_append]
    exact List.Perm.append (allFiles_permute ρ hρ (p ++ [s]) n _) (allFilesList_permute ρ hρ p gi rest anc (i+1))
end

theorem flatMap_strip (c : Cfg) (f : Faults) (hf : NoReadFaults f) (above : List GiEntry) (l : List FileRec) :
    l.flatMap (mustOne c f above) = (l.map strip).flatMap (mustOne c f above) := by
  rw [List.flatMap_map]
  exact Lists.flatMap_congr (fun r _ => (mustOne_strip c f hf above r).symm)

/-- **Listing order is irrelevant to what must be extracted** from a walk. -/
theorem mustFrom_permute (c : Cfg) (f : Faults) (hf : NoReadFaults f) (above : List GiEntry)
    (ρ : Rearr) (hρ : ∀ p l, (ρ p l).Perm l) (p : Path) (n : Node) :
    (mustFrom c f above p (permuteTree ρ p n)).Perm (mustFrom c f above p n) := by
  unfold mustFrom
  rw [flatMap_strip c f hf, flatMap_strip c f hf above (allFiles p [] n)]
  exact List.Perm.flatMap_right _ (allFiles_permute ρ hρ p n [])

end Scalibr.Walk
