/-
C16(a) helper lemmas about the OUTPUT of `ComputePatches` (`sortCompact` = `slices.SortFunc` then `slices.CompactFunc`):
compaction never changes the SET of patches (it only drops an element that is identical to its predecessor), and when
the comparator is a strict weak order on the elements the output is strictly increasing — sorted and without duplicates.
-/
import Scalibr.Proofs.WorklistSort
namespace Scalibr.Worklist
open Scalibr

theorem mem_compactAux {α} (eq : α → α → Bool) (heq : ∀ x y, eq x y = true → x = y) :
    ∀ (xs : List α) (prev p : α), p ∈ prev :: compactAux eq prev xs ↔ p ∈ prev :: xs
  | [], _, _ => Iff.rfl
  | x :: xs, prev, p => by
    have ih := mem_compactAux eq heq xs x p
    simp only [compactAux]
    split
    · -- `x` is dropped: it is `prev`
      cases heq x prev ‹_›
      rw [ih]; simp only [List.mem_cons, or_self_left]
    · rw [List.mem_cons, ih, ← List.mem_cons]

theorem mem_compactBy {α} (eq : α → α → Bool) (heq : ∀ x y, eq x y = true → x = y) (l : List α) (p : α) :
    p ∈ compactBy eq l ↔ p ∈ l := by
  cases l with
  | nil => simp [compactBy]
  | cons a xs => exact mem_compactAux eq heq xs a p

theorem compactAux_subset {α} (eq : α → α → Bool) : ∀ (xs : List α) (prev y : α), y ∈ compactAux eq prev xs → y ∈ xs
  | [], _, _, h => by simp [compactAux] at h
  | x :: xs, prev, y, h => by
    simp only [compactAux] at h
    split at h
    · exact List.mem_cons_of_mem _ (compactAux_subset eq xs x y h)
    · rcases List.mem_cons.mp h with rfl | h
      · simp
      · exact List.mem_cons_of_mem _ (compactAux_subset eq xs x y h)

/-- compaction of a list that is sorted w.r.t. a strict weak order (on the elements satisfying `P`) whose `eq` is its
    incomparability: what remains is strictly increasing, and lies strictly above the last element kept before -/
theorem compactAux_strict {α} {P : α → Prop} {lt eq : α → α → Bool} (h : WeakOn P lt)
    (heq : ∀ a b, P a → P b → (eq a b = true ↔ (lt a b = false ∧ lt b a = false))) :
    ∀ (xs : List α) (prev kept : α), P prev → P kept → (∀ x ∈ xs, P x) → (prev :: xs).Pairwise (leOf lt) →
      lt prev kept = false → lt kept prev = false →
      (compactAux eq prev xs).Pairwise (fun a b => lt a b = true) ∧ ∀ y ∈ compactAux eq prev xs, lt kept y = true
  | [], _, _, _, _, _, _, _, _ => by simp [compactAux]
  | x :: xs, prev, kept, hp, hk, hxs, hs, h1, h2 => by
    have hx : P x := hxs x (by simp)
    have hxs' : ∀ y ∈ xs, P y := fun y hy => hxs y (by simp [hy])
    have hs' : (x :: xs).Pairwise (leOf lt) := (List.pairwise_cons.mp hs).2
    have hpx : lt x prev = false := (List.pairwise_cons.mp hs).1 x (by simp)
    simp only [compactAux]
    split
    · rename_i he
      have := (heq x prev hx hp).mp he
      -- x ~ prev ~ kept
      have a1 : lt x kept = false := h.negTrans kept prev x hk hp hx h1 this.1
      have a2 : lt kept x = false := h.negTrans x prev kept hx hp hk this.2 h2
      exact compactAux_strict h heq xs x kept hx hk hxs' hs' a1 a2
    · rename_i hne
      have hlt : lt prev x = true := Bool.of_not_eq_false fun h' => hne ((heq x prev hx hp).mpr ⟨hpx, h'⟩)
      -- kept ~ prev < x
      have hkx : lt kept x = true := Bool.of_not_eq_false fun h' =>
        Bool.false_ne_true ((h.negTrans x kept prev hx hk hp h' h1).symm.trans hlt)
      obtain ⟨ih1, ih2⟩ := compactAux_strict h heq xs x x hx hx hxs' hs' (h.irrefl hx) (h.irrefl hx)
      refine ⟨List.pairwise_cons.mpr ⟨ih2, ih1⟩, ?_⟩
      intro y hy
      rcases List.mem_cons.mp hy with rfl | hy
      · exact hkx
      · -- kept < x < y
        have hyP : P y := hxs' y (compactAux_subset eq xs x y hy)
        exact Bool.of_not_eq_false fun h' =>
          Bool.false_ne_true ((h.negTrans x y kept hx hyP hk (h.asymm x y hx hyP (ih2 y hy)) h').symm.trans hkx)

theorem compactBy_strict {α} {P : α → Prop} {lt eq : α → α → Bool} (h : WeakOn P lt)
    (heq : ∀ a b, P a → P b → (eq a b = true ↔ (lt a b = false ∧ lt b a = false)))
    (l : List α) (hP : ∀ x ∈ l, P x) (hs : l.Pairwise (leOf lt)) : (compactBy eq l).Pairwise (fun a b => lt a b = true) := by
  cases l with
  | nil => simp [compactBy]
  | cons a xs =>
    have ha := hP a (by simp)
    obtain ⟨h1, h2⟩ := compactAux_strict h heq xs a a ha ha (fun x hx => hP x (by simp [hx])) hs (h.irrefl ha) (h.irrefl ha)
    exact List.pairwise_cons.mpr ⟨h2, h1⟩

/-- **the output of sort + compact is strictly increasing** w.r.t. `Patch.Compare` whenever the version comparison is a strict
    weak order on the target versions of the (non-empty) patches -/
theorem sortCompact_strict (V : Str → Prop) (vc : Str → Str → Int) (hvc : Cmp3 (fun x y => V x ∧ V y) vc)
    (c : List Patch) (hc : ∀ p ∈ c, PatchOK V p) :
    (sortCompact vc c).Pairwise (fun a b => Patch.compare vc a b < 0) := by
  have h3 := compare_cmp3 V vc hvc
  have hw : WeakOn (PatchOK V) (patchLt vc) := h3.weakOn
  have heq : ∀ a b, PatchOK V a → PatchOK V b → (patchEq vc a b = true ↔ (patchLt vc a b = false ∧ patchLt vc b a = false)) := by
    intro a b ha hb
    have := h3.flip a b ⟨ha, hb⟩
    simp only [patchEq, patchLt, decide_eq_true_eq, decide_eq_false_iff_not]; omega
  have := compactBy_strict hw heq _ (fun x hx => hc x ((isort_perm _ c).subset hx)) (isort_pairwise_on _ _ hw.asymm hw.negTrans c hc)
  unfold sortCompact
  exact this.imp (fun h => by simpa [patchLt] using h)

theorem sortCompact_eq_of_perm (V : Str → Prop) (vc : Str → Str → Int) (hvc : Cmp3 (fun x y => V x ∧ V y) vc)
    {c c' : List Patch} (hp : c.Perm c') (hc : ∀ p ∈ c, PatchOK V p) : sortCompact vc c = sortCompact vc c' := by
  have h3 := compare_cmp3 V vc hvc
  unfold sortCompact
  congr 1
  have hw : WeakOn (PatchOK V) (patchLt vc) := h3.weakOn
  exact isort_eq_of_perm_on _ _ hw.asymm hw.negTrans c c' hp hc fun a b ha hb h1 h2 =>
    compare_eq_zero_imp_eq vc a b (h3.eq_zero ⟨hc a ha, hc b hb⟩ (of_decide_eq_false h1) (of_decide_eq_false h2))

/-- whatever the comparator: the output contains exactly the patches that were collected (`Patch.Compare` as it is since fix
    09778cd0 returns 0 only for identical patches, so compaction only ever drops a patch identical to its predecessor) -/
theorem mem_sortCompact (vc : Str → Str → Int) (c : List Patch) (p : Patch) : p ∈ sortCompact vc c ↔ p ∈ c := by
  unfold sortCompact
  rw [mem_compactBy (patchEq vc) (fun x y h => compare_eq_zero_imp_eq vc x y (by simpa [patchEq] using h))]
  exact (isort_perm _ c).mem_iff

theorem sortCompact_nodup (V : Str → Prop) (vc : Str → Str → Int) (hvc : Cmp3 (fun x y => V x ∧ V y) vc)
    (c : List Patch) (hc : ∀ p ∈ c, PatchOK V p) : (sortCompact vc c).Nodup := by
  refine (sortCompact_strict V vc hvc c hc).imp_of_mem fun {a b} ha _ hab e => ?_
  subst e
  have hok := hc a ((mem_sortCompact vc c a).mp ha)
  exact (compare_cmp3 V vc hvc).not_lt_self ⟨hok, hok⟩ hab

end Scalibr.Worklist
