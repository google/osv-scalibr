/-
The requirer clause of C04: the executable tests of Spec/OverlayRequired.lean decide the declarative relations, and the
loader model's marking (`chase`, `neededSet`: lists built while walking the required links) marks exactly the needed paths.
-/
import Scalibr.Model.OverlayImage
import Scalibr.Spec.OverlayRequired
namespace Scalibr.Overlay

theorem mem_chase_iff_Reach (t : Tree) : ∀ (d : Nat) (n : Node) (q : Path), q ∈ chase t d n ↔ Reach t n d q := by
  intro d n q
  fun_induction chase t d n
  case case1 => exact ⟨nofun, nofun⟩
  case case2 hg => exact ⟨nofun, fun h => by cases h <;> simp_all⟩
  case case3 d n m hg ih =>
    rw [List.mem_cons]
    constructor
    · rintro (rfl | h)
      · exact Reach.here hg
      · split at h
        · rename_i hk; exact Reach.next hg hk (ih.mp h)
        · cases h
    · intro h
      cases h with
      | here _ => exact .inl rfl
      | next hg' hk hr => rw [hg] at hg'; cases hg'; exact .inr (by rw [if_pos hk]; exact ih.mpr hr)

theorem withinB_eq_contains (t : Tree) (d : Nat) (n : Node) (q : Path) : withinB t d n q = (chase t d n).contains q := by
  fun_induction chase t d n
  case case1 => rfl
  case case2 hg => simp [withinB, hg]
  case case3 d n m hg ih =>
    rw [withinB, hg, List.contains_cons]
    dsimp only
    rw [ih, Bool.beq_comm (a := q)]
    cases m.kind <;> simp

theorem withinB_iff_Reach (t : Tree) (d : Nat) (n : Node) (q : Path) : withinB t d n q = true ↔ Reach t n d q := by
  rw [withinB_eq_contains, List.contains_iff_mem, mem_chase_iff_Reach]

theorem neededB_iff_Needed (U : List Path) (t : Tree) (req : Path → Bool) (depth : Nat) (q : Path) :
    neededB U t req depth q = true ↔ Needed U t req depth q := by
  unfold neededB Needed RequiredLink
  rw [Bool.or_eq_true, List.any_eq_true]
  constructor
  · rintro (h | ⟨s, hs, h⟩)
    · exact Or.inl h
    · cases hg : t.get s with
      | none => rw [hg] at h; cases h
      | some n =>
        rw [hg] at h
        simp only [Bool.and_eq_true, beq_iff_eq, Bool.not_eq_true'] at h
        exact Or.inr ⟨s, n, hs, ⟨hg, h.1.1.1, h.1.1.2, h.1.2⟩, (withinB_iff_Reach t depth n q).1 h.2⟩
  · rintro (h | ⟨s, n, hs, ⟨hg, hk, hw, hr⟩, hreach⟩)
    · exact Or.inl h
    · refine Or.inr ⟨s, hs, ?_⟩
      rw [hg]
      simp only [Bool.and_eq_true, beq_iff_eq, Bool.not_eq_true']
      exact ⟨⟨⟨hk, hw⟩, hr⟩, (withinB_iff_Reach t depth n q).2 hreach⟩

/-- the model's keep test and the specification's are the same Boolean -/
theorem keep_eq (U : List Path) (t : Tree) (req : Path → Bool) (depth : Nat) (q : Path) :
    (req q || (neededSet U t req depth).contains q) = neededB U t req depth q := by
  unfold neededB neededSet
  congr 1
  induction U with
  | nil => rfl
  | cons s U ih =>
    rw [List.flatMap_cons, List.any_cons, ← ih, List.contains_append ]  
    congr 1
    cases t.get s with
    | none => rfl
    | some n =>
      simp only [withinB_eq_contains]
      show _ = (decide (n.kind = Kind.link) && !n.wh && req s && (chase t depth n).contains q)
      cases (decide (n.kind = Kind.link) && !n.wh && req s) <;> rfl
theorem pruneFinal_get_some {U : List Path} {req : Path → Bool} {depth : Nat} {t : Tree} {q : Path} {n : Node}
    (h : (pruneFinal U req depth t).get q = some n) : t.get q = some n := by
  unfold pruneFinal at h
  dsimp only at h
  split at h
  · split at h
    · rename_i hg _; rw [hg]; exact h
    · cases h
  · cases h

end Scalibr.Overlay
