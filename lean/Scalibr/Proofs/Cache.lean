/-
C16(b): invariants of the request-cache transition system, preserved by every action — hence by every
interleaving of any number of `Get` callers over any keys with `SetMap`/`GetMap` calls in between — and
the provenance of the ghost logs (`pub`, `setv`) in terms of the action history.

Every fact about one step goes through `Step`: either nothing happens, or one of seven things does, and
the successor state is given explicitly.  The invariant comes in three parts, each inductive given the ones
before it: `Flight` (call table, fetchers and call identities agree), `Prov` (every value handed out is in a
ghost log), `Once` (the success flags and the fetch counters).
-/
import Scalibr.Model.Cache
namespace Scalibr.Cache

@[simp] theorem upd_same {α} (f : Nat → α) (i : Nat) (x : α) : upd f i x i = x := if_pos rfl
theorem upd_ne {α} (f : Nat → α) {i j : Nat} (x : α) (h : j ≠ i) : upd f i x j = f j := if_neg h

theorem upd_eq {α} {f : Nat → α} {i j : Nat} {x y : α} (h : upd f i x j = y) : j = i ∧ x = y ∨ j ≠ i ∧ f j = y := by
  by_cases e : j = i
  · subst e; exact Or.inl ⟨rfl, (upd_same f j x).symm.trans h⟩
  · exact Or.inr ⟨e, (upd_ne f x e).symm.trans h⟩

theorem upd_eq_of_ne {α} {f : Nat → α} {i j : Nat} {x y : α} (h : upd f i x j = y) (hxy : x ≠ y) : j ≠ i ∧ f j = y :=
  (upd_eq h).elim (fun e => absurd e.2 hxy) id

def Act.ofGet : Act → Prop
  | .setMap _ | .getMap => False
  | _ => True

/-- `idle`: the caller is not where the action needs it, or the call it waits for has no result yet. -/
inductive Step (s : St) : Act → St → Prop
  | idle (a : Act) : a.ofGet → Step s a s
  | hit (t : Nat) (k : K) (v : V) : s.pcs t = .start k → s.cache k = some v →
      Step s (.lookup t) { s with pcs := upd s.pcs t (.done k (.ok v)) }
  | wait (t : Nat) (k : K) (c : Cid) : s.pcs t = .start k → s.cache k = none → s.calls k = some c →
      Step s (.lookup t) { s with pcs := upd s.pcs t (.waiting c k) }
  | miss (t : Nat) (k : K) : s.pcs t = .start k → s.cache k = none → s.calls k = none →
      Step s (.lookup t)
        { s with calls := upd s.calls k (some s.next), pcs := upd s.pcs t (.fetching s.next k),
                 next := s.next + 1, nfetch := upd s.nfetch k (s.nfetch k + 1),
                 lateFetch := s.lateFetch || s.succeeded k, ckey := upd s.ckey s.next (some k) }
  | publish (t : Nat) (c : Cid) (k : K) (r : R) : s.pcs t = .fetching c k →
      Step s (.publish t r)
        { s with results := upd s.results c (some r),
                 cache := (match r with | .ok v => upd s.cache k (some v) | .err => s.cache),
                 calls := (if s.calls k = some c then upd s.calls k none else s.calls),
                 pcs := upd s.pcs t (.done k r),
                 succeeded := (match r with | .ok _ => upd s.succeeded k true | .err => s.succeeded),
                 pub := fun k' r' => if k' = k ∧ r' = r then true else s.pub k' r',
                 nerr := (match r with | .ok _ => s.nerr | .err => upd s.nerr k (s.nerr k + 1)),
                 nokT := (match r with | .ok _ => upd s.nokT k (s.nokT k + 1) | .err => s.nokT),
                 nok := (match r with | .ok _ => upd s.nok k (s.nok k + 1) | .err => s.nok) }
  | wake (t : Nat) (c : Cid) (k : K) (r : R) : s.pcs t = .waiting c k → s.results c = some r →
      Step s (.wake t) { s with pcs := upd s.pcs t (.done k r) }
  | setMap (m : K → Option V) :
      Step s (.setMap m)
        { s with cache := m, succeeded := fun _ => false, nok := fun _ => 0,
                 setv := fun k v => s.setv k v || decide (m k = some v) }
  | getMap : Step s .getMap { s with maps := s.cache :: s.maps }

theorem step_spec (s : St) : ∀ a, Step s a (step s a)
  | .lookup t => by
    simp only [step]
    split
    next k hp =>
      split
      next v hc => exact .hit t k v hp hc
      next hc =>
        split
        next c hcl => exact .wait t k c hp hc hcl
        next hcl => exact .miss t k hp hc hcl
    next => exact .idle _ trivial
  | .publish t r => by
    simp only [step]
    split
    next c k hp => exact .publish t c k r hp
    next => exact .idle _ trivial
  | .wake t => by
    simp only [step]
    split
    next c k hp =>
      split
      next r hr => exact .wake t c k r hp hr
      next => exact .idle _ trivial
    next => exact .idle _ trivial
  | .setMap m => .setMap m
  | .getMap => .getMap

structure Flight (s : St) : Prop where
  calls_lt    : ∀ k c, s.calls k = some c → c < s.next
  calls_owner : ∀ k c, s.calls k = some c → ∃ t, s.pcs t = .fetching c k
  fetch_calls : ∀ t c k, s.pcs t = .fetching c k → s.calls k = some c
  fetch_uniq  : ∀ t t' c c' k, s.pcs t = .fetching c k → s.pcs t' = .fetching c' k → t = t'
  res_lt      : ∀ c, s.next ≤ c → s.results c = none
  fetch_nores : ∀ t c k, s.pcs t = .fetching c k → s.results c = none
  ckey_fetch  : ∀ t c k, s.pcs t = .fetching c k → s.ckey c = some k
  ckey_wait   : ∀ t c k, s.pcs t = .waiting c k → s.ckey c = some k ∧ c < s.next

namespace Flight
variable {s : St} (h : Flight s)
include h

theorem fetch_lt {t c k} (hp : s.pcs t = .fetching c k) : c < s.next := h.calls_lt k c (h.fetch_calls t c k hp)

theorem fetch_uniq_call {t t' c k k'} (hp : s.pcs t = .fetching c k) (hp' : s.pcs t' = .fetching c k') : t = t' := by
  have e := (h.ckey_fetch t c k hp).symm.trans (h.ckey_fetch t' c k' hp')
  cases e
  exact h.fetch_uniq t t' c c k hp hp'

theorem calls_nores {k c} (hc : s.calls k = some c) : s.results c = none :=
  (h.calls_owner k c hc).elim fun t ht => h.fetch_nores t c k ht

theorem move (t : Nat) (x : PC) (hold : ∀ c k, s.pcs t ≠ .fetching c k) (hnew : ∀ c k, x ≠ .fetching c k)
    (hw : ∀ c k, x = .waiting c k → s.ckey c = some k ∧ c < s.next) : Flight { s with pcs := upd s.pcs t x } := by
  have old : ∀ {t' c k}, upd s.pcs t x t' = .fetching c k → s.pcs t' = .fetching c k := fun hf =>
    (upd_eq_of_ne hf (hnew _ _)).2
  have new : ∀ {t' c k}, s.pcs t' = .fetching c k → upd s.pcs t x t' = .fetching c k := fun hf =>
    (upd_ne _ _ (fun e => hold _ _ (e ▸ hf))).trans hf
  exact
    { calls_lt := h.calls_lt
      calls_owner := fun k c hc => (h.calls_owner k c hc).imp fun _ => new
      fetch_calls := fun t' c k hf => h.fetch_calls t' c k (old hf)
      fetch_uniq := fun t1 t2 c c' k h1 h2 => h.fetch_uniq t1 t2 c c' k (old h1) (old h2)
      res_lt := h.res_lt
      fetch_nores := fun t' c k hf => h.fetch_nores t' c k (old hf)
      ckey_fetch := fun t' c k hf => h.ckey_fetch t' c k (old hf)
      ckey_wait := fun t' c k hf => (upd_eq hf).elim (fun e => hw c k e.2) (fun e => h.ckey_wait t' c k e.2) }

theorem step (a : Act) : Flight (step s a) := by
  have hs := step_spec s a
  generalize Cache.step s a = s' at hs
  cases hs with
  | idle => exact h
  | hit t k v hp => exact h.move t _ (by simp [hp]) (by simp) (by simp)
  | wait t k c hp _ hcl =>
    refine h.move t _ (by simp [hp]) (by simp) fun c' k' e => ?_
    cases e
    obtain ⟨t0, ht0⟩ := h.calls_owner k c hcl
    exact ⟨h.ckey_fetch t0 c k ht0, h.calls_lt k c hcl⟩
  | wake t c k r hp => exact h.move t _ (by simp [hp]) (by simp) (by simp)
  | setMap | getMap => exact ⟨h.1, h.2, h.3, h.4, h.5, h.6, h.7, h.8⟩
  | miss t k hp _ hcl =>
    -- a new call `s.next` for `k`, fetched by `t`; no call for `k` was pending, so nobody was fetching `k`
    have nofetch : ∀ t' c', s.pcs t' ≠ .fetching c' k := fun t' c' hf => by
      have := h.fetch_calls t' c' k hf; rw [hcl] at this; cases this
    refine ⟨?_, ?_, ?_, ?_, ?_, ?_, ?_, ?_⟩
    · intro k' c' hc
      rcases upd_eq hc with ⟨_, e⟩ | ⟨_, hc⟩
      · cases e; exact Nat.lt_succ_self _
      · exact Nat.lt_succ_of_lt (h.calls_lt k' c' hc)
    · intro k' c' hc
      rcases upd_eq hc with ⟨rfl, e⟩ | ⟨_, hc⟩
      · cases e; exact ⟨t, upd_same ..⟩
      · obtain ⟨t', ht'⟩ := h.calls_owner k' c' hc
        exact ⟨t', (upd_ne _ _ (fun e => by subst e; rw [hp] at ht'; cases ht')).trans ht'⟩
    · intro t' c' k' hf
      rcases upd_eq hf with ⟨_, e⟩ | ⟨_, hf⟩
      · cases e; exact upd_same ..
      · exact (upd_ne _ _ (fun (e : k' = k) => nofetch t' c' (e ▸ hf))).trans (h.fetch_calls t' c' k' hf)
    · intro t1 t2 c1 c2 k' h1 h2
      rcases upd_eq h1 with ⟨rfl, e1⟩ | ⟨_, h1'⟩ <;> rcases upd_eq h2 with ⟨rfl, e2⟩ | ⟨_, h2'⟩
      · rfl
      · cases e1; exact absurd h2' (nofetch _ _)
      · cases e2; exact absurd h1' (nofetch _ _)
      · exact h.fetch_uniq t1 t2 c1 c2 k' h1' h2'
    · intro c' hc'
      exact h.res_lt c' (Nat.le_of_succ_le hc')
    · intro t' c' k' hf
      rcases upd_eq hf with ⟨_, e⟩ | ⟨_, hf⟩
      · cases e; exact h.res_lt _ (Nat.le_refl _)
      · exact h.fetch_nores t' c' k' hf
    · intro t' c' k' hf
      rcases upd_eq hf with ⟨_, e⟩ | ⟨_, hf⟩
      · cases e; exact upd_same ..
      · exact (upd_ne _ _ (Nat.ne_of_lt (h.fetch_lt hf))).trans (h.ckey_fetch t' c' k' hf)
    · intro t' c' k' hf
      obtain ⟨hk, hlt⟩ := h.ckey_wait t' c' k' (upd_eq_of_ne hf nofun).2
      exact ⟨(upd_ne _ _ (Nat.ne_of_lt hlt)).trans hk, Nat.lt_succ_of_lt hlt⟩
  | publish t c k r hp =>
    -- `t` stores the result of its call `c` for `k` and takes the call out of the table; the other fetchers
    -- fetch other keys for other calls
    have hck := h.fetch_calls t c k hp
    have other : ∀ {t' c' k'}, upd s.pcs t (.done k r) t' = .fetching c' k' →
        s.pcs t' = .fetching c' k' ∧ k' ≠ k ∧ c' ≠ c := fun hf => by
      obtain ⟨ne, hf⟩ := upd_eq_of_ne hf nofun
      exact ⟨hf, fun e => ne (h.fetch_uniq _ _ _ _ _ (e ▸ hf) hp), fun e => ne (h.fetch_uniq_call (e ▸ hf) hp)⟩
    simp only [hck, if_true]
    refine ⟨?_, ?_, ?_, ?_, ?_, ?_, ?_, ?_⟩
    · intro k' c' hc
      exact h.calls_lt k' c' (upd_eq_of_ne hc nofun).2
    · intro k' c' hc
      obtain ⟨ne, hc⟩ := upd_eq_of_ne hc nofun
      obtain ⟨t', ht'⟩ := h.calls_owner k' c' hc
      exact ⟨t', (upd_ne _ _ (fun e => by subst e; rw [hp] at ht'; cases ht'; exact ne rfl)).trans ht'⟩
    · intro t' c' k' hf
      obtain ⟨hf, hk, _⟩ := other hf
      exact (upd_ne _ _ hk).trans (h.fetch_calls t' c' k' hf)
    · intro t1 t2 c1 c2 k' h1 h2
      exact h.fetch_uniq t1 t2 c1 c2 k' (other h1).1 (other h2).1
    · intro c' hc'
      exact (upd_ne _ _ (Nat.ne_of_gt (Nat.lt_of_lt_of_le (h.fetch_lt hp) hc'))).trans (h.res_lt c' hc')
    · intro t' c' k' hf
      obtain ⟨hf, _, hc⟩ := other hf
      exact (upd_ne _ _ hc).trans (h.fetch_nores t' c' k' hf)
    · intro t' c' k' hf
      exact h.ckey_fetch t' c' k' (other hf).1
    · intro t' c' k' hf
      exact h.ckey_wait t' c' k' (upd_eq_of_ne hf nofun).2

end Flight

structure Prov (s : St) : Prop where
  res_pub   : ∀ c r, s.results c = some r → ∃ k, s.ckey c = some k ∧ s.pub k r = true
  cache_org : ∀ k v, s.cache k = some v → s.pub k (.ok v) = true ∨ s.setv k v = true
  done_org  : ∀ t k r, s.pcs t = .done k r → s.pub k r = true ∨ ∃ v, r = .ok v ∧ s.setv k v = true

theorem Prov.move {s : St} (h : Prov s) (t : Nat) (x : PC)
    (hx : ∀ k r, x = .done k r → s.pub k r = true ∨ ∃ v, r = .ok v ∧ s.setv k v = true) : Prov { s with pcs := upd s.pcs t x } :=
  ⟨h.res_pub, h.cache_org, fun t' k r hd => (upd_eq hd).elim (fun e => hx k r e.2) fun e => h.done_org t' k r e.2⟩

theorem Prov.step {s : St} (hf : Flight s) (h : Prov s) (a : Act) : Prov (step s a) := by
  have hs := step_spec s a
  generalize Cache.step s a = s' at hs
  cases hs with
  | idle => exact h
  | getMap => exact ⟨h.1, h.2, h.3⟩
  | hit t k v _ hc =>
    refine h.move t _ fun k' r' e => ?_
    cases e; exact (h.cache_org k v hc).imp_right fun hs => ⟨v, rfl, hs⟩
  | wait t k c => exact h.move t _ nofun
  | miss t k =>
    refine ⟨fun c r hr => ?_, h.cache_org, fun t' k' r' hd => ?_⟩
    · -- a call that has a result is older than the new one
      obtain ⟨k', hk, hp⟩ := h.res_pub c r hr
      have hc : c ≠ s.next := fun e => by rw [e, hf.res_lt _ (Nat.le_refl _)] at hr; cases hr
      exact ⟨k', (upd_ne _ _ hc).trans hk, hp⟩
    · exact h.done_org t' k' r' (upd_eq_of_ne hd nofun).2
  | publish t c k r hp =>
    have grows : ∀ {k' r'}, s.pub k' r' = true → (if k' = k ∧ r' = r then true else s.pub k' r') = true := fun hp => by
      split
      · rfl
      · exact hp
    refine ⟨fun c' r' hr => ?_, fun k' v' hc => ?_, fun t' k' r' hd => ?_⟩
    · rcases upd_eq hr with ⟨rfl, e⟩ | ⟨_, hr⟩
      · cases e; exact ⟨k, hf.ckey_fetch t c' k hp, if_pos ⟨rfl, rfl⟩⟩
      · exact (h.res_pub c' r' hr).imp fun _ hk => ⟨hk.1, grows hk.2⟩
    · cases r with
      | err => exact (h.cache_org k' v' hc).imp_left grows
      | ok v =>
        rcases upd_eq hc with ⟨e1, e2⟩ | ⟨_, hc⟩
        · cases e2; exact Or.inl (if_pos ⟨e1, rfl⟩)
        · exact (h.cache_org k' v' hc).imp_left grows
    · rcases upd_eq hd with ⟨_, e⟩ | ⟨_, hd⟩
      · cases e; exact Or.inl (if_pos ⟨rfl, rfl⟩)
      · exact (h.done_org t' k' r' hd).imp_left grows
  | wake t c k r hp hr =>
    -- the waiter takes the result of a call made for its own key
    refine h.move t _ fun k' r' e => ?_
    cases e
    obtain ⟨k', hk, hpub⟩ := h.res_pub c r hr
    cases hk.symm.trans (hf.ckey_wait t c k hp).1
    exact Or.inl hpub
  | setMap m =>
    refine ⟨h.res_pub, fun k v (hm : m k = some v) => Or.inr ?_,
      fun t k r hd => (h.done_org t k r hd).imp_right fun ⟨v, e, hs⟩ => ⟨v, e, ?_⟩⟩
    · simp only [hm, decide_true, Bool.or_true]
    · simp only [hs, Bool.true_or]

structure Once (s : St) : Prop where
  succ_cache  : ∀ k, s.succeeded k = true → (s.cache k).isSome = true
  succ_nocall : ∀ k, s.succeeded k = true → s.calls k = none
  no_late     : s.lateFetch = false
  nok_succ    : ∀ k, s.nok k = if s.succeeded k = true then 1 else 0
  count       : ∀ k, s.nfetch k = s.nerr k + s.nokT k + (if (s.calls k).isSome = true then 1 else 0)

theorem Once.calls_nosucc {s : St} (h : Once s) {k : K} {c : Cid} (hc : s.calls k = some c) : s.succeeded k = false :=
  Bool.eq_false_iff.mpr fun hs => nomatch hc.symm.trans (h.succ_nocall k hs)

theorem Once.step {s : St} (hf : Flight s) (h : Once s) (a : Act) : Once (step s a) := by
  have hs := step_spec s a
  generalize Cache.step s a = s' at hs
  cases hs with
  | idle => exact h
  | hit | wait | wake | getMap => exact ⟨h.1, h.2, h.3, h.4, h.5⟩
  | setMap m => exact ⟨nofun, nofun, h.no_late, fun _ => rfl, h.count⟩
  | miss t k _ hc hcl =>
    -- a fetch starts only on a cache miss, so not for a key that has succeeded
    have hns : s.succeeded k = false := Bool.eq_false_iff.mpr fun hs => by
      have := h.succ_cache k hs; rw [hc] at this; cases this
    refine ⟨h.succ_cache, fun k' hs => ?_, ?_, h.nok_succ, fun k' => ?_⟩
    · exact (upd_ne _ _ (fun e => by rw [e, hns] at hs; cases hs)).trans (h.succ_nocall k' hs)
    · simp only [h.no_late, hns, Bool.or_false]
    · have := h.count k'
      by_cases e : k' = k
      · subst e; simp only [upd_same, hcl, Option.isSome_none, Option.isSome_some, Bool.false_eq_true, ↓reduceIte] at this ⊢; omega
      · simp only [upd_ne _ _ e]; exact this
  | publish t c k r hp =>
    -- the call was pending, so the key had not succeeded; it is not pending afterwards
    have hck := hf.fetch_calls t c k hp
    have hns := h.calls_nosucc hck
    have hn := h.nok_succ k
    have hcount := h.count k
    simp only [hns, hck, Option.isSome_some, Bool.false_eq_true, ↓reduceIte] at hn hcount
    simp only [hck, if_true]
    cases r with
    | ok v =>
      refine ⟨fun k' hs => ?_, fun k' hs => ?_, h.no_late, fun k' => ?_, fun k' => ?_⟩ <;> by_cases e : k' = k
      · subst e; simp only [upd_same, Option.isSome_some]
      · simp only [upd_ne _ _ e] at hs ⊢; exact h.succ_cache k' hs
      · subst e; exact upd_same ..
      · simp only [upd_ne _ _ e] at hs ⊢; exact h.succ_nocall k' hs
      · subst e; simp only [upd_same, hn]; rfl
      · simp only [upd_ne _ _ e]; exact h.nok_succ k'
      · subst e; simp only [upd_same, Option.isSome_none, Bool.false_eq_true, ↓reduceIte]; omega
      · simp only [upd_ne _ _ e]; exact h.count k'
    | err =>
      refine ⟨h.succ_cache, fun k' hs => ?_, h.no_late, h.nok_succ, fun k' => ?_⟩ <;> by_cases e : k' = k
      · subst e; exact upd_same ..
      · simp only [upd_ne _ _ e]; exact h.succ_nocall k' hs
      · subst e; simp only [upd_same, Option.isSome_none, Bool.false_eq_true, ↓reduceIte]; omega
      · simp only [upd_ne _ _ e]; exact h.count k'

theorem Once.nok_le {s : St} (h : Once s) (k : K) : s.nok k ≤ 1 := by
  rw [h.nok_succ k]; split <;> omega

/-- every fetch for `k` has failed, or succeeded, or is the one in flight; and after a success none is in flight -/
theorem Once.fetch_le {s : St} (h : Once s) (k : K) : s.nfetch k + s.nok k ≤ s.nerr k + s.nokT k + 1 := by
  rw [h.count k, h.nok_succ k]
  cases hs : s.succeeded k with
  | true => simp [h.succ_nocall k hs]
  | false => simp only [Bool.false_eq_true, ↓reduceIte]; split <;> omega

structure Inv (s : St) : Prop where
  flight : Flight s
  prov : Prov s
  once : Once s

theorem Inv.step {s : St} (h : Inv s) (a : Act) : Inv (step s a) :=
  ⟨h.flight.step a, h.prov.step h.flight a, h.once.step h.flight a⟩

theorem init_pcs_ne (keyOf : Nat → Option K) (t : Nat) {x : PC} (h1 : x ≠ .idle) (h2 : ∀ k, x ≠ .start k) :
    (init keyOf).pcs t ≠ x := by
  simp only [init]
  cases keyOf t with
  | none => exact fun e => h1 e.symm
  | some k => exact fun e => h2 k e.symm

theorem inv_init (keyOf : Nat → Option K) : Inv (init keyOf) :=
  ⟨⟨nofun, nofun, fun _ _ _ hf => absurd hf (init_pcs_ne keyOf _ nofun nofun),
    fun _ _ _ _ _ hf => absurd hf (init_pcs_ne keyOf _ nofun nofun), fun _ _ => rfl, fun _ _ _ _ => rfl,
    fun _ _ _ hf => absurd hf (init_pcs_ne keyOf _ nofun nofun), fun _ _ _ hw => absurd hw (init_pcs_ne keyOf _ nofun nofun)⟩,
   ⟨nofun, nofun, fun _ _ _ hd => absurd hd (init_pcs_ne keyOf _ nofun nofun)⟩,
   ⟨nofun, fun _ _ => rfl, rfl, fun _ => rfl, fun _ => rfl⟩⟩

theorem inv_runFrom (s : St) (h : Inv s) (as : List Act) : Inv (runFrom s as) := by
  unfold runFrom
  induction as generalizing s with
  | nil => exact h
  | cons a as ih => exact ih _ (h.step a)

theorem inv_run (keyOf) (as : List Act) : Inv (run keyOf as) := inv_runFrom _ (inv_init keyOf) as

/-- a published result is never overwritten: every waiter of a call reads what its fetcher stored -/
theorem results_stable (s : St) (a : Act) (h : Flight s) (c : Cid) (r : R) (hr : s.results c = some r) :
    (step s a).results c = some r := by
  have hs := step_spec s a
  generalize step s a = s' at hs
  cases hs with
  | publish t c' k r' hp =>
    have : c ≠ c' := fun e => by rw [e, h.fetch_nores t c' k hp] at hr; cases hr
    exact (upd_ne _ _ this).trans hr
  | _ => exact hr

theorem step_maps (s : St) (a : Act) : (step s a).maps = (match a with | .getMap => s.cache :: s.maps | _ => s.maps) := by
  have hs := step_spec s a
  generalize step s a = s' at hs
  cases hs with
  | idle a ha => cases a <;> first | rfl | cases ha
  | _ => rfl

/-! ### the ghost logs mean what they say -/

theorem history {P : St → Prop} {Q : St → Act → Prop} (hstep : ∀ s a, P (step s a) → P s ∨ Q s a) :
    ∀ (as : List Act) (s : St), P (runFrom s as) → P s ∨ ∃ as1 a as2, as = as1 ++ a :: as2 ∧ Q (runFrom s as1) a
  | [], _, h => Or.inl h
  | a :: as, s, h => by
    rcases history hstep as (step s a) h with h1 | ⟨as1, b, as2, e, hq⟩
    · exact (hstep s a h1).imp_right fun hq => ⟨[], a, as, rfl, hq⟩
    · exact Or.inr ⟨a :: as1, b, as2, by rw [e]; rfl, hq⟩

theorem pub_step (k : K) (r : R) (s : St) (a : Act) (h : (step s a).pub k r = true) :
    s.pub k r = true ∨ ∃ t c, a = .publish t r ∧ s.pcs t = .fetching c k := by
  have hs := step_spec s a
  generalize step s a = s' at hs h
  cases hs with
  | publish t c k' r' hp =>
    have h : (if k = k' ∧ r = r' then true else s.pub k r) = true := h
    split at h
    · rename_i e; obtain ⟨rfl, rfl⟩ := e; exact Or.inr ⟨t, c, rfl, hp⟩
    · exact Or.inl h
  | _ => exact Or.inl h

theorem setv_step (k : K) (v : V) (s : St) (a : Act) (h : (step s a).setv k v = true) :
    s.setv k v = true ∨ ∃ m, a = .setMap m ∧ m k = some v := by
  have hs := step_spec s a
  generalize step s a = s' at hs h
  cases hs with
  | setMap m =>
    simp only [Bool.or_eq_true, decide_eq_true_eq] at h
    exact h.imp_right fun hm => ⟨m, rfl, hm⟩
  | _ => exact Or.inl h

theorem pub_run (keyOf : Nat → Option K) (as : List Act) (k : K) (r : R) (h : (run keyOf as).pub k r = true) :
    ∃ as1 t as2 c, as = as1 ++ Act.publish t r :: as2 ∧ (run keyOf as1).pcs t = .fetching c k := by
  rcases history (P := fun s => s.pub k r = true) (pub_step k r) as (init keyOf) h with h | ⟨as1, _, as2, e, t, c, rfl, hp⟩
  · cases h
  · exact ⟨as1, t, as2, c, e, hp⟩

theorem setv_run (keyOf : Nat → Option K) (as : List Act) (k : K) (v : V) (h : (run keyOf as).setv k v = true) :
    ∃ as1 m as2, as = as1 ++ Act.setMap m :: as2 ∧ m k = some v := by
  rcases history (P := fun s => s.setv k v = true) (setv_step k v) as (init keyOf) h with h | ⟨as1, _, as2, e, m, rfl, hm⟩
  · cases h
  · exact ⟨as1, m, as2, e, hm⟩

/-- without SetMap the two success counters coincide -/
theorem nokT_eq_nok : ∀ (as : List Act) (s : St), (∀ a ∈ as, a.isSetMap = false) → (∀ k, s.nokT k = s.nok k) →
    ∀ k, (runFrom s as).nokT k = (runFrom s as).nok k
  | [], _, _, h => h
  | a :: as, s, hs, h => by
    refine nokT_eq_nok as (step s a) (fun a' ha' => hs a' (List.mem_cons_of_mem _ ha')) ?_
    have ha := hs a List.mem_cons_self
    have hst := step_spec s a
    generalize step s a = s' at hst
    cases hst with
    | setMap => cases ha
    | publish t c k r =>
      intro k'
      cases r with
      | err => exact h k'
      | ok v =>
        by_cases e : k' = k
        · subst e; simp only [upd_same, h k']
        · simp only [upd_ne _ _ e]; exact h k'
    | _ => exact h

theorem results_stable_run {s : St} (h : Inv s) (c : Cid) (r : R) (hr : s.results c = some r) :
    ∀ as : List Act, (runFrom s as).results c = some r
  | [] => hr
  | a :: as => results_stable_run (h.step a) c r (results_stable s a h.flight c r hr) as

end Scalibr.Cache
