/-
`typeForPath` (Model/ProtoResult.lean: Go's `filepath.Ext` scan from the end, `strings.TrimSuffix`, the switch) accepts
exactly the paths the specification names by their endings (`specFileType`), with the same file type.
-/
import Scalibr.Spec.ProtoResult

namespace Scalibr.ProtoResult

/-- no dot and no slash -/
def Clean (w : List Char) : Prop := ∀ c ∈ w, c ≠ '.' ∧ c ≠ '/'

theorem extGo_clean (w r acc : List Char) (hw : Clean w) : extGo (w ++ '.' :: r) acc = '.' :: (w.reverse ++ acc) := by
  induction w generalizing acc with
  | nil => simp [extGo]
  | cons c w ih =>
    have hc := hw c (List.mem_cons_self ..)
    have hw' : Clean w := fun d hd => hw d (List.mem_cons_of_mem _ hd)
    simp only [List.cons_append, extGo, hc.1, hc.2, if_false, ih _ hw', List.reverse_cons, List.append_assoc,
      List.cons_append, List.nil_append]

theorem ext_append_dot (x w : List Char) (hw : Clean w) : ext (x ++ '.' :: w) = '.' :: w := by
  have hr : Clean w.reverse := fun c hc => hw c (List.mem_reverse.mp hc)
  unfold ext
  rw [List.reverse_append, List.reverse_cons, List.append_assoc, List.singleton_append, extGo_clean _ _ _ hr]
  simp

/-- what `extGo` returns is empty or a dot followed by clean characters, and `rev.reverse ++ acc` ends with it -/
theorem extGo_shape (rev acc : List Char) (hacc : Clean acc) :
    extGo rev acc = [] ∨ ∃ w, Clean w ∧ extGo rev acc = '.' :: w ∧ ∃ x, rev.reverse ++ acc = x ++ '.' :: w := by
  induction rev generalizing acc with
  | nil => left; rfl
  | cons c rev ih =>
    by_cases h1 : c = '/'
    · left; simp [extGo, h1]
    · by_cases h2 : c = '.'
      · right
        refine ⟨acc, hacc, by simp [extGo, h2], rev.reverse, by simp [h2]⟩
      · have hacc' : Clean (c :: acc) := by
          intro d hd
          rcases List.mem_cons.mp hd with h | h
          · subst h; exact ⟨h2, h1⟩
          · exact hacc d h
        rcases ih (c :: acc) hacc' with h | ⟨w, hw, he, x, hx⟩
        · left; simp [extGo, h1, h2, h]
        · right
          refine ⟨w, hw, by simp [extGo, h1, h2, he], x, ?_⟩
          simpa using hx

theorem ext_shape (p : List Char) : ext p = [] ∨ ∃ w, Clean w ∧ ext p = '.' :: w ∧ ('.' :: w) <:+ p := by
  rcases extGo_shape p.reverse [] (fun _ h => absurd h (List.not_mem_nil)) with h | ⟨w, hw, he, x, hx⟩
  · left; exact h
  · right
    refine ⟨w, hw, he, x, ?_⟩
    simpa using hx.symm

/-- for a dot followed by clean characters: it is the extension iff the path ends with it -/
theorem ext_eq_iff (p w : List Char) (hw : Clean w) : ext p = '.' :: w ↔ ('.' :: w) <:+ p := by
  constructor
  · intro h
    rcases ext_shape p with h0 | ⟨w', _, he, hs⟩
    · rw [h0] at h; cases h
    · rw [he] at h; rw [← h]; exact hs
  · rintro ⟨x, rfl⟩
    exact ext_append_dot x w hw

theorem trimSuffix_append (q e : List Char) : trimSuffix (q ++ e) e = q := by
  unfold trimSuffix
  have : e.isSuffixOf (q ++ e) = true := List.isSuffixOf_iff_suffix.mpr (List.suffix_append q e)
  simp [this]

theorem clean_gz : Clean ['g', 'z'] := by unfold Clean; decide
theorem clean_bin : Clean ['b', 'i', 'n', 'p', 'r', 'o', 't', 'o'] := by unfold Clean; decide
theorem clean_text : Clean ['t', 'e', 'x', 't', 'p', 'r', 'o', 't', 'o'] := by unfold Clean; decide

theorem ext_gz (p : List Char) : ext p = dotGz ↔ dotGz <:+ p := ext_eq_iff p _ clean_gz
theorem ext_bin (p : List Char) : ext p = dotBinproto ↔ dotBinproto <:+ p := ext_eq_iff p _ clean_bin
theorem ext_text (p : List Char) : ext p = dotTextproto ↔ dotTextproto <:+ p := ext_eq_iff p _ clean_text

/-- `typeForPath` = the specification by endings -/
theorem typeForPath_spec (p : List Char) (ft : FileType) : typeForPath p = .ok ft ↔ specFileType p = some ft := by
  have hbg : dotBinproto ≠ dotGz := by decide
  have htg : dotTextproto ≠ dotGz := by decide
  have hbt : dotBinproto ≠ dotTextproto := by decide
  have hb0 : dotBinproto ≠ [] := by decide
  have ht0 : dotTextproto ≠ [] := by decide
  have hg0 : dotGz ≠ [] := by decide
  by_cases hg : ext p = dotGz
  · -- gzipped: p = q ++ ".gz"
    obtain ⟨q, rfl⟩ := (ext_gz p).mp hg
    have nb : ¬ dotBinproto <:+ (q ++ dotGz) := fun h => hbg (((ext_bin _).mpr h).symm.trans hg)
    have nt : ¬ dotTextproto <:+ (q ++ dotGz) := fun h => htg (((ext_text _).mpr h).symm.trans hg)
    have e1 : (dotBinproto ++ dotGz) <:+ (q ++ dotGz) ↔ ext q = dotBinproto := by rw [List.suffix_append_self_iff, ext_bin]
    have e2 : (dotTextproto ++ dotGz) <:+ (q ++ dotGz) ↔ ext q = dotTextproto := by rw [List.suffix_append_self_iff, ext_text]
    simp only [typeForPath, specFileType, hg, hg0, trimSuffix_append, List.isSuffixOf_iff_suffix, e1, e2, nb, nt,
      decide_true, if_true, if_false, true_and]
    by_cases h1 : ext q = dotBinproto
    · simp [h1, hb0]
    · by_cases h2 : ext q = dotTextproto
      · simp [h2, ht0, hbt.symm]
      · by_cases h0 : ext q = []
        · simp [h0, hb0.symm, ht0.symm]
        · simp [h0, h1, h2]
  · have ng : ¬ dotGz <:+ p := fun h => hg ((ext_gz p).mpr h)
    have n1 : ¬ (dotBinproto ++ dotGz) <:+ p := fun h => ng ((List.suffix_append _ _).trans h)
    have n2 : ¬ (dotTextproto ++ dotGz) <:+ p := fun h => ng ((List.suffix_append _ _).trans h)
    simp only [typeForPath, specFileType, hg, List.isSuffixOf_iff_suffix, n1, n2, ← ext_bin, ← ext_text,
      decide_false, if_false, Bool.false_eq_true, false_and]
    by_cases h1 : ext p = dotBinproto
    · simp [h1, hb0]
    · by_cases h2 : ext p = dotTextproto
      · simp [h2, ht0, hbt.symm]
      · by_cases h0 : ext p = []
        · simp [h0, hb0.symm, ht0.symm]
        · simp [h0, h1, h2]

end Scalibr.ProtoResult
