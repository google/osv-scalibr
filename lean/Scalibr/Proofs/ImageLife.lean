/-
Helper lemmas for the temp-dir life cycle of the image loader (Model/ImageLife.lean): the reverse loop over the chain
layers only ever touches the image's own directory, a failing loop has removed it, a successful one returns it.
-/
import Scalibr.Model.ImageLife
namespace Scalibr.ImageLife

theorem removeAll_addLayerDir (tmp : Tmp) (d i : Nat) : removeAll (addLayerDir tmp d i) d = removeAll tmp d := by
  unfold removeAll addLayerDir
  induction tmp with
  | nil => rfl
  | cons x tmp ih =>
    rw [List.map_cons, List.filter_cons, List.filter_cons, ih]
    cases hx : x.name == d <;> simp [bne, hx]

theorem removeAll_idem (tmp : Tmp) (d : Nat) : removeAll (removeAll tmp d) d = removeAll tmp d := by
  unfold removeAll; simp [List.filter_filter]

/-- **The shape of the loop's result**: it touches nothing but the image's own directory, and it ends either with that
directory as the image's or — every `handleImageError` exit — with the directory removed. -/
theorem loop_shape (d : Nat) (tmp : Tmp) (rs : List LayerRun) :
    removeAll (loop d tmp rs).2 d = removeAll tmp d ∧
    ((loop d tmp rs).1 = some d ∨ loop d tmp rs = (none, removeAll tmp d)) := by
  fun_induction loop d tmp rs
  case case1 => exact ⟨rfl, .inl rfl⟩
  case case2 ih => exact ih
  case case3 => exact ⟨removeAll_idem _ d, .inr rfl⟩
  case case7 => rename_i ih; rw [removeAll_addLayerDir] at ih; exact ih
  all_goals exact ⟨(removeAll_idem _ d).trans (removeAll_addLayerDir _ d _),
    .inr (congrArg (Prod.mk none) (removeAll_addLayerDir _ d _))⟩

/-- whatever the loop does, it only ever touches the image's own directory -/
theorem loop_others (d : Nat) (rs : List LayerRun) (tmp : Tmp) : removeAll (loop d tmp rs).2 d = removeAll tmp d :=
  (loop_shape d tmp rs).1

/-- a failing loop has removed the image's directory -/
theorem loop_failed (d : Nat) (rs : List LayerRun) (tmp : Tmp) (h : (loop d tmp rs).1 = none) :
    (loop d tmp rs).2 = removeAll tmp d := by
  rcases (loop_shape d tmp rs).2 with h' | h'
  · rw [h] at h'; cases h'
  · rw [h']

theorem removeAll_fresh (tmp : Tmp) (fresh : Nat) (ls : List Nat) (hf : ∀ x ∈ tmp, x.name ≠ fresh) :
    removeAll (⟨fresh, ls⟩ :: tmp) fresh = tmp := by
  unfold removeAll
  simp only [List.filter_cons, bne_self_eq_false, Bool.false_eq_true, if_false]
  rw [List.filter_eq_self]
  intro x hx; simp [hf x hx]

end Scalibr.ImageLife
