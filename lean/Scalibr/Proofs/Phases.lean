/-
Helper lemmas for the plugin loops (C10): the `before` of the specification (`specStarted`, `specRemaining`) is the
loop's own "context cancelled" flag, so one induction over the schedule says what a loop starts and whether it
returns `ctx.Err()`; a loop nobody cancels runs through and logs one status per recorded plugin.
-/
import Scalibr.Spec.Phases
namespace Scalibr.Phases

theorem runUnit_started (rec : Bool) (ps : List Plugin) (s : St) :
    (runUnit rec ps s).started = s.started ++ ps.map (·.name) ∧
    (runUnit rec ps s).cancelled = (s.cancelled || ps.any (·.cancels)) := by
  induction ps generalizing s with
  | nil => simp [runUnit]
  | cons p ps ih =>
    unfold runUnit
    obtain ⟨h1, h2⟩ := ih ⟨s.cancelled || p.cancels, s.started ++ [p.name],
      if rec then s.status ++ [(p.name, p.fails (s.cancelled || p.cancels))] else s.status⟩
    exact ⟨by rw [h1]; simp, by rw [h2]; simp [Bool.or_assoc]⟩

theorem through_cons (u : Iter) (us : List Iter) : through (u :: us) = u :: if u.cancels then [] else through us := by
  cases h : u.cancels <;> simp [through, h]

theorem after_cons (u : Iter) (us : List Iter) : after (u :: us) = if u.cancels then us else after us := by
  cases h : u.cancels <;> simp [after, h]

theorem through_append_after (us : List Iter) : through us ++ after us = us := List.take_append_drop ..

theorem specStarted_append_remaining (before : Bool) (us : List Iter) :
    specStarted before us ++ names (specRemaining before us) = names us := by
  cases before
  · simp only [specStarted, specRemaining, names, Bool.false_eq_true, if_false, ← List.flatMap_append, through_append_after]
  · rfl

/-- what a loop starts and whether it returns ctx.Err() -/
theorem loop_started (us : List Iter) (s : St) :
    (loop us s).1.started = s.started ++ specStarted s.cancelled us ∧
    (loop us s).2 = !(specRemaining s.cancelled us).isEmpty := by
  induction us generalizing s with
  | nil => cases hc : s.cancelled <;> simp [loop, specStarted, specRemaining, through, after, names]
  | cons u us ih =>
    unfold loop
    cases hc : s.cancelled with
    | true => simp [specStarted, specRemaining]
    | false =>
      obtain ⟨h1, h2⟩ := runUnit_started u.records u.plugins s
      have hcu : (runUnit u.records u.plugins s).cancelled = u.cancels := by rw [h2, hc]; rfl
      obtain ⟨i1, i2⟩ := ih (runUnit u.records u.plugins s)
      rw [hcu] at i1 i2
      simp only [Bool.false_eq_true, if_false, i1, i2, h1, specStarted, specRemaining, through_cons, after_cons]
      cases u.cancels <;> simp [names]

theorem loop_cancelled (us : List Iter) (s : St) (h : (loop us s).2 = false) :
    (loop us s).1.cancelled = (s.cancelled || us.any (·.cancels)) := by
  fun_induction loop us s with
  | case1 => simp
  | case2 u us s hc => cases h
  | case3 u us s hc ih => rw [ih h, (runUnit_started ..).2]; simp [Iter.cancels, Bool.or_assoc]

/-- two consecutive phase loops with the early return in between are one loop over the concatenation -/
theorem loop_append (a b : List Iter) (s : St) :
    loop (a ++ b) s = if (loop a s).2 then ((loop a s).1, true) else loop b (loop a s).1 := by
  fun_induction loop a s with
  | case1 => rfl
  | case2 u us s hc => simp [loop, hc]
  | case3 u us s hc ih => simpa [loop, hc] using ih

theorem through_after_nocancel (us : List Iter) (h : ∀ u ∈ us, u.cancels = false) : through us = us ∧ after us = [] := by
  induction us with
  | nil => exact ⟨rfl, rfl⟩
  | cons u us ih =>
    obtain ⟨i1, i2⟩ := ih fun v hv => h v (by simp [hv])
    simp [through_cons, after_cons, h u (by simp), i1, i2]

/-- the status entries of a run that nobody cancels: one per recorded plugin, failed iff it returned an error -/
def statusOf (us : List Iter) : List (String × Bool) :=
  us.flatMap fun u => if u.records then u.plugins.map fun p => (p.name, decide (p.ret = .err)) else []

theorem statusOf_append (a b : List Iter) : statusOf (a ++ b) = statusOf a ++ statusOf b := List.flatMap_append

theorem runUnit_nocancel (rec : Bool) (ps : List Plugin) (s : St) (hs : s.cancelled = false)
    (hp : ∀ p ∈ ps, p.cancels = false) :
    (runUnit rec ps s).status = s.status ++ statusOf [⟨rec, ps⟩] := by
  induction ps generalizing s with
  | nil => cases rec <;> simp [runUnit, statusOf]
  | cons p ps ih =>
    have hpc := hp p (by simp)
    rw [runUnit, ih _ (by simp [hs, hpc]) fun q hq => hp q (by simp [hq])]
    cases rec
    · simp [statusOf]
    · cases hret : p.ret <;> simp [statusOf, Plugin.fails, hret, hs, hpc]

theorem loop_nocancel (us : List Iter) (s : St) (hs : s.cancelled = false) (hu : ∀ u ∈ us, u.cancels = false) :
    (loop us s).2 = false ∧ (loop us s).1.status = s.status ++ statusOf us := by
  induction us generalizing s with
  | nil => simp [loop, statusOf]
  | cons u us ih =>
    have hcu : u.cancels = false := hu u (by simp)
    have hps : ∀ p ∈ u.plugins, p.cancels = false := fun p hp => by
      simpa using List.any_eq_false.mp hcu p hp
    obtain ⟨i1, i2⟩ := ih (runUnit u.records u.plugins s)
      (by rw [(runUnit_started ..).2, hs]; exact hcu) fun v hv => hu v (by simp [hv])
    rw [loop, if_neg (by simp [hs])]
    exact ⟨i1, by rw [i2, runUnit_nocancel _ _ s hs hps]; simp [statusOf]⟩

end Scalibr.Phases
