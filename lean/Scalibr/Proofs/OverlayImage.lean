/-
C04 / C10: the full loader `loadImage` (tar entries with their acceptance verdicts, the extraction directory, load
errors) builds, whenever it succeeds, exactly the trees of `loadCore` on the entries that create nodes (`effective`).
This is the link between the theorems (about `viewOf` / `loadCore`) and what the driver runs.
-/
import Scalibr.Model.OverlayImage
namespace Scalibr.Overlay

theorem upgrades_tomb (own : Tree) (p : Path) (m : Nat) : upgrades own ⟨p, .link, true, m, 0, 0, []⟩ = false := by
  unfold upgrades
  cases own.get p <;> simp

theorem processEntry_some {limit i : Nat} {st st' : LoadSt} {pe : PEntry} (h : processEntry limit i st pe = some st') :
    st'.chains = (match pe.node? with | some e => processEntryC i st.chains e | none => st.chains) ∧
    (st'.disk = st.disk ∨ diskStep limit st.disk pe = some st'.disk) := by
  revert h
  fun_cases processEntry limit i st pe <;> intro h
  case case1 =>
    rename_i hown hu
    obtain ⟨d, hd, rfl⟩ := Option.map_eq_some_iff.mp h
    rw [Bool.and_eq_true, decide_eq_true_eq] at hu
    exact ⟨by simp only [PEntry.node?, processEntryC, hu.1, hu.2, hown, if_true], .inr hd⟩
  case case2 =>
    rename_i hown hu
    cases h
    refine ⟨?_, .inl rfl⟩
    cases hact : pe.act <;> simp_all [PEntry.node?, processEntryC, upgrades_tomb]
  case case3 => cases h
  case case4 => cases h; exact ⟨by simp_all [PEntry.node?, processEntryC], .inl rfl⟩
  case case5 => cases h; exact ⟨by simp_all [PEntry.node?], .inl rfl⟩
  case case6 =>
    obtain ⟨d, hd, rfl⟩ := Option.map_eq_some_iff.mp h
    exact ⟨by simp_all [PEntry.node?, processEntryC], .inr hd⟩
  case case7 =>
    obtain ⟨d, hd, rfl⟩ := Option.map_eq_some_iff.mp h
    exact ⟨by simp_all [PEntry.node?, processEntryC], .inr hd⟩
theorem effective_cons (pe : PEntry) (l : List PEntry) :
    effective (pe :: l) = match pe.node? with | some e => e :: effective l | none => effective l := by
  unfold effective
  cases h : pe.node? <;> simp [h]

theorem getD_map_effective (layers : List (List PEntry)) (i : Nat) :
    (layers.map effective).getD i [] = effective (layers.getD i []) := by
  rw [List.getD_eq_getElem?_getD, List.getD_eq_getElem?_getD, List.getElem?_map]
  cases layers[i]? <;> simp [effective]

/-- the entries of one archive: the chains are those of the lock-step core on the nodes the entries leave, and the
extraction directory keeps whatever `diskStep` keeps -/
theorem foldlM_processEntry (limit i : Nat) (P : Disk → Prop)
    (hP : ∀ d d' pe, P d → diskStep limit d pe = some d' → P d') (l : List PEntry) (st st' : LoadSt)
    (h : l.foldlM (processEntry limit i) st = some st') (hd : P st.disk) :
    st'.chains = (effective l).foldl (processEntryC i) st.chains ∧ P st'.disk := by
  induction l generalizing st with
  | nil => cases h; exact ⟨rfl, hd⟩
  | cons pe l ih =>
    rw [List.foldlM_cons] at h
    cases h1 : processEntry limit i st pe with
    | none => rw [h1] at h; cases h
    | some st1 =>
      rw [h1] at h
      obtain ⟨hc, hdk⟩ := processEntry_some h1
      obtain ⟨ihc, ihd⟩ := ih st1 h (hdk.elim (fun e => e ▸ hd) (hP _ _ pe hd))
      refine ⟨?_, ihd⟩
      rw [ihc, hc, effective_cons]
      cases pe.node? <;> rfl

theorem loadLoop_spec (limit : Nat) (P : Disk → Prop) (hP : ∀ d d' pe, P d → diskStep limit d pe = some d' → P d')
    (h0 : P []) (layers : List (List PEntry)) (i : Nat) (chains : List Tree) (disks : List (Nat × Disk))
    (c : List Tree) (ds : List (Nat × Disk)) (h : loadLoop limit layers i chains disks = some (c, ds))
    (hd : ∀ x ∈ disks, P x.2) : c = loadFrom (layers.map effective) i chains ∧ ∀ x ∈ ds, P x.2 := by
  induction i generalizing chains disks with
  | zero => cases h; exact ⟨rfl, hd⟩
  | succ i ih =>
    rw [loadLoop] at h
    split at h
    · cases h
    · rename_i c1 d1 hp
      obtain ⟨st', hf, heq⟩ := Option.map_eq_some_iff.mp hp
      cases heq
      obtain ⟨hc, hdk⟩ := foldlM_processEntry limit i P hP _ ⟨chains, []⟩ st' hf h0
      obtain ⟨ihc, ihd⟩ := ih _ _ h fun x hx => (List.mem_cons.mp hx).elim (fun e => e ▸ hdk) (hd x)
      exact ⟨by rw [ihc, hc, loadFrom, getD_map_effective], ihd⟩

/-- **The full loader builds the trees of the lock-step core.** Whenever `loadImage` succeeds (no tar makes
`MkdirAll`/`OpenFile` fail, no link without a target), its chain layers are `loadCore` of the node-creating entries —
and by `loadCore_eq_viewOf` the views the theorems speak about. -/
theorem loadImage_chains (limit : Nat) (layers : List (List PEntry)) (c : List Tree) (ds : List (Nat × Disk))
    (h : loadImage limit layers = some (c, ds)) : c = loadCore (layers.map effective) := by
  have := (loadLoop_spec limit (fun _ => True) (fun _ _ _ _ _ => trivial) trivial layers _ _ _ c ds h nofun).1
  rw [this, loadCore, List.length_map]

end Scalibr.Overlay
