/-
Two Lean models of the loader's symlink handling exist: `Scalibr.Symlink.targetOutsideRoot` /
`handleSymlink` (C17, Model/Symlink.lean: marker directory on a segment stack) and
`Scalibr.Overlay.targetOutsideRoot` / `targetSegs` (C04, Model/OverlayImage.lean via Model/GoPath.lean:
count of leading ".." of `path.Clean`). This file follows `cleanStep` segment by segment (".", "..", a name) and
through a whole fold; `C17_loader_models_agree` (Properties/C17.lean) concludes from these that the two are the same function.
-/
import Scalibr.Proofs.Symlink
import Scalibr.Model.GoPath
namespace Scalibr.Symlink
open Scalibr.GoPath

theorem step_dot (r : Bool) (acc : Nat × List String) (s : String) (h : s = "" ∨ s = ".") :
    cleanStep r acc s = acc := by
  rcases h with h | h <;> simp [cleanStep, h]

theorem step_dd_nil (r : Bool) (u : Nat) : cleanStep r (u, []) ".." = if r then (u, []) else (u+1, []) := by
  simp [cleanStep]

theorem step_dd_cons (r : Bool) (u : Nat) (x : String) (st : List String) :
    cleanStep r (u, x :: st) ".." = (u, st) := by
  simp [cleanStep]

theorem step_name (r : Bool) (u : Nat) (st : List String) (s : String) (h1 : s ≠ "") (h2 : s ≠ ".") (h3 : s ≠ "..") :
    cleanStep r (u, st) s = (u, s :: st) := by
  simp [cleanStep, h1, h2, h3]

/-- `path.Clean` of a relative path has a leading ".." exactly when some prefix climbs above the start -/
theorem foldl_cleanStep_ups : ∀ (xs : List String) (u : Nat) (st : List String),
    (xs.foldl (cleanStep false) (u, st)).1 > 0 ↔ (u > 0 ∨ escapes st.length xs = true)
  | [], u, st => by simp [escapes]
  | s :: rest, u, st => by
    simp only [List.foldl_cons]
    unfold escapes
    by_cases hdot : s = "" ∨ s = "."
    · have hdot' : (s = "." || s = "") = true := by
        rcases hdot with h | h <;> simp [h]
      rw [step_dot false (u, st) s hdot]
      simp only [hdot', if_true]
      exact foldl_cleanStep_ups rest u st
    · simp only [not_or] at hdot
      have hdot' : (s = "." || s = "") = false := by simp [hdot.1, hdot.2]
      simp only [hdot', Bool.false_eq_true, if_false]
      by_cases hdd : s = ".."
      · subst hdd
        simp only [if_true]
        cases st with
        | nil =>
          rw [step_dd_nil]
          simp only [Bool.false_eq_true, if_false, List.length_nil]
          rw [foldl_cleanStep_ups rest (u+1) []]
          simp
        | cons x st' =>
          rw [step_dd_cons]
          simp only [List.length_cons]
          exact foldl_cleanStep_ups rest u st'
      · rw [step_name false u st s hdot.1 hdot.2 hdd]
        simp only [hdd, if_false]
        rw [foldl_cleanStep_ups rest u (s :: st)]
        simp

/-- rooted `path.Clean`: the kept segments are `cleanAbs` -/
theorem foldl_cleanStep_rooted (xs : List String) (u : Nat) (st : List String) :
    (xs.foldl (cleanStep true) (u, st)).2 = cleanAbsAux st xs := by
  fun_induction cleanAbsAux st xs generalizing u
  case case1 => rfl
  case case2 ih =>
    rename_i h
    rw [List.foldl_cons, cleanStep, if_pos (by simpa [or_comm] using h)]
    exact ih u
  case case3 ih =>
    rename_i st _ _
    rw [List.foldl_cons]
    cases st <;> exact ih u
  case case4 ih =>
    rename_i h hdd
    rw [List.foldl_cons, cleanStep, if_neg (by simpa [or_comm] using h), if_neg hdd]
    exact ih u

end Scalibr.Symlink
