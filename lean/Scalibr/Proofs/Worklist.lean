/-
C16(a) helper lemmas: confluence of the worklist (the multiset of tasks ever processed is the closure of
the initial tasks under `spawn`, whatever the delivery order) and termination under a rank.
-/
import Scalibr.Model.Worklist
import Scalibr.Proofs.Lists
namespace Scalibr.Worklist
open List

section generic
variable {τ π : Type} (out : τ → Option π) (spawn : τ → List τ)

/-- complete runs at multiset level: from the pending multiset `P` the tasks `ps` are processed in this
    order and nothing is pending afterwards -/
inductive Runs : List τ → List τ → Prop
  | nil : Runs [] []
  | cons {P Q ps} (t : τ) : P.Perm (t :: Q) → Runs (Q ++ spawn t) ps → Runs P (t :: ps)

variable {spawn}

theorem Runs.of_perm {P P' ps} (h : Runs spawn P ps) (hp : P'.Perm P) : Runs spawn P' ps := by
  cases h with
  | nil => rw [List.perm_nil.mp hp]; exact Runs.nil
  | cons t hP hr => exact Runs.cons t (hp.trans hP) hr

theorem Runs.nil_inv {ps} (h : Runs spawn ([] : List τ) ps) : ps = [] := by
  cases h with
  | nil => rfl
  | cons t hP hr => exact absurd hP.symm (by intro h; have := h.length_eq; simp at this)

/-- any pending task can be moved to the front of a complete run -/
theorem Runs.pull [DecidableEq τ] {P ps} (h : Runs spawn P ps) :
    ∀ t Q, P.Perm (t :: Q) → ∃ ps', Runs spawn (Q ++ spawn t) ps' ∧ ps.Perm (t :: ps') := by
  induction h with
  | nil => intro t Q hp; have := hp.length_eq; simp at this
  | @cons P R ps0 u hP hr ih =>
    intro t Q hpq
    have huq : (u :: R).Perm (t :: Q) := hP.symm.trans hpq
    by_cases htu : t = u
    · subst htu
      have hRQ : R.Perm Q := List.Perm.cons_inv huq
      exact ⟨ps0, hr.of_perm (List.Perm.append_right _ hRQ.symm), List.Perm.refl _⟩
    · have htR : t ∈ R := (List.mem_cons.mp (huq.symm.subset List.mem_cons_self)).resolve_left htu
      have hR : R.Perm (t :: R.erase t) := List.perm_cons_erase htR
      have hQ : Q.Perm (u :: R.erase t) := by
        have h1 : (t :: Q).Perm (t :: u :: R.erase t) :=
          huq.symm.trans ((List.Perm.cons u hR).trans (List.Perm.swap t u _))
        exact List.Perm.cons_inv h1
      have h2 : (R ++ spawn u).Perm (t :: (R.erase t ++ spawn u)) := by
        simpa using List.Perm.append_right (spawn u) hR
      obtain ⟨ps3, hr3, hp3⟩ := ih t (R.erase t ++ spawn u) h2
      refine ⟨u :: ps3, ?_, ?_⟩
      · refine Runs.cons u (Q := R.erase t ++ spawn t) ?_ (hr3.of_perm ?_)
        · simpa using List.Perm.append_right (spawn t) hQ
        · simp only [List.append_assoc]
          exact List.Perm.append_left _ List.perm_append_comm
      · exact (List.Perm.cons u hp3).trans (List.Perm.swap t u ps3)

/-- **confluence**: two complete runs from the same pending multiset process the same multiset of tasks -/
theorem Runs.confluent [DecidableEq τ] {P ps} (h : Runs spawn P ps) :
    ∀ P' ps', Runs spawn P' ps' → P.Perm P' → ps.Perm ps' := by
  induction h with
  | nil =>
    intro P' ps' h' hp
    cases List.perm_nil.mp hp.symm
    rw [h'.nil_inv]
  | @cons P Q ps0 t hP hr ih =>
    intro P' ps' h' hp
    obtain ⟨ps'', hr'', hp''⟩ := h'.pull t Q (hp.symm.trans hP)
    exact (List.Perm.cons t (ih _ _ hr'' (List.Perm.refl _))).trans hp''.symm

theorem perm_cons_eraseIdx {α} : ∀ (l : List α) (i : Nat) (t : α), l[i]? = some t → l.Perm (t :: l.eraseIdx i)
  | [], i, t, h => by simp at h
  | a :: l, 0, t, h => by simp at h; subst h; simp
  | a :: l, i+1, t, h => by
    simp at h
    have := perm_cons_eraseIdx l i t h
    simpa using (List.Perm.cons a this).trans (List.Perm.swap t a _)

variable (spawn)

theorem stepAt_eq_some {i : Nat} {s s' : St τ π} (h : stepAt out spawn i s = some s') :
    ∃ t, s.pending[i]? = some t ∧ s' = ⟨s.pending.eraseIdx i ++ spawn t, s.collected ++ (out t).toList⟩ := by
  unfold stepAt at h
  split at h
  · cases h
  · next t ht => exact ⟨t, ht, (Option.some.inj h).symm⟩

theorem exec_cons_eq_some {i : Nat} {σ : List Nat} {s s' : St τ π} (h : exec out spawn (i :: σ) s = some s') :
    ∃ s1, stepAt out spawn i s = some s1 ∧ exec out spawn σ s1 = some s' := by
  simp only [exec] at h
  split at h
  · cases h
  · next s1 hs => exact ⟨s1, hs, h⟩

/-- a complete position-schedule is a complete multiset-level run -/
theorem exec_runs : ∀ (σ : List Nat) (s s' : St τ π), exec out spawn σ s = some s' → s'.pending = [] →
    ∃ ps, Runs spawn s.pending ps ∧ s'.collected = s.collected ++ ps.filterMap out
  | [], s, s', h, he => by
    cases h
    exact ⟨[], by rw [he]; exact Runs.nil, (List.append_nil _).symm⟩
  | i :: σ, s, s', h, he => by
    obtain ⟨s1, hs, h⟩ := exec_cons_eq_some out spawn h
    obtain ⟨t, hg, rfl⟩ := stepAt_eq_some out spawn hs
    obtain ⟨ps1, hr1, hc1⟩ := exec_runs σ _ _ h he
    refine ⟨t :: ps1, Runs.cons t (perm_cons_eraseIdx _ _ _ hg) hr1, ?_⟩
    rw [hc1]
    cases ho : out t <;> simp [ho]

/-- the processed tasks of two complete schedules are permutations of each other; so are the collected patches -/
theorem exec_confluent [DecidableEq τ] (σ σ' : List Nat) (s0 : St τ π) (c c' : List π)
    (h : exec out spawn σ s0 = some ⟨[], c⟩) (h' : exec out spawn σ' s0 = some ⟨[], c'⟩) : c.Perm c' := by
  obtain ⟨ps, hr, hc⟩ := exec_runs out spawn σ s0 _ h rfl
  obtain ⟨ps', hr', hc'⟩ := exec_runs out spawn σ' s0 _ h' rfl
  simp only at hc hc'
  rw [hc, hc']
  exact List.Perm.append_left _ ((hr.confluent _ _ hr' (List.Perm.refl _)).filterMap out)

/-- the breadth-first specification is one particular schedule -/
theorem fifo_exec : ∀ (n : Nat) (s : St τ π), ∃ σ, exec out spawn σ s = some (fifo out spawn n s)
  | 0, s => ⟨[], rfl⟩
  | n+1, s => by
    cases hp : s.pending with
    | nil => exact ⟨[], by simp [exec, fifo, hp]⟩
    | cons t rest =>
      obtain ⟨σ, hσ⟩ := fifo_exec n ⟨rest ++ spawn t, s.collected ++ (out t).toList⟩
      refine ⟨0 :: σ, ?_⟩
      simp [exec, stepAt, fifo, hp, hσ]

theorem St.eq_of_pending_nil (s : St τ π) (h : s.pending = []) : s = ⟨[], s.collected⟩ := by
  cases s; cases h; rfl

theorem fifo_exec_complete (n : Nat) (s : St τ π) (hf : (fifo out spawn n s).pending = []) :
    ∃ σ, exec out spawn σ s = some ⟨[], (fifo out spawn n s).collected⟩ :=
  (fifo_exec out spawn n s).imp fun _ hσ => hσ.trans (congrArg some ((fifo out spawn n s).eq_of_pending_nil hf))

/-- every complete schedule collects a permutation of what the breadth-first closure collects -/
theorem exec_perm_fifo [DecidableEq τ] (σ : List Nat) (s0 : St τ π) (c : List π) (n : Nat)
    (h : exec out spawn σ s0 = some ⟨[], c⟩) (hf : (fifo out spawn n s0).pending = []) :
    c.Perm (fifo out spawn n s0).collected :=
  (fifo_exec_complete out spawn n s0 hf).elim fun σ' hσ' => exec_confluent out spawn σ σ' s0 _ _ h hσ'

/-- task-valued schedules are position schedules -/
theorem execTasks_eq_exec [DecidableEq τ] : ∀ (ts : List τ) (s : St τ π),
    execTasks out spawn ts s = exec out spawn (positions out spawn ts s) s
  | [], s => rfl
  | t :: ts, s => by
    simp only [execTasks, positions]
    cases hd : deliver out spawn t s with
    | none =>
      simp only [exec, stepAt]
      simp
    | some s' =>
      simp only [exec]
      have : stepAt out spawn (s.pending.idxOf t) s = some s' := by
        unfold deliver at hd; split at hd
        · exact hd
        · cases hd
      rw [this]
      exact execTasks_eq_exec ts s'

/-! ### termination under a rank -/

variable (rank : τ → Nat) (b : Nat)

def weight (t : τ) : Nat := (b + 1) ^ rank t
def mu (P : List τ) : Nat := (P.map (weight rank b)).sum

theorem mu_append (P Q : List τ) : mu rank b (P ++ Q) = mu rank b P + mu rank b Q := by
  simp [mu, List.sum_append]

theorem mu_eraseIdx (l : List τ) (i : Nat) (t : τ) (h : l[i]? = some t) :
    mu rank b l = weight rank b t + mu rank b (l.eraseIdx i) :=
  ((perm_cons_eraseIdx l i t h).map (weight rank b)).sum_nat.trans List.sum_cons

theorem weight_pos (t : τ) : 0 < weight rank b t := Nat.pow_pos (Nat.succ_pos b)

theorem mu_le_of_rank_lt (r : Nat) (l : List τ) (h : ∀ s ∈ l, rank s < r + 1) : mu rank b l ≤ l.length * (b + 1) ^ r := by
  have := Lists.sum_map_le (f := fun _ => (b + 1) ^ r) (g := weight rank b) (l := l) fun s hs =>
    Nat.pow_le_pow_right (Nat.succ_pos b) (Nat.lt_succ_iff.mp (h s hs))
  rwa [List.map_const', List.sum_replicate_nat] at this

variable (hrank : ∀ t, ∀ s ∈ spawn t, rank s < rank t) (hb : ∀ t, (spawn t).length ≤ b)
include hrank hb

theorem mu_spawn_lt (t : τ) : mu rank b (spawn t) < weight rank b t := by
  cases hr : rank t with
  | zero =>
    have : spawn t = [] := List.eq_nil_iff_forall_not_mem.mpr fun s hs => by have := hrank t s hs; omega
    simp [this, mu, weight, hr]
  | succ r =>
    have h1 := mu_le_of_rank_lt rank b r (spawn t) (fun s hs => by have := hrank t s hs; omega)
    have h2 : (spawn t).length * (b + 1) ^ r ≤ b * (b + 1) ^ r := Nat.mul_le_mul_right _ (hb t)
    have h3 : 0 < (b + 1) ^ r := Nat.pow_pos (Nat.succ_pos b)
    simp only [weight, hr, Nat.pow_succ]
    have : (b + 1) ^ r * (b + 1) = b * (b + 1) ^ r + (b + 1) ^ r := by
      rw [Nat.mul_comm, Nat.succ_mul]
    omega

theorem stepAt_mu (i : Nat) (s s' : St τ π) (h : stepAt out spawn i s = some s') :
    mu rank b s'.pending < mu rank b s.pending := by
  obtain ⟨t, hg, rfl⟩ := stepAt_eq_some out spawn h
  have h1 := mu_eraseIdx rank b _ _ _ hg
  have h2 := mu_spawn_lt spawn rank b hrank hb t
  simp only [mu_append]; omega

/-- no schedule is longer than the initial measure: the main loop cannot run forever -/
theorem exec_length_le : ∀ (σ : List Nat) (s s' : St τ π), exec out spawn σ s = some s' →
    σ.length + mu rank b s'.pending ≤ mu rank b s.pending
  | [], s, s', h => by cases h; exact Nat.le_of_eq (Nat.zero_add _)
  | i :: σ, s, s', h => by
    obtain ⟨s1, hs, h⟩ := exec_cons_eq_some out spawn h
    have h1 := exec_length_le σ _ _ h
    have h2 := stepAt_mu out spawn rank b hrank hb i s s1 hs
    simp only [List.length_cons]; omega

/-- breadth-first delivery with the measure as fuel empties the worklist -/
theorem fifo_complete : ∀ (n : Nat) (s : St τ π), mu rank b s.pending ≤ n → (fifo out spawn n s).pending = []
  | 0, s, h => by
    cases hp : s.pending with
    | nil => simp [fifo, hp]
    | cons t rest =>
      have := weight_pos rank b t
      simp [hp, mu] at h
      omega
  | n+1, s, h => by
    cases hp : s.pending with
    | nil => simp [fifo, hp]
    | cons t rest =>
      simp only [fifo, hp]
      apply fifo_complete n
      have h1 : stepAt out spawn 0 s = some ⟨rest ++ spawn t, s.collected ++ (out t).toList⟩ := by
        simp [stepAt, hp]
      have := stepAt_mu out spawn rank b hrank hb 0 s _ h1
      show mu rank b (rest ++ spawn t) ≤ n
      simp only at this
      omega

end generic

/-! ### the rank of the ComputePatches instance -/

/-- vulnerabilities of the universe `U` not yet named by the task -/
def rankCP (U : List Str) (t : Task) : Nat := (U.filter (fun v => !t.contains v)).length

/-- finiteness hypothesis: every vulnerability a patch can introduce is in `U`, at most `b` at a time -/
def FiniteCP (U : List Str) (b : Nat) (patchFn : Task → Option Patch) : Prop :=
  ∀ t p, patchFn t = some p → (∀ v ∈ p.introduced, v ∈ U) ∧ p.introduced.length ≤ b

theorem outCP_some {patchFn : Task → Option Patch} {t p} (h : outCP patchFn t = some p) : patchFn t = some p ∧ p.updates ≠ [] := by
  unfold outCP at h
  cases hp : patchFn t with
  | none => rw [hp] at h; cases h
  | some q =>
    rw [hp] at h; simp only at h
    split at h
    · cases h
    · rename_i hne; cases h; exact ⟨rfl, by intro he; simp [he] at hne⟩

theorem rankCP_append_lt (U : List Str) (t na : Task) (v : Str) (hv : v ∈ na) (hU : v ∈ U) (hnt : t.contains v = false) :
    rankCP U (t ++ na) < rankCP U t := by
  unfold rankCP
  refine Lists.filter_length_lt _ _ U (fun x _ hx => ?_) v hU (by simp [hv]) (by simpa using hnt)
  simp only [Bool.not_eq_eq_eq_not, Bool.not_true, List.contains_eq_mem, List.mem_append, decide_eq_false_iff_not, not_or] at hx ⊢
  exact hx.1

theorem spawnCP_rank (U : List Str) (b : Nat) (patchFn : Task → Option Patch) (grouped : Bool)
    (hf : FiniteCP U b patchFn) (t : Task) : ∀ s ∈ spawnCP patchFn grouped t, rankCP U s < rankCP U t := by
  intro s hs
  unfold spawnCP at hs
  cases ho : outCP patchFn t with
  | none => rw [ho] at hs; simp at hs
  | some p =>
    rw [ho] at hs; simp only at hs
    obtain ⟨hp, _⟩ := outCP_some ho
    have hU := (hf t p hp).1
    have hna : ∀ v ∈ newlyAdded t p, v ∈ U ∧ t.contains v = false := by
      intro v hv
      simp only [newlyAdded, List.mem_filter, Bool.not_eq_eq_eq_not, Bool.not_true] at hv
      exact ⟨hU v hv.1, hv.2⟩
    split at hs
    · simp at hs
    · rename_i hne
      split at hs
      · simp only [List.mem_singleton] at hs; subst hs
        cases hn : newlyAdded t p with
        | nil => simp [hn] at hne
        | cons v rest =>
          have := hna v (by simp [hn])
          exact rankCP_append_lt U t _ v (by simp) this.1 this.2
      · simp only [List.mem_map] at hs
        obtain ⟨v, hv, rfl⟩ := hs
        have := hna v hv
        exact rankCP_append_lt U t [v] v (by simp) this.1 this.2

theorem spawnCP_length (U : List Str) (b : Nat) (patchFn : Task → Option Patch) (grouped : Bool)
    (hf : FiniteCP U b patchFn) (t : Task) : (spawnCP patchFn grouped t).length ≤ b + 1 := by
  unfold spawnCP
  cases ho : outCP patchFn t with
  | none => simp
  | some p =>
    simp only
    obtain ⟨hp, _⟩ := outCP_some ho
    have hl := (hf t p hp).2
    split
    · simp
    · split
      · simp
      · simp only [List.length_map, newlyAdded]
        have := List.length_filter_le (fun v => !t.contains v) p.introduced
        omega

theorem collected_out (patchFn : Task → Option Patch) (grouped : Bool) (vulns : List Str) (σ : List Nat) (c : List Patch)
    (h : exec (outCP patchFn) (spawnCP patchFn grouped) σ (initCP vulns) = some ⟨[], c⟩) :
    ∀ p ∈ c, ∃ t, outCP patchFn t = some p := by
  obtain ⟨ps, _, hc⟩ := exec_runs _ _ σ _ _ h rfl
  have hc : c = ps.filterMap (outCP patchFn) := hc
  intro p hp
  rw [hc] at hp
  obtain ⟨t, _, ht⟩ := List.mem_filterMap.mp hp
  exact ⟨t, ht⟩

/-- only non-empty patches are ever collected (`if len(patch.PackageUpdates) == 0 { continue }`) -/
theorem collected_ok (patchFn : Task → Option Patch) (grouped : Bool) (vulns : List Str) (σ : List Nat) (c : List Patch)
    (h : exec (outCP patchFn) (spawnCP patchFn grouped) σ (initCP vulns) = some ⟨[], c⟩) :
    ∀ p ∈ c, p.updates ≠ [] := fun p hp =>
  (collected_out patchFn grouped vulns σ c h p hp).elim fun _ ht => (outCP_some ht).2

theorem computePatches_eq_some {patchFn : Task → Option Patch} {grouped : Bool} {vc : Str → Str → Int} {vulns : List Str}
    {σ : List Nat} {r : List Patch} (h : computePatches patchFn grouped vc vulns σ = some r) :
    ∃ c, exec (outCP patchFn) (spawnCP patchFn grouped) σ (initCP vulns) = some ⟨[], c⟩ ∧ r = sortCompact vc c := by
  unfold computePatches at h
  split at h
  · next c he => exact ⟨c, he, (Option.some.inj h).symm⟩
  · cases h

end Scalibr.Worklist
