/-
`ErrorOnFSErrors` is fatal ONLY by failing: for EVERY configuration (limits, cancellation, panicking
extractors), tree and fault plan, a scan with the flag set either ends with the filesystem error (or an
extractor's panic) or is IDENTICAL — error, inventory, statuses, attempts, visited inodes — to the scan
with the flag cleared.  The flag is read at four places (the error report of the iterator, the size stat,
an unreadable `.gitignore` of a directory that is entered or above a requested one); at each the two scans
part only by the fatal one failing, and everything in between passes that on.
-/
import Scalibr.Proofs.WalkFatal
import Scalibr.Proofs.WalkSpec
namespace Scalibr.Walk

/-- the same configuration with `ErrorOnFSErrors` cleared -/
def nonFatal (c : Cfg) : Cfg := { c with errorOnFSErrors := false }

theorem nonFatal_eq (c : Cfg) (h : c.errorOnFSErrors = false) : nonFatal c = c := by
  cases c; simp only [nonFatal] at h ⊢; subst h; rfl

theorem nonFatal_nf (c : Cfg) (hx : NoExtractorPanic c) : NFCfg (nonFatal c) := ⟨rfl, hx⟩

/-- "ended with the filesystem error or a panic, or identical" -/
def FsOrSame (a b : St × Err) : Prop := a.2 = .fs ∨ a.2 = .panic ∨ b = a

theorem FsOrSame.refl (a : St × Err) : FsOrSame a a := .inr (.inr rfl)

theorem FsOrSame.bind {a b : St × Err} (h : FsOrSame a b) {k k' : St → St × Err} (hk : ∀ s, FsOrSame (k s) (k' s)) :
    FsOrSame (if a.2 ≠ .none then a else k a.1) (if b.2 ≠ .none then b else k' b.1) := by
  rcases h with h | h | h
  · exact .inl (by rw [if_pos (by rw [h]; simp)]; exact h)
  · exact .inr (.inl (by rw [if_pos (by rw [h]; simp)]; exact h))
  · rw [h]
    split
    · exact .refl a
    · exact hk a.1

theorem fsOrSame_pop (c : Cfg) (s : St) (p : Path) (e : Err) (h : e = .fs ∨ e = .panic) (b : St × Err) :
    FsOrSame (popOnExit c s p e) b := by
  rcases popOnExit_err c s p e with h1 | h1
  · rcases h with h | h
    · exact .inl (h1.trans h)
    · exact .inr (.inl (h1.trans h))
  · exact .inr (.inl h1)

theorem FsOrSame.pop {a b : St × Err} (h : FsOrSame a b) (c : Cfg) (p : Path) :
    FsOrSame (popOnExit c a.1 p a.2) (popOnExit c b.1 p b.2) := by
  rcases h with h | h | h
  · exact fsOrSame_pop c a.1 p a.2 (.inl h) _
  · exact fsOrSame_pop c a.1 p a.2 (.inr h) _
  · rw [h]; exact .refl _

/-! what does not read the flag is the same function for both configurations.  (Proved as `Eq.trans rfl rfl`, not
`rfl`: a `rfl` lemma is applied by `simp only` definitionally, which leaves the occurrences inside a `match` motive
as they are, and the `rcases` on `prologue c s` that follows then fails; as ordinary rewrite rules they reach them.) -/
theorem nf_eofs (c : Cfg) : (nonFatal c).errorOnFSErrors = false := Eq.trans rfl rfl
theorem nf_useGitignore (c : Cfg) : (nonFatal c).useGitignore = c.useGitignore := Eq.trans rfl rfl
theorem nf_nExt (c : Cfg) : (nonFatal c).nExt = c.nExt := Eq.trans rfl rfl
theorem nf_paths (c : Cfg) : (nonFatal c).paths = c.paths := Eq.trans rfl rfl
theorem nf_prologue (c : Cfg) (s : St) : prologue (nonFatal c) s = prologue c s := Eq.trans rfl rfl
theorem nf_popOnExit (c : Cfg) (s : St) (p : Path) (e : Err) : popOnExit (nonFatal c) s p e = popOnExit c s p e := Eq.trans rfl rfl
theorem nf_shouldSkipDir (c : Cfg) (g : List GiEntry) (p : Path) : shouldSkipDir (nonFatal c) g p = shouldSkipDir c g p := Eq.trans rfl rfl
theorem nf_runExtractor (c : Cfg) (f : Faults) (s : St) (e : Nat) (p : Path) (sz : Nat) :
    runExtractor (nonFatal c) f s e p sz = runExtractor c f s e p sz := Eq.trans rfl rfl

theorem nf_runAll (c : Cfg) (f : Faults) (p : Path) (sz : Nat) : ∀ (es : List Nat) (s : St),
    runAll (nonFatal c) f p sz s es = runAll c f p sz s es
  | [], _ => rfl
  | e :: rest, s => by simp only [runAll, nf_runExtractor, nf_runAll c f p sz rest]

theorem fserrCall_eofs (c : Cfg) (he : c.errorOnFSErrors = true) (s : St) :
    FsOrSame (fserrCall c s) (fserrCall (nonFatal c) s) := by
  unfold fserrCall
  rw [nf_prologue]
  rcases prologue c s with ⟨s1, _ | e⟩
  · exact .inl (by simp [he])
  · exact .refl _

theorem walkFile_eofs (c : Cfg) (he : c.errorOnFSErrors = true) (f : Faults) (s : St) (p : Path) (k : Kind) (sz : Nat) :
    FsOrSame (walkNode c f s p (.file k sz)) (walkNode (nonFatal c) f s p (.file k sz)) := by
  simp only [walkNode, nf_prologue]
  rcases prologue c s with ⟨s1, _ | e⟩
  · simp only []
    rw [handleLeaf_eq c f s1.gis s1 p k sz (fun _ => rfl), handleLeaf_eq (nonFatal c) f s1.gis s1 p k sz (fun _ => rfl),
      nf_runAll, nf_eofs, he]
    have htf : traversalFault (nonFatal c) f s1.gis p (.file k sz) = traversalFault c f s1.gis p (.file k sz) := rfl
    have hex : mustExts (nonFatal c) f s1.gis ⟨p, k, sz, []⟩ = mustExts c f s1.gis ⟨p, k, sz, []⟩ := rfl
    rw [htf, hex]
    split
    · exact .inl rfl
    · exact .refl _
  · exact .refl _

theorem pushGi_eofs (c : Cfg) (he : c.errorOnFSErrors = true) (f : Faults) (s : St) (p : Path) (gi : Option PatSet) :
    (pushGi c f s p gi).2 = some .fs ∨ pushGi (nonFatal c) f s p gi = pushGi c f s p gi := by
  have hex : excludedDir (nonFatal c) s.gis p = excludedDir c s.gis p := rfl
  rw [pushGi_eq, pushGi_eq, nf_useGitignore, nf_eofs, he, hex]
  cases c.useGitignore <;> cases excludedDir c s.gis p <;> cases f.openFail (p ++ [".gitignore"]) <;> simp

mutual
theorem walkNode_eofs (c : Cfg) (he : c.errorOnFSErrors = true) (f : Faults) (p : Path) :
    ∀ (n : Node) (s : St), FsOrSame (walkNode c f s p n) (walkNode (nonFatal c) f s p n)
  | .file k size, s => walkFile_eofs c he f s p k size
  | .dir gi es, s => by
    simp only [walkNode, nf_prologue, nf_popOnExit, nf_shouldSkipDir]
    rcases prologue c s with ⟨s1, _ | e⟩
    · simp only []
      rcases pushGi_eofs c he f s1 p gi with h | h
      · generalize pushGi c f s1 p gi = y at h ⊢
        obtain ⟨s2, e2⟩ := y
        simp only [] at h; subst h
        exact fsOrSame_pop c s2 p .fs (.inl rfl) _
      · rw [h]
        rcases pushGi c f s1 p gi with ⟨s2, _ | e2⟩
        · simp only []
          split
          · exact .refl _
          · split
            · exact (fserrCall_eofs c he s2).pop c p
            · exact (walkEntries_eofs c he f p es 0 s2).pop c p
        · exact .refl _
    · exact .refl _
theorem walkEntries_eofs (c : Cfg) (he : c.errorOnFSErrors = true) (f : Faults) (p : Path) :
    ∀ (es : List (String × Node)) (k : Nat) (s : St), FsOrSame (walkEntries c f s p es k) (walkEntries (nonFatal c) f s p es k)
  | [], k, s => by
    simp only [walkEntries]
    split
    · exact fserrCall_eofs c he s
    · exact .refl _
  | (name, n) :: rest, k, s => by
    simp only [walkEntries]
    split
    · exact fserrCall_eofs c he s
    · exact (walkNode_eofs c he f (p ++ [name]) n s).bind fun s1 => walkEntries_eofs c he f p rest (k+1) s1
end

theorem FsOrSame.setGis {a b : St × Err} (h : FsOrSame a b) (g : List GiEntry) :
    FsOrSame ({ a.1 with gis := g }, a.2) ({ b.1 with gis := g }, b.2) := by
  rcases h with h | h | h
  · exact .inl h
  · exact .inr (.inl h)
  · rw [h]; exact .refl _

theorem walkRequested_eofs (c : Cfg) (he : c.errorOnFSErrors = true) (f : Faults) (root : Node) (p : Path) (s : St) :
    FsOrSame (walkRequested c f s root p) (walkRequested (nonFatal c) f s root p) := by
  rw [walkRequested_eq, walkRequested_eq, nf_useGitignore, nf_eofs, he]
  split
  · exact fserrCall_eofs c he s
  · cases lookup root p with
    | none => exact fserrCall_eofs c he s
    | some n =>
      cases n with
      | file k sz => exact walkFile_eofs c he f s p (statKind k) sz
      | dir gi es =>
        simp only [Bool.and_true, Bool.and_false, Bool.false_eq_true, if_false]
        split
        · exact .inl rfl
        · exact (walkNode_eofs c he f p _ _).setGis []

theorem walkPaths_eofs (c : Cfg) (he : c.errorOnFSErrors = true) (f : Faults) (root : Node) :
    ∀ (ps : List Path) (s : St), FsOrSame (walkPaths c f root s ps) (walkPaths (nonFatal c) f root s ps)
  | [], s => .refl _
  | p :: rest, s => by
    simp only [walkPaths]
    exact (walkRequested_eofs c he f root p s).bind fun s1 => walkPaths_eofs c he f root rest s1

theorem runRoot_eofs (c : Cfg) (he : c.errorOnFSErrors = true) (f : Faults) (root : Node) (s : St) :
    FsOrSame (runRoot c f s root) (runRoot (nonFatal c) f s root) := by
  rw [runRoot_eq, runRoot_eq, nf_paths]
  split
  · split
    · exact fserrCall_eofs c he _
    · exact walkNode_eofs c he f [] root _
  · exact walkPaths_eofs c he f root _ _

theorem runRoots_eofs (c : Cfg) (he : c.errorOnFSErrors = true) :
    ∀ (roots : List (Node × Faults)) (s : St) (acc : List Pkg) (sts : List (Nat × Status)),
      (runRoots c s acc sts roots).err = .fs ∨ (runRoots c s acc sts roots).err = .panic ∨
      runRoots (nonFatal c) s acc sts roots = runRoots c s acc sts roots
  | [], s, acc, sts => .inr (.inr rfl)
  | (r, f) :: rest, s, acc, sts => by
    simp only [runRoots, nf_nExt]
    rcases runRoot_eofs c he f r s with h | h | h
    · left
      generalize runRoot c f s r = z at h ⊢
      obtain ⟨s1, e1⟩ := z
      simp only [] at h; subst h; simp
    · right; left
      generalize runRoot c f s r = z at h ⊢
      obtain ⟨s1, e1⟩ := z
      simp only [] at h; subst h; simp
    · rw [h]
      generalize runRoot c f s r = z
      obtain ⟨s1, e1⟩ := z
      simp only []
      split
      · exact .inr (.inr rfl)
      · exact runRoots_eofs c he rest s1 _ _

end Scalibr.Walk
