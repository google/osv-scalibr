/-
"Exactly once" for (extractor, file) PAIRS, and the anchoring of `allFiles`: on a tree whose directories
list distinct names, `allFiles` enumerates exactly the non-directory nodes `lookup` finds.
-/
import Scalibr.Proofs.WalkMore
import Scalibr.Proofs.WalkInv
namespace Scalibr.Walk

/-- **Exactly once, per (extractor, file) pair**: on a tree whose directories list distinct names, no pair is
owed twice within one walk. -/
theorem mustFrom_keys_nodup (c : Cfg) (f : Faults) (above : List GiEntry) (p : Path) (n : Node) (h : DistinctNames n) :
    ((mustFrom c f above p n).map callKey).Nodup :=
  mustFlat_keys_nodup c f above p [] n h

/-- … hence no pair is ATTEMPTED twice by a benign whole-tree scan of such a tree. -/
theorem run_keys_nodup (c : Cfg) (hb : Benign c) (ho : GiOK c) (hp : c.paths = []) (root : Node) (f : Faults)
    (h : DistinctNames root) : ((run c [(root, f)]).calls.map callKey).Nodup := by
  rw [(run_spec c hb [(root, f)] ho).2]
  simp only [mustExtract, List.flatMap_cons, List.flatMap_nil, List.append_nil, mustRoot, hp, List.isEmpty_nil, if_true]
  split
  · exact List.nodup_nil
  · exact mustFrom_keys_nodup c f [] [] root h

/-! ### `allFiles` enumerates exactly the non-directory nodes of the tree -/

/-- every file `lookup` finds is enumerated (any tree) -/
theorem allFiles_complete (root : Node) (q : Path) (k : Kind) (sz : Nat) (h : lookup root q = some (.file k sz)) :
    ∃ r ∈ allFiles [] [] root, r.path = q ∧ r.kind = k ∧ r.size = sz := by
  obtain ⟨r', hr', he⟩ := allFiles_of_lookup q [] [] [] root (.file k sz) h ⟨q, k, sz, []⟩ (by simp [allFiles])
  simp only [lite, Prod.mk.injEq] at he
  exact ⟨r', hr', he.1, he.2.1, he.2.2⟩

theorem find_of_nodup (s : String) (ch : Node) : ∀ (es : List (String × Node)), (es.map (·.1)).Nodup → (s, ch) ∈ es →
    es.find? (·.1 = s) = some (s, ch)
  | [], _, h => by cases h
  | (t, n) :: rest, hnd, h => by
    simp only [List.map_cons, List.nodup_cons] at hnd
    rcases List.mem_cons.mp h with h | h
    · injection h with h1 h2; subst h1 h2; simp
    · have hne : t ≠ s := by
        intro he; subst he
        exact hnd.1 (List.mem_map.mpr ⟨(t, ch), h, rfl⟩)
      rw [List.find?_cons_of_neg (by simpa using hne)]
      exact find_of_nodup s ch rest hnd.2 h

mutual
theorem allFiles_sound (p : Path) (anc : List DirInfo) :
    ∀ (n : Node), DistinctNames n → ∀ r ∈ allFiles p anc n, ∃ q, r.path = p ++ q ∧ lookup n q = some (.file r.kind r.size)
  | .file k sz, _, r, hr => by
    simp only [allFiles, List.mem_singleton] at hr
    subst hr; exact ⟨[], by simp, rfl⟩
  | .dir gi es, h, r, hr => by
    simp only [allFiles] at hr
    unfold DistinctNames at h
    obtain ⟨s, ch, q, hmem, hp, hl⟩ := allFilesList_sound p gi anc es 0 h.2 r hr
    refine ⟨s :: q, by simpa using hp, ?_⟩
    simp only [lookup, find_of_nodup s ch es h.1 hmem]
    exact hl
theorem allFilesList_sound (p : Path) (gi : Option PatSet) (anc : List DirInfo) :
    ∀ (es : List (String × Node)) (i : Nat), DistinctNamesL es → ∀ r ∈ allFilesList p gi anc es i,
      ∃ s ch q, (s, ch) ∈ es ∧ r.path = p ++ [s] ++ q ∧ lookup ch q = some (.file r.kind r.size)
  | [], _, _, r, hr => by simp [allFilesList] at hr
  | (s, n) :: rest, i, hd, r, hr => by
    simp only [allFilesList, List.mem_append] at hr
    unfold DistinctNamesL at hd
    rcases hr with hr | hr
    · obtain ⟨q, hp, hl⟩ := allFiles_sound (p ++ [s]) _ n hd.1 r hr
      exact ⟨s, n, q, by simp, hp, hl⟩
    · obtain ⟨t, ch, q, hmem, hp, hl⟩ := allFilesList_sound p gi anc rest (i+1) hd.2 r hr
      exact ⟨t, ch, q, by simp [hmem], hp, hl⟩
end

/-- **`allFiles` is exactly the set of files of the tree**: on a tree whose directories list distinct names,
`q` leads to a non-directory node of kind `k` and size `sz` iff the enumeration has a record with that path,
kind and size. (Without distinct names `lookup` only sees the first of two equally named entries; the
enumeration — like the walk — sees both: `allFiles_complete` needs no hypothesis.) -/
theorem allFiles_iff_lookup (root : Node) (h : DistinctNames root) (q : Path) (k : Kind) (sz : Nat) :
    lookup root q = some (.file k sz) ↔ ∃ r ∈ allFiles [] [] root, r.path = q ∧ r.kind = k ∧ r.size = sz := by
  constructor
  · exact allFiles_complete root q k sz
  · rintro ⟨r, hr, rfl, rfl, rfl⟩
    obtain ⟨q, hp, hl⟩ := allFiles_sound [] [] root h r hr
    simp only [List.nil_append] at hp
    rw [hp]; exact hl

/-! ### no package is reported twice unless two `Extract` results contain it -/

theorem mem_pkgsOfCalls (c : Cfg) (cs : List Call) (x : Pkg) (h : x ∈ pkgsOfCalls c cs) :
    ∃ cl ∈ cs, cl.opened = true ∧ cl.ext = x.ext ∧ cl.path = x.loc ∧ x.id ∈ (c.extract cl.ext cl.path).pkgs := by
  simp only [pkgsOfCalls, List.mem_flatMap] at h
  obtain ⟨cl, hcl, hx⟩ := h
  split at hx
  · rename_i ho
    obtain ⟨i, hi, rfl⟩ := List.mem_map.mp hx
    exact ⟨cl, hcl, ho, rfl, rfl, hi⟩
  · cases hx

/-- if no (extractor, file) pair has two `Extract` invocations and no single `Extract` result lists a package
twice, the inventory lists no package twice -/
theorem pkgsOfCalls_nodup (c : Cfg) (hx : ∀ e p, (c.extract e p).pkgs.Nodup) :
    ∀ (cs : List Call), ((cs.filter (·.opened)).map callKey).Nodup → (pkgsOfCalls c cs).Nodup
  | [], _ => by simp [pkgsOfCalls]
  | cl :: rest, h => by
    have hrest : ((rest.filter (·.opened)).map callKey).Nodup := by
      simp only [List.filter_cons] at h
      split at h
      · exact (List.nodup_cons.mp h).2
      · exact h
    have ih := pkgsOfCalls_nodup c hx rest hrest
    have hsplit : pkgsOfCalls c (cl :: rest) = pkgsOfCalls c [cl] ++ pkgsOfCalls c rest := by
      rw [← pkgsOfCalls_append]; rfl
    rw [hsplit, List.nodup_append]
    refine ⟨?_, ih, ?_⟩
    · simp only [pkgsOfCalls, List.flatMap_cons, List.flatMap_nil, List.append_nil]
      split
      · exact List.Pairwise.map _ (fun a b hne he => hne (by injection he)) (hx cl.ext cl.path)
      · exact List.nodup_nil
    · intro a ha b hb hab
      subst hab
      obtain ⟨cl1, hc1, ho1, he1, hp1, _⟩ := mem_pkgsOfCalls c [cl] a ha
      obtain ⟨cl2, hc2, ho2, he2, hp2, _⟩ := mem_pkgsOfCalls c rest a hb
      simp only [List.mem_singleton] at hc1
      subst hc1
      simp only [List.filter_cons, ho1, if_true, List.map_cons, List.nodup_cons] at h
      apply h.1
      exact List.mem_map.mpr ⟨cl2, List.mem_filter.mpr ⟨hc2, by simpa using ho2⟩, by simp [callKey, he1, he2, hp1, hp2]⟩

theorem keys_nodup_filter {l : List Call} (h : (l.map callKey).Nodup) (q : Call → Bool) : ((l.filter q).map callKey).Nodup :=
  List.Nodup.sublist (List.Sublist.map _ List.filter_sublist) h

/-- **No package is reported twice unless two `Extract` results contain it**: in a benign whole-tree scan of
a tree with distinct sibling names, if no single `Extract` result lists a package twice then neither does
the scan. (With several roots, or a path requested twice, the same relative path is legitimately extracted
once per root / request: `C08_roots_benign` says the result is the concatenation.) -/
theorem run_pkgs_nodup (c : Cfg) (hb : Benign c) (ho : GiOK c) (hp : c.paths = []) (root : Node) (f : Faults)
    (h : DistinctNames root) (hx : ∀ e p, (c.extract e p).pkgs.Nodup) : (run c [(root, f)]).pkgs.Nodup := by
  have hk := run_keys_nodup c hb ho hp root f h
  rw [(run_results c hb [(root, f)] ho).1, ← (run_spec c hb [(root, f)] ho).2]
  exact pkgsOfCalls_nodup c hx _ (keys_nodup_filter hk _)

end Scalibr.Walk
