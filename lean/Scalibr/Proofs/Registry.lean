/-
Helper lemmas for C19: the filter loop is `List.filter`, the auto-enabling loops keep the invariant
"everything enabled so far validates", the executable `requiredOKB` decides `requiredOK`, and `TableOK`: the few
facts about a name table and its `All` table, established by one pass (`tableCheck`), from which everything said
about the regenerated registry follows.
-/
import Scalibr.Spec.Registry
import Scalibr.Base.Keyed
import Scalibr.Proofs.Lists
namespace Scalibr.Registry

theorem lookup_mem (t : Table) (n : String) (v : List Plugin) (h : t.lookup n = some v) : (n, v) ∈ t := by
  obtain ⟨l₁, l₂, rfl, _⟩ := List.lookup_eq_some_iff.mp h
  simp

theorem mem_lookup (t : Table) (n : String) (v : List Plugin) (hk : KeysNodup t) (h : (n, v) ∈ t) : t.lookup n = some v := by
  obtain ⟨l₁, l₂, rfl⟩ := List.append_of_mem h
  refine List.lookup_eq_some_iff.mpr ⟨l₁, l₂, rfl, fun p hp => ?_⟩
  simp only [KeysNodup, List.map_append, List.map_cons, List.nodup_append, List.nodup_cons] at hk
  simpa [bne_iff_ne] using fun e : n = p.1 => hk.2.2 _ (List.mem_map.mpr ⟨p, hp, rfl⟩) _ List.mem_cons_self e.symm

/-- the model's exact-name lookup only ever returns what the specification calls registered under that name … -/
theorem fromName_ok_registered (t : Table) (n : String) (p : Plugin) (h : fromName t n = .ok p) : RegisteredAs t n p := by
  unfold fromName at h
  split at h
  · cases h
  · rename_i ms hl
    split at h
    · rename_i e
      split at h
      · cases h
      · rename_i hn
        cases h
        exact ⟨lookup_mem t n _ hl, Decidable.of_not_not hn⟩
    · cases h

/-- … and, keys being distinct, returns it -/
theorem registered_fromName_ok (t : Table) (n : String) (p : Plugin) (hk : KeysNodup t) (h : RegisteredAs t n p) :
    fromName t n = .ok p := by
  unfold fromName
  rw [mem_lookup t n [p] hk h.1]
  simp [h.2]

theorem fromName_name (t : Table) (e : String) (x : Plugin) (h : fromName t e = .ok x) : x.name = e :=
  (fromName_ok_registered t e x h).2

theorem mem_allCaps (c : Caps) : c ∈ allCaps := by
  obtain ⟨o, n, d, r⟩ := c
  simp only [allCaps, List.mem_flatMap, List.mem_map]
  exact ⟨o, by cases o <;> decide, n, by cases n <;> decide, d, by cases d <;> decide, r, by cases r <;> decide, rfl⟩

theorem isEmpty_snoc_if {α} (c : Prop) [Decidable c] (l : List α) (x : α) :
    (if c then l ++ [x] else l).isEmpty = (l.isEmpty && !decide c) := by
  by_cases h : c <;> simp [h]

/-- `ValidateRequirements` returns nil exactly when the environment satisfies the requirements: each of its four
stages appends at most one complaint, so the list is empty iff no stage fires, and a stage fires iff the
corresponding conjunct of `satisfied` fails -/
theorem validate_eq_satisfied (req caps : Caps) : validate req caps = satisfied req caps := by
  obtain ⟨ro, rn, rd, rr⟩ := req
  obtain ⟨co, cn, cd, cr⟩ := caps
  have hnet : ∀ (l : List ReqErr), (if cn = .offline then l ++ [ReqErr.needsNetwork] else l ++ [.onlyOffline])
      = l ++ [if cn = .offline then .needsNetwork else .onlyOffline] := fun l => by split <;> rfl
  simp only [validate, validateErrs, satisfied, hnet, isEmpty_snoc_if]
  congr 1
  · congr 1
    · congr 1
      · cases ro <;> cases co <;> rfl
      · cases rn <;> cases cn <;> rfl
    · cases rd <;> cases cd <;> rfl
  · cases rr <;> cases cr <;> rfl

theorem filterLoop_eq (caps : Caps) (exs acc : List Plugin) :
    filterLoop caps exs acc = acc ++ exs.filter (fun p => validate p.req caps) := by
  fun_induction filterLoop caps exs acc with
  | case1 => simp
  | case2 ex exs result ih => rw [ih, List.filter_cons]; split <;> simp

/-- what an exact-name lookup contributes to a list of extractors -/
def found (r : Except NameErr Plugin) : List Plugin :=
  match r with
  | .ok x => [x]
  | .error _ => []

theorem mem_found {r : Except NameErr Plugin} {x : Plugin} : x ∈ found r ↔ r = .ok x := by
  cases r <;> simp [found, eq_comm]

theorem enableOne_eq (fsT stT : Table) (c : Cfg) (e : String) : enableOne fsT stT c e =
    if c.enabled.contains e then .ok c
    else if found (fromName fsT e) ++ found (fromName stT e) = [] then .error e
    else .ok ⟨c.fs ++ found (fromName fsT e), c.st ++ found (fromName stT e), e :: c.enabled⟩ := by
  unfold enableOne
  split
  · rfl
  · cases fromName fsT e <;> cases fromName stT e <;> simp [found]

/-- invariant of the auto-enabling loops: every enabled extractor validates under `caps` -/
def Good (caps : Caps) (c : Cfg) : Prop :=
  (∀ p ∈ c.fs, satisfied p.req caps = true) ∧ (∀ p ∈ c.st, satisfied p.req caps = true)

theorem enableOne_good (fsT stT : Table) (caps dreq : Caps) (c : Cfg) (e : String) (hk : KeysNodup fsT ∧ KeysNodup stT)
    (hg : Good caps c) (hd : satisfied dreq caps = true) (hr : requiredOK fsT stT dreq e) :
    ∃ c', enableOne fsT stT c e = .ok c' ∧ Good caps c' := by
  obtain ⟨hex, hfs, hst⟩ := hr
  rw [enableOne_eq]
  split
  · exact ⟨c, rfl, hg⟩
  · -- the specification speaks of what is registered, the loop consults `fromName`: the same for distinct keys
    have hne : found (fromName fsT e) ++ found (fromName stT e) ≠ [] := by
      rcases hex with ⟨x, hx⟩ | ⟨x, hx⟩
      · simp [registered_fromName_ok _ _ _ hk.1 hx, found]
      · simp [registered_fromName_ok _ _ _ hk.2 hx, found]
    rw [if_neg hne]
    refine ⟨_, rfl, fun p hp => ?_, fun p hp => ?_⟩
    · rcases List.mem_append.mp hp with hp | hp
      · exact hg.1 p hp
      · exact hfs p (fromName_ok_registered _ _ _ (mem_found.mp hp)) caps hd
    · rcases List.mem_append.mp hp with hp | hp
      · exact hg.2 p hp
      · exact hst p (fromName_ok_registered _ _ _ (mem_found.mp hp)) caps hd

/-- the two nested loops are one loop over all required names -/
theorem enableList_append (fsT stT : Table) (a b : List String) (c : Cfg) :
    enableList fsT stT c (a ++ b) =
      match enableList fsT stT c a with
      | .ok c' => enableList fsT stT c' b
      | .error x => .error x := by
  induction a generalizing c with
  | nil => rfl
  | cons e es ih => simp only [List.cons_append, enableList]; cases enableOne fsT stT c e <;> simp [ih]

theorem enableDets_eq (fsT stT : Table) (ds : List Plugin) (c : Cfg) :
    enableDets fsT stT c ds = enableList fsT stT c (ds.flatMap (·.required)) := by
  induction ds generalizing c with
  | nil => rfl
  | cons d ds ih => rw [List.flatMap_cons, enableList_append, enableDets]; cases enableList fsT stT c d.required <;> simp [ih]

theorem enableList_good (fsT stT : Table) (caps : Caps) (es : List String) (c : Cfg) (hk : KeysNodup fsT ∧ KeysNodup stT)
    (hg : Good caps c) (hr : ∀ e ∈ es, ∃ dreq, satisfied dreq caps = true ∧ requiredOK fsT stT dreq e) :
    ∃ c', enableList fsT stT c es = .ok c' ∧ Good caps c' := by
  induction es generalizing c with
  | nil => exact ⟨c, rfl, hg⟩
  | cons e es ih =>
    obtain ⟨dreq, hd, hre⟩ := hr e (by simp)
    obtain ⟨c1, h1, g1⟩ := enableOne_good fsT stT caps dreq c e hk hg hd hre
    obtain ⟨c2, h2, g2⟩ := ih c1 g1 (fun e' he' => hr e' (by simp [he']))
    exact ⟨c2, by simp only [enableList, h1, h2], g2⟩

theorem validateAll_nil (ps : List Plugin) (caps : Caps) (h : ∀ p ∈ ps, satisfied p.req caps = true) :
    validateAll ps caps = [] := by
  unfold validateAll
  rw [List.map_eq_nil_iff, List.filter_eq_nil_iff]
  intro p hp
  simp [validate_eq_satisfied, h p hp]

/-- the executable check decides the SPECIFICATION (tables with distinct keys) -/
theorem requiredOK_of_B (fsT stT : Table) (dreq : Caps) (e : String) (hf : KeysNodup fsT) (hs : KeysNodup stT)
    (h : requiredOKB fsT stT dreq e = true) : requiredOK fsT stT dreq e := by
  unfold requiredOKB at h
  simp only [Bool.and_eq_true, Bool.or_eq_true] at h
  obtain ⟨⟨hex, h1⟩, h2⟩ := h
  have ex : ∀ t, (match fromName t e with | .ok _ => true | .error _ => false) = true → ∃ x, RegisteredAs t e x := by
    intro t hr
    cases hx : fromName t e with
    | ok x => exact ⟨x, fromName_ok_registered t e x hx⟩
    | error a => rw [hx] at hr; cases hr
  have ok : ∀ t, KeysNodup t →
      (match fromName t e with
        | .ok x => allCaps.all fun caps => !satisfied dreq caps || satisfied x.req caps
        | .error _ => true) = true →
      ∀ x, RegisteredAs t e x → ∀ caps, satisfied dreq caps = true → satisfied x.req caps = true := by
    intro t hk hr x hx caps hs
    rw [registered_fromName_ok t e x hk hx] at hr
    simpa [hs] using List.all_eq_true.mp hr caps (mem_allCaps caps)
  exact ⟨hex.imp (ex _) (ex _), ok _ hf h1, ok _ hs h2⟩

/-! ### `…FromNames` computes the set union of the single resolutions, nothing twice -/

def InTable (t : Table) (p : Plugin) : Prop := ∃ kv ∈ t, p ∈ kv.2

theorem addAll_spec (t : Table) (hdet : NameDetermines t) (ms : List Plugin) (res : List Plugin)
    (hnd : (res.map (·.name)).Nodup) (hres : ∀ p ∈ res, InTable t p) (hms : ∀ p ∈ ms, InTable t p) :
    ((addAll res ms).map (·.name)).Nodup ∧ (∀ p ∈ addAll res ms, InTable t p) ∧
    ∀ p, p ∈ addAll res ms ↔ p ∈ res ∨ p ∈ ms := by
  induction ms generalizing res with
  | nil => exact ⟨hnd, hres, fun p => by simp [addAll]⟩
  | cons e es ih =>
    have he := hms e (by simp)
    have hes : ∀ p ∈ es, InTable t p := fun p hp => hms p (by simp [hp])
    unfold addAll
    split
    · -- a plugin of that name is there already: by `hdet` it is `e` itself, and nothing changes
      rename_i hany
      obtain ⟨r, hr, hname⟩ := List.any_eq_true.1 hany
      obtain ⟨kv, hkv, hp⟩ := hres r hr
      obtain ⟨kw, hkw, hq⟩ := he
      obtain rfl : r = e := hdet kv hkv kw hkw r hp e hq (by simpa using hname)
      obtain ⟨i1, i2, i3⟩ := ih res hnd hres hes
      refine ⟨i1, i2, fun p => ?_⟩
      rw [i3, List.mem_cons]
      exact ⟨fun h => h.imp_right Or.inr, fun h => h.elim Or.inl (·.elim (· ▸ Or.inl hr) Or.inr)⟩
    · rename_i hany
      have hno : ∀ r ∈ res, r.name ≠ e.name := fun r hr hn =>
        hany (List.any_eq_true.2 ⟨r, hr, by simpa using hn⟩)
      obtain ⟨i1, i2, i3⟩ := ih (res ++ [e])
        (by rw [List.map_append, List.nodup_append]
            exact ⟨hnd, by simp, by simpa using fun r hr => hno r hr⟩)
        (fun p hp => (List.mem_append.mp hp).elim (hres p) fun h => List.mem_singleton.mp h ▸ he) hes
      refine ⟨i1, i2, fun p => ?_⟩
      rw [i3]; simp [or_assoc]

theorem fromNamesLoop_spec (t : Table) (hk : KeysNodup t) (hdet : NameDetermines t) (names : List String) (res r : List Plugin)
    (hnd : (res.map (·.name)).Nodup) (hres : ∀ p ∈ res, InTable t p) (h : fromNamesLoop t names res = .ok r) :
    (r.map (·.name)).Nodup ∧ ∀ p, p ∈ r ↔ p ∈ res ∨ ∃ n ∈ names, ListedUnder t n p := by
  induction names generalizing res with
  | nil =>
    simp only [fromNamesLoop] at h
    cases h
    exact ⟨hnd, fun p => by simp⟩
  | cons n ns ih =>
    unfold fromNamesLoop at h
    cases hl : t.lookup n with
    | none => rw [hl] at h; cases h
    | some ms =>
      rw [hl] at h
      have hmem : (n, ms) ∈ t := lookup_mem t n ms hl
      have hlu : ∀ p, ListedUnder t n p ↔ p ∈ ms := fun p =>
        ⟨fun ⟨ms', hm', hp⟩ => by rw [mem_lookup t n ms' hk hm'] at hl; cases hl; exact hp, fun hp => ⟨ms, hmem, hp⟩⟩
      obtain ⟨a1, a2, a3⟩ := addAll_spec t hdet ms res hnd hres fun p hp => ⟨(n, ms), hmem, hp⟩
      obtain ⟨i1, i2⟩ := ih (addAll res ms) a1 a2 h
      exact ⟨i1, fun p => by rw [i2 p, a3 p]; simp [hlu, or_assoc]⟩

/-! ### auto-enabling never enables a name twice -/

/-- invariant of the auto-enabling loops: no name twice in either list, and `enabled` is exactly the set of enabled names -/
structure EnInv (c : Cfg) : Prop where
  fsNodup : (c.fs.map (·.name)).Nodup
  stNodup : (c.st.map (·.name)).Nodup
  sound : ∀ n, n ∈ c.fs.map (·.name) ∨ n ∈ c.st.map (·.name) → n ∈ c.enabled
  complete : ∀ n ∈ c.enabled, n ∈ c.fs.map (·.name) ∨ n ∈ c.st.map (·.name)

theorem mem_names_append_found (t : Table) (e : String) (l : List Plugin) (n : String) :
    n ∈ (l ++ found (fromName t e)).map (·.name) ↔ n ∈ l.map (·.name) ∨ (n = e ∧ found (fromName t e) ≠ []) := by
  cases h : fromName t e with
  | error a => simp [found]
  | ok x => simp [found, fromName_name t e x h, eq_comm]

theorem nodup_append_found (t : Table) (e : String) (l : List Plugin) (h : (l.map (·.name)).Nodup)
    (he : e ∉ l.map (·.name)) : ((l ++ found (fromName t e)).map (·.name)).Nodup := by
  cases hx : fromName t e with
  | error a => simpa [found] using h
  | ok x =>
    rw [List.map_append, List.nodup_append]
    refine ⟨h, by simp [found], fun a ha b hb => ?_⟩
    simp only [found, List.map_cons, List.map_nil, List.mem_singleton] at hb
    rw [hb, fromName_name t e x hx]
    exact fun hab => he (hab ▸ ha)

theorem enableOne_inv (fsT stT : Table) (c c' : Cfg) (e : String) (hi : EnInv c) (h : enableOne fsT stT c e = .ok c') :
    EnInv c' ∧ c.fs <+: c'.fs ∧ c.st <+: c'.st ∧ (∀ n ∈ c.enabled, n ∈ c'.enabled) ∧ e ∈ c'.enabled := by
  rw [enableOne_eq] at h
  split at h
  · rename_i hc
    cases h
    exact ⟨hi, List.prefix_refl _, List.prefix_refl _, fun n hn => hn, by simpa using hc⟩
  · rename_i hc
    have hne : e ∉ c.enabled := by simpa using hc
    split at h
    · cases h
    · rename_i hfound
      cases h
      refine ⟨⟨nodup_append_found fsT e c.fs hi.fsNodup fun hm => hne (hi.sound e (Or.inl hm)),
          nodup_append_found stT e c.st hi.stNodup fun hm => hne (hi.sound e (Or.inr hm)), fun n hn => ?_, fun n hn => ?_⟩,
        List.prefix_append _ _, List.prefix_append _ _, fun n hn => List.mem_cons_of_mem _ hn, List.mem_cons_self⟩
      · simp only [mem_names_append_found] at hn
        rcases hn with (hn | hn) | (hn | hn)
        · exact List.mem_cons_of_mem _ (hi.sound n (Or.inl hn))
        · exact hn.1 ▸ List.mem_cons_self
        · exact List.mem_cons_of_mem _ (hi.sound n (Or.inr hn))
        · exact hn.1 ▸ List.mem_cons_self
      · simp only [mem_names_append_found]
        rcases List.mem_cons.mp hn with rfl | hn
        · by_cases hf : found (fromName fsT n) = []
          · exact Or.inr (Or.inr ⟨rfl, fun hs => hfound (by rw [hf, hs]; rfl)⟩)
          · exact Or.inl (Or.inr ⟨rfl, hf⟩)
        · exact (hi.complete n hn).imp Or.inl Or.inl

theorem enableList_inv (fsT stT : Table) (es : List String) (c c' : Cfg) (hi : EnInv c) (h : enableList fsT stT c es = .ok c') :
    EnInv c' ∧ c.fs <+: c'.fs ∧ c.st <+: c'.st ∧ (∀ n ∈ c.enabled, n ∈ c'.enabled) ∧ ∀ e ∈ es, e ∈ c'.enabled := by
  induction es generalizing c with
  | nil => simp only [enableList, Except.ok.injEq] at h; subst h; exact ⟨hi, List.prefix_refl _, List.prefix_refl _, fun n hn => hn, by simp⟩
  | cons e es ih =>
    unfold enableList at h
    cases h1 : enableOne fsT stT c e with
    | error x => rw [h1] at h; cases h
    | ok c1 =>
      rw [h1] at h
      obtain ⟨i1, p1, q1, m1, e1⟩ := enableOne_inv fsT stT c c1 e hi h1
      obtain ⟨i2, p2, q2, m2, e2⟩ := ih c1 i1 h
      refine ⟨i2, p1.trans p2, q1.trans q2, fun n hn => m2 n (m1 n hn), ?_⟩
      intro x hx
      simp only [List.mem_cons] at hx
      rcases hx with rfl | hx
      · exact m2 x e1
      · exact e2 x hx

theorem addAll_of_nodup : ∀ (ms res : List Plugin), ((res ++ ms).map (·.name)).Nodup → addAll res ms = res ++ ms
  | [], res, _ => by simp [addAll]
  | e :: es, res, h => by
    have hne : res.any (fun r => r.name == e.name) = false := by
      rw [List.any_eq_false]
      intro r hr hre
      rw [List.map_append, List.nodup_append] at h
      exact h.2.2 r.name (List.mem_map.mpr ⟨r, hr, rfl⟩) e.name (by simp) (by simpa using hre)
    rw [addAll, hne, if_neg (by simp), addAll_of_nodup es (res ++ [e]) (by simpa using h)]
    simp

theorem fromNames_single (t : Table) (hk : KeysNodup t) (k : String) (ms : List Plugin) (hm : (k, ms) ∈ t)
    (hn : (ms.map (·.name)).Nodup) : fromNames t [k] = .ok ms := by
  simp [fromNames, fromNamesLoop, mem_lookup t k ms hk hm, addAll_of_nodup ms [] (by simpa using hn)]

/-- What the statements about a registry rest on (`names`: plugin and group names ↦ plugins, `all`: the `All` map):
the keys are distinct, so are the plugins' names, every `All` entry is one plugin under its own name and is an entry of
`names`, and every entry of `names` lists plugins of `All`, in its order. -/
structure TableOK (names all : Table) : Prop where
  keys : KeysNodup names
  unique : ((allPlugins all).map (·.name)).Nodup
  own : ∀ kv ∈ all, ∃ p, kv.2 = [p] ∧ p.name = kv.1
  listed : ∀ kv ∈ all, kv ∈ names
  members : ∀ kv ∈ names, kv.2.Sublist (allPlugins all)

def ownEntry (kv : String × List Plugin) : Bool :=
  match kv.2 with
  | [p] => p.name == kv.1
  | _ => false

/-- `TableOK`, in one pass over each table. regdump writes keys and members in byte order: `all` lists its entries in
the order `names` does, and every entry of `names` its members in the order of `allPlugins all`. -/
def tableCheck (names all : Table) : Bool :=
  keysDistinct ((names.map (·.1)).map strKey) && keysDistinct (((allPlugins all).map (·.name)).map strKey) &&
  all.all ownEntry && sublistBy (strKey ·.1) all names &&
  names.all fun kv => sublistBy (strKey ·.name) kv.2 (allPlugins all)

theorem TableOK.of_check {names all : Table} (h : tableCheck names all = true) : TableOK names all := by
  simp only [tableCheck, Bool.and_eq_true, List.all_eq_true] at h
  obtain ⟨⟨⟨⟨h1, h2⟩, h3⟩, h4⟩, h5⟩ := h
  refine ⟨nodup_of_keys strKey h1, nodup_of_keys strKey h2, fun kv hkv => ?_,
    fun kv hkv => (sublist_of_sublistBy _ h4).subset hkv, fun kv hkv => sublist_of_sublistBy _ (h5 kv hkv)⟩
  have := h3 kv hkv
  unfold ownEntry at this
  split at this
  · rename_i p hp; exact ⟨p, hp, by simpa using this⟩
  · cases this

namespace TableOK
variable {names all : Table} (h : TableOK names all)
include h

theorem member_mem {kv : String × List Plugin} (hkv : kv ∈ names) {p : Plugin} (hp : p ∈ kv.2) : p ∈ allPlugins all :=
  (h.members kv hkv).subset hp

theorem nameDetermines : NameDetermines names :=
  fun _ hkv _ hkw _ hp _ hq e => Lists.eq_of_key_eq h.unique (h.member_mem hkv hp) (h.member_mem hkw hq) e

theorem members_nodup (kv : String × List Plugin) (hkv : kv ∈ names) : (kv.2.map (·.name)).Nodup :=
  ((h.members kv hkv).map _).nodup h.unique

theorem registered {p : Plugin} (hp : p ∈ allPlugins all) : RegisteredAs names p.name p := by
  obtain ⟨kv, hkv, hpk⟩ := List.mem_flatMap.mp hp
  obtain ⟨q, hq, hn⟩ := h.own kv hkv
  rw [hq, List.mem_singleton] at hpk
  subst hpk
  exact ⟨by rw [hn, ← hq]; exact h.listed kv hkv, rfl⟩

theorem resolves_key (kv : String × List Plugin) (hkv : kv ∈ names) :
    fromNames names [kv.1] = .ok kv.2 ∧ ∀ p ∈ kv.2, p ∈ allPlugins all :=
  ⟨fromNames_single names h.keys kv.1 kv.2 hkv (h.members_nodup kv hkv), fun _ => h.member_mem hkv⟩

theorem resolves (p : Plugin) (hp : p ∈ allPlugins all) :
    fromName names p.name = .ok p ∧ fromNames names [p.name] = .ok [p] :=
  ⟨registered_fromName_ok names p.name p h.keys (h.registered hp),
   fromNames_single names h.keys p.name [p] (h.registered hp).1 (by simp)⟩

end TableOK

end Scalibr.Registry
