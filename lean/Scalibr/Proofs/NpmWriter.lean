/-
C13 (and `WriterCorrect` of C12 for npm): `packagejson` `Write` / `Read` of `Model/NpmWriter` against `Spec/NpmWriter`.
The escaped key is read back by gjson's path parser as that key, literally (fix 36cc05c9), so access by path is
association-list lookup; with unique keys, setting the key looked up is a `map` of an entry-wise substitution, and a
successful `Write` is the specification's `applyAll`.  `Read` commutes with the substitution because the alias syntax
round-trips and a requirement is keyed by package and alias (fix 8304c0d6).
-/
import Scalibr.Spec.NpmWriter
import Scalibr.Proofs.Lists
namespace Scalibr.Npm
open Scalibr.Lists

/-! ### escapeJSONPathComponent vs gjson's component parser -/

theorem not_special (c : Char) (h : special c = false) :
    c ≠ '\\' ∧ c ≠ '.' ∧ c ≠ '|' ∧ c ≠ '*' ∧ c ≠ '?' := by
  refine ⟨?_, ?_, ?_, ?_, ?_⟩ <;> (rintro rfl; exact absurd h (by decide))

theorem escMode_cons_plain (c : Char) (t acc : Str) (w : Bool) (h : special c = false) :
    escMode (c :: t) acc w = escMode t (c :: acc) w := by
  obtain ⟨h1, h2, h3, h4, h5⟩ := not_special c h
  cases t <;> simp [escMode, h1, h2, h3, h4, h5]

theorem plainMode_cons_plain (c : Char) (t acc : Str) (w : Bool) (h : special c = false) :
    plainMode (c :: t) acc w = plainMode t (c :: acc) w := by
  obtain ⟨h1, h2, h3, h4, h5⟩ := not_special c h
  cases t <;> simp [plainMode, h1, h2, h3, h4, h5]

theorem escMode_escape (n acc : Str) (w : Bool) :
    escMode (escape n) acc w = ⟨acc.reverse ++ n, w, none⟩ := by
  induction n generalizing acc with
  | nil => simp [escape, escMode]
  | cons c cs ih =>
    rw [escape]
    split
    · simp [escMode, ih]
    · rename_i hs
      simp [escMode_cons_plain c _ acc w (Bool.eq_false_iff.mpr hs), ih]

theorem plainMode_escape (n acc : Str) (w : Bool) :
    plainMode (escape n) acc w = ⟨acc.reverse ++ n, w, none⟩ := by
  induction n generalizing acc with
  | nil => simp [escape, plainMode]
  | cons c cs ih =>
    rw [escape]
    split
    · simp [plainMode, escMode_escape]
    · rename_i hs
      simp [plainMode_cons_plain c _ acc w (Bool.eq_false_iff.mpr hs), ih]

/-- fix 36cc05c9: the escaped name is parsed back by gjson as exactly that key, literally -/
theorem parsePart_escape (n : Str) : parsePart (escape n) = ⟨n, false, none⟩ := by
  unfold parsePart; rw [plainMode_escape]; simp

theorem gjsonGet_escape (s : Sec) (k : Str) : gjsonGet s (escape k) = lookup s k := by
  simp [gjsonGet, parsePart_escape]

theorem sjsonSet_escape (s : Sec) (k v : Str) : sjsonSet s (escape k) v = setKey s k v := by
  simp [sjsonSet, parsePart_escape]

/-! ### sections with unique keys -/

theorem lookup_none (s : Sec) (k : Str) (h : lookup s k = none) : ∀ e ∈ s, e.1 ≠ k := by
  rw [lookup, Option.map_eq_none_iff, List.find?_eq_none] at h
  exact fun e he hk => h e he (decide_eq_true hk)

theorem lookup_mem (s : Sec) (k v : Str) (h : lookup s k = some v) : (k, v) ∈ s := by
  rw [lookup, Option.map_eq_some_iff] at h
  obtain ⟨e, hf, rfl⟩ := h
  have hk : e.1 = k := by simpa using List.find?_some hf
  exact hk ▸ List.mem_of_find?_eq_some hf

theorem lookup_unique (s : Sec) (k v : Str) (hn : keysNodup s) (h : lookup s k = some v) :
    ∀ e ∈ s, e.1 = k → e.2 = v :=
  fun _ he hk => congrArg Prod.snd (eq_of_key_eq (y := (k, v)) hn he (lookup_mem s k v h) hk)

theorem lookup_cons (x : Str × Str) (xs : Sec) (k : Str) :
    lookup (x :: xs) k = if x.1 = k then some x.2 else lookup xs k := by
  by_cases h : x.1 = k <;> simp [lookup, List.find?, h]

theorem map_substEntry_self (u : Up) (s : Sec) (h : (wkey u, origVer u) ∉ s) : s.map (substEntry u) = s :=
  map_eq_self fun e he => if_neg fun hc => h (by rwa [← hc.1, ← hc.2])

theorem setKey_eq_map (u : Up) (s : Sec) (hn : keysNodup s) (h : lookup s (wkey u) = some (origVer u)) :
    setKey s (wkey u) (newVer u) = s.map (substEntry u) := by
  induction s with
  | nil => rfl
  | cons x xs ih =>
    obtain ⟨xk, xv⟩ := x
    rw [keysNodup, List.map_cons, List.nodup_cons] at hn
    rw [lookup_cons] at h
    rw [setKey, List.map_cons]
    by_cases hx : xk = wkey u
    · -- the key is unique: no later entry has it
      rw [if_pos hx, Option.some.injEq] at h
      rw [if_pos hx, map_substEntry_self u xs fun hm => hn.1 (hx ▸ List.mem_map_of_mem (f := (·.1)) hm),
        substEntry, if_pos ⟨hx, h⟩]
    · rw [if_neg hx] at h
      rw [if_neg hx, ih hn.2 h, substEntry, if_neg fun hc => hx hc.1]

theorem substEntry_fst (u : Up) (e : Str × Str) : (substEntry u e).1 = e.1 := by
  unfold substEntry; split <;> rfl

theorem substEntry_keys (u : Up) (s : Sec) : (s.map (substEntry u)).map (·.1) = s.map (·.1) := by
  rw [List.map_map]
  exact List.map_congr_left fun e _ => substEntry_fst u e

theorem WFdoc_applySpec (u : Up) (d : Doc) (h : WFdoc d) : WFdoc (applySpec u d) := by
  unfold WFdoc keysNodup applySpec at *
  simp only [substEntry_keys]
  exact h

theorem secStep_escape (s : Sec) (k ov nv : Str) (m : Bool) :
    secStep s (escape k) ov nv m =
      match lookup s k with
      | some v => if v ≠ ov then (if m then some (s, m) else none) else some (setKey s k nv, true)
      | none => some (s, m) := by
  rw [secStep, gjsonGet_escape, sjsonSet_escape]
  rfl

theorem secStep_eq_map (s s' : Sec) (u : Up) (m m' : Bool) (hn : keysNodup s)
    (h : secStep s (escape (wkey u)) (origVer u) (newVer u) m = some (s', m')) :
    s' = s.map (substEntry u) := by
  rw [secStep_escape] at h
  split at h
  · rename_i v hl
    split at h
    · -- another value under the key, which is unique: nothing to substitute
      rename_i hv
      split at h
      · rw [← (Prod.mk.inj (Option.some.inj h)).1,
          map_substEntry_self u s fun hm => hv (lookup_unique s _ v hn hl _ hm rfl).symm]
      · cases h
    · rename_i hv
      rw [← (Prod.mk.inj (Option.some.inj h)).1, setKey_eq_map u s hn (by rw [hl, Decidable.of_not_not hv])]
  · rename_i hl
    rw [← (Prod.mk.inj (Option.some.inj h)).1, map_substEntry_self u s fun hm => lookup_none s _ hl _ hm rfl]

theorem apply1_ok (d d' : Doc) (u : Up) (h : apply1 d u = .ok d') :
    ∃ dev' opt' prod' m1 m2,
      secStep d.dev (escape (wkey u)) (origVer u) (newVer u) false = some (dev', m1) ∧
      secStep d.opt (escape (wkey u)) (origVer u) (newVer u) m1 = some (opt', m2) ∧
      secStep d.prod (escape (wkey u)) (origVer u) (newVer u) m2 = some (prod', true) ∧ d' = ⟨dev', opt', prod'⟩ := by
  unfold apply1 at h
  simp only at h
  split at h
  · cases h
  · rename_i dev' m1 h1
    split at h
    · cases h
    · rename_i opt' m2 h2
      split at h
      · cases h
      · rename_i prod' m3 h3
        split at h
        · rename_i hm
          exact ⟨dev', opt', prod', m1, m2, h1, h2, hm ▸ h3, (R.ok.inj h).symm⟩
        · cases h

/-- a successful inner-loop iteration is the document-level substitution -/
theorem apply1_eq_spec (d d' : Doc) (u : Up) (hwf : WFdoc d) (h : apply1 d u = .ok d') :
    d' = applySpec u d := by
  obtain ⟨dev', opt', prod', m1, m2, h1, h2, h3, rfl⟩ := apply1_ok d d' u h
  rw [secStep_eq_map _ _ u _ _ hwf.1 h1, secStep_eq_map _ _ u _ _ hwf.2.1 h2, secStep_eq_map _ _ u _ _ hwf.2.2 h3]
  rfl

theorem write_eq_spec (d d' : Doc) (us : List Up) (hwf : WFdoc d) (h : write d us = .ok d') :
    d' = applyAll d us := by
  fun_induction write d us with
  | case1 d => exact (R.ok.inj h).symm
  | case2 d u us d1 h1 ih =>
    have e1 := apply1_eq_spec d d1 u hwf h1
    rw [ih (e1 ▸ WFdoc_applySpec u d hwf) h, e1]; rfl
  | case3 d u us h1 => cases h

/-! ### alias syntax: render then parse -/

theorem lastIndexOf_append (c : Char) (a b : Str) (hb : c ∉ b) :
    lastIndexOf c (a ++ c :: b) = some a.length := by
  have hb' : lastIndexOf c b = none := by
    induction b with
    | nil => rfl
    | cons x xs ih => rw [lastIndexOf, ih (List.not_mem_of_not_mem_cons hb), if_neg (List.ne_of_not_mem_cons hb).symm]
  induction a with
  | nil => rw [List.nil_append, lastIndexOf, hb', if_pos rfl]; rfl
  | cons x xs ih => rw [List.cons_append, lastIndexOf, ih]; rfl

theorem lastIndexOf_some (c : Char) (r : Str) (i : Nat) (h : lastIndexOf c r = some i) :
    r = r.take i ++ c :: r.drop (i + 1) := by
  fun_induction lastIndexOf c r generalizing i with
  | case1 => cases h
  | case2 x xs j hl ih => obtain rfl := Option.some.inj h; rw [List.take_succ_cons, List.drop_succ_cons, List.cons_append, ← ih j hl]
  | case3 xs hl ih => obtain rfl := Option.some.inj h; rfl
  | case4 x xs hl hx ih => cases h

theorem plain_no_at (v : Str) (h : plainVer v = true) : '@' ∉ v := by
  rw [plainVer, Bool.not_eq_true', List.any_eq_false] at h
  exact fun hm => h '@' hm rfl

theorem plain_registry (v : Str) (h : plainVer v = true) :
    v.any (fun c => c = ':' || c = '/') = false := by
  rw [plainVer, Bool.not_eq_true', List.any_eq_false] at h
  exact List.any_eq_false.mpr fun c hc hcc => h c hc (by rw [Bool.or_eq_true]; exact Or.inl hcc)

theorem plain_not_alias (v : Str) (h : plainVer v = true) : stripNpm v = none := by
  unfold stripNpm
  split
  · rename_i r
    exfalso
    unfold plainVer at h
    simp at h
  · rfl

theorem splitAlias_alias (name ver : Str) (hn : name ≠ []) (hv : '@' ∉ ver) :
    splitAlias (aliasStr name ver) = (name, ver) := by
  unfold splitAlias aliasStr npmPrefix
  simp only [List.cons_append, List.nil_append, stripNpm]
  rw [lastIndexOf_append '@' name ver hv]
  have : name.length > 0 := List.length_pos_iff.mpr hn
  simp [this]

/-- the entry a requirement is read from (an alias without a version apart: `SplitNPMAlias` gives that up) -/
def entryOf (r : Req) : Str × Str :=
  match r.knownAs with
  | some k => (k, aliasStr r.name r.ver)
  | none => (r.name, r.ver)

theorem makeReq_entryOf (r : Req) (hv : plainVer r.ver = true) (hn : r.knownAs.isSome → r.name ≠ []) :
    makeReq (entryOf r) = some r := by
  obtain ⟨n, ka, v⟩ := r
  cases ka with
  | none =>
    unfold entryOf makeReq splitAlias
    simp [plain_not_alias v hv, plain_registry v hv]
  | some k =>
    unfold entryOf makeReq
    simp only [splitAlias_alias n v (hn rfl) (plain_no_at v hv)]
    simp [hn rfl, plain_registry v hv]

theorem entryOf_makeReq (e : Str × Str) (r : Req) (h : makeReq e = some r) (hv : r.knownAs.isSome → r.ver ≠ []) :
    entryOf r = e := by
  unfold makeReq at h
  cases hs : splitAlias e.2 with
  | mk rp rv =>
    simp only [hs] at h
    by_cases hrp : rp = []
    · simp only [hrp, ne_eq, not_true_eq_false, if_false] at h
      split at h
      · cases h
      · obtain rfl := Option.some.inj h; rfl
    · simp only [ne_eq, hrp, not_false_eq_true, if_true] at h
      split at h
      · cases h
      · -- an alias: `e.2` is `npm:` ++ `rp` ++ `@` ++ `rv`, cut at its last `@`
        obtain rfl := Option.some.inj h
        have hne : rv ≠ [] := hv rfl
        unfold splitAlias at hs
        split at hs
        · rename_i r hst
          have he2 : e.2 = npmPrefix ++ r := by
            unfold stripNpm at hst
            split at hst
            · rename_i heq; rw [heq, ← Option.some.inj hst]; rfl
            · cases hst
          split at hs
          · rename_i i hl
            split at hs
            · obtain ⟨rfl, rfl⟩ := Prod.mk.inj hs
              simp only [entryOf, aliasStr]
              rw [List.append_assoc, ← lastIndexOf_some '@' r i hl, ← he2]
            · exact absurd (Prod.mk.inj hs).2.symm hne
          · exact absurd (Prod.mk.inj hs).2.symm hne
        · exact absurd (Prod.mk.inj hs).1.symm hrp

/-! ### Read commutes with the substitution -/

theorem entryOf_up (u : Up) : entryOf ⟨u.name, u.knownAs, u.frm⟩ = (wkey u, origVer u) ∧
    entryOf ⟨u.name, u.knownAs, u.to⟩ = (wkey u, newVer u) := by
  unfold entryOf wkey origVer newVer; cases u.knownAs <;> exact ⟨rfl, rfl⟩

theorem makeReq_substEntry (u : Up) (hu : WFup u = true) (e : Str × Str) :
    makeReq (substEntry u e) = (makeReq e).map (substReq u) := by
  simp only [WFup, Bool.and_eq_true, Bool.or_eq_true, decide_eq_true_eq, Option.isNone_iff_eq_none] at hu
  obtain ⟨⟨hpf, hpt⟩, hal⟩ := hu
  have hn : u.knownAs.isSome → u.name ≠ [] ∧ u.frm ≠ [] := fun hs =>
    hal.resolve_left fun h => by rw [h] at hs; cases hs
  unfold substEntry
  split
  · -- the addressed entry: both versions are read back as they were rendered
    rename_i hc
    rw [show e = (wkey u, origVer u) from Prod.ext hc.1 hc.2, ← (entryOf_up u).2, ← (entryOf_up u).1,
      makeReq_entryOf _ hpt fun h => (hn h).1, makeReq_entryOf _ hpf fun h => (hn h).1]
    simp [substReq, addresses]
  · rename_i hc
    cases hm : makeReq e with
    | none => rfl
    | some r =>
      -- a requirement the update addresses is read from the addressed entry only
      have : addresses u r = false := by
        refine Bool.eq_false_iff.mpr fun ha => hc ?_
        simp only [addresses, Bool.and_eq_true, decide_eq_true_eq] at ha
        obtain ⟨⟨h1, h2⟩, h3⟩ := ha
        have := entryOf_makeReq e r hm fun h => by rw [h3]; exact (hn (h2 ▸ h)).2
        rw [show r = ⟨u.name, u.knownAs, u.frm⟩ by cases r; simp_all, (entryOf_up u).1] at this
        exact ⟨congrArg Prod.fst this.symm, congrArg Prod.snd this.symm⟩
      simp [substReq, this]

theorem substReq_key (u : Up) (r : Req) : (substReq u r).name = r.name ∧ (substReq u r).knownAs = r.knownAs := by
  unfold substReq; split <;> exact ⟨rfl, rfl⟩

theorem upsert_map (g : Req → Req) (hg : ∀ r, (g r).name = r.name ∧ (g r).knownAs = r.knownAs) (rs : List Req) (r : Req) :
    upsert (rs.map g) (g r) = (upsert rs r).map g := by
  induction rs with
  | nil => simp [upsert]
  | cons x xs ih =>
    simp only [List.map, upsert, (hg _).1, (hg _).2]
    split
    · simp
    · simp [ih]

theorem addSec_map (g : Req → Req) (hg : ∀ r, (g r).name = r.name ∧ (g r).knownAs = r.knownAs) (f : Str × Str → Str × Str)
    (hf : ∀ e, makeReq (f e) = (makeReq e).map g) (s : Sec) (rs : List Req) :
    addSec (rs.map g) (s.map f) = (addSec rs s).map g := by
  induction s generalizing rs with
  | nil => simp [addSec]
  | cons e es ih =>
    simp only [addSec, List.map, List.foldl] at ih ⊢
    rw [hf e]
    cases hm : makeReq e with
    | none => simp only [Option.map]; exact ih rs
    | some r =>
      simp only [Option.map]
      rw [upsert_map g hg]
      exact ih _

theorem filterMap_map (g : Req → Req) (f : Str × Str → Str × Str)
    (hf : ∀ e, makeReq (f e) = (makeReq e).map g) (s : Sec) :
    (s.map f).filterMap makeReq = (s.filterMap makeReq).map g := by
  rw [List.filterMap_map, List.map_filterMap]
  exact congrArg (List.filterMap · s) (funext hf)

theorem requirements_applySpec (u : Up) (hu : WFup u = true) (d : Doc) :
    requirements (applySpec u d) = (requirements d).map (substReq u) := by
  have hs := addSec_map (substReq u) (substReq_key u) (substEntry u) (makeReq_substEntry u hu)
  unfold requirements applySpec
  simp only
  rw [filterMap_map (substReq u) (substEntry u) (makeReq_substEntry u hu), hs, hs]

theorem requirements_applyAll (us : List Up) (hu : ∀ u ∈ us, WFup u = true) (d : Doc) :
    requirements (applyAll d us) = substitute (requirements d) us := by
  induction us generalizing d with
  | nil => rfl
  | cons u us ih =>
    simp only [applyAll, substitute, List.foldl] at ih ⊢
    rw [ih (fun x hx => hu x (by simp [hx])) (applySpec u d),
      requirements_applySpec u (hu u (by simp)) d]

/-! ### nothing else moves -/

def substAll (us : List Up) (e : Str × Str) : Str × Str := us.foldl (fun e u => substEntry u e) e

theorem applyAll_eq (us : List Up) (d : Doc) :
    applyAll d us = ⟨d.dev.map (substAll us), d.opt.map (substAll us), d.prod.map (substAll us)⟩ := by
  induction us generalizing d with
  | nil => simp only [show substAll [] = id from rfl, List.map_id]; rfl
  | cons u us ih =>
    rw [applyAll, List.foldl_cons, ← applyAll, ih]
    simp only [applySpec, List.map_map]
    rfl

theorem substAll_fst (us : List Up) (e : Str × Str) : (substAll us e).1 = e.1 := by
  induction us generalizing e with
  | nil => rfl
  | cons u us ih => rw [substAll, List.foldl_cons, ← substAll, ih, substEntry_fst]

theorem substAll_self (us : List Up) (e : Str × Str) (h : ∀ u ∈ us, ¬ (e.1 = wkey u ∧ e.2 = origVer u)) :
    substAll us e = e := by
  induction us with
  | nil => rfl
  | cons u us ih =>
    rw [substAll, List.foldl_cons, substEntry, if_neg (h u List.mem_cons_self)]
    exact ih fun w hw => h w (List.mem_cons_of_mem u hw)

theorem secSameOutside_substAll (us : List Up) (s : Sec) : secSameOutside us s (s.map (substAll us)) :=
  ⟨by rw [List.map_map]; exact List.map_congr_left fun e _ => substAll_fst us e,
   fun e he hne => List.mem_map.mpr ⟨e, he, substAll_self us e fun u hu hc => hne u hu hc.1⟩⟩

theorem sameOutside_applyAll (us : List Up) (d : Doc) : sameOutside us d (applyAll d us) := by
  rw [applyAll_eq]
  exact ⟨secSameOutside_substAll us _, secSameOutside_substAll us _, secSameOutside_substAll us _⟩

/-- a successful result with a decidable property, by one evaluation of `r` -/
theorem exists_ok {r : R} {P : Doc → Prop} [DecidablePred P]
    (h : (match r with | .ok d' => decide (P d') | .err => false) = true) : ∃ d', r = .ok d' ∧ P d' := by
  cases r with
  | ok d' => exact ⟨d', rfl, of_decide_eq_true h⟩
  | err => cases h

/-! ### no silent success -/

theorem lookup_setKey (s : Sec) (k v nv : Str) (h : lookup s k = some v) :
    lookup (setKey s k nv) k = some nv := by
  fun_induction setKey s k nv with
  | case1 => cases h
  | case2 xk xv xs nv => rw [lookup_cons, if_pos rfl]
  | case3 xk xv xs k nv hx ih =>
    rw [lookup_cons, if_neg hx] at h
    rw [lookup_cons, if_neg hx, ih h]

theorem secStep_matched_mono (s s' : Sec) (path ov nv : Str) (m' : Bool)
    (h : secStep s path ov nv true = some (s', m')) : m' = true := by
  unfold secStep at h
  split at h
  · split at h <;> exact (Prod.mk.inj (Option.some.inj h)).2.symm
  · exact (Prod.mk.inj (Option.some.inj h)).2.symm

theorem secStep_false_matched (s s' : Sec) (k ov nv : Str)
    (h : secStep s (escape k) ov nv false = some (s', true)) :
    lookup s k = some ov ∧ lookup s' k = some nv := by
  rw [secStep_escape] at h
  split at h
  · rename_i v hl
    split at h
    · cases h
    · rename_i hv
      rw [← (Prod.mk.inj (Option.some.inj h)).1, hl, Decidable.of_not_not hv]
      exact ⟨rfl, lookup_setKey s k v nv hl⟩
  · cases h

/-- since fix 400b3071 a successful iteration HAS applied its update (an update no section holds the key of is an
error): the section whose step turned `matched` on held `key ↦ old value` and now holds the new one -/
theorem apply1_applied_always (d d' : Doc) (u : Up) (h : apply1 d u = .ok d') : applied u d d' := by
  obtain ⟨dev', opt', prod', m1, m2, h1, h2, h3, rfl⟩ := apply1_ok d d' u h
  cases m1 with
  | true => exact Or.inl (secStep_false_matched _ _ _ _ _ h1)
  | false =>
    cases m2 with
    | true => exact Or.inr (Or.inl (secStep_false_matched _ _ _ _ _ h2))
    | false => exact Or.inr (Or.inr (secStep_false_matched _ _ _ _ _ h3))

theorem write_append (d : Doc) (us vs : List Up) :
    write d (us ++ vs) = match write d us with | .ok d1 => write d1 vs | .err => .err := by
  fun_induction write d us with
  | case1 d => rfl
  | case2 d u us d1 h1 ih => rw [List.cons_append, write, h1]; exact ih
  | case3 d u us h1 => rw [List.cons_append, write, h1]

theorem write_applied (d d' : Doc) (pre post : List Up) (u : Up) (h : write d (pre ++ u :: post) = .ok d') :
    ∃ d1 d2, write d pre = .ok d1 ∧ apply1 d1 u = .ok d2 ∧ write d2 post = .ok d' ∧ applied u d1 d2 := by
  rw [write_append] at h
  split at h
  · rename_i d1 h1
    rw [write] at h
    split at h
    · rename_i d2 h2
      exact ⟨d1, d2, h1, h2, h, apply1_applied_always d1 d2 u h2⟩
    · cases h
  · cases h

/-! ### Read loses no entry (fix 8304c0d6: the cascade keys a requirement by package and alias) -/

def hasKey (rs : List Req) (n : Str) (ka : Option Str) : Bool := rs.any fun r => r.name = n && r.knownAs = ka

theorem hasKey_upsert (rs : List Req) (q : Req) (n : Str) (ka : Option Str) :
    hasKey (upsert rs q) n ka = (hasKey rs n ka || (decide (q.name = n) && decide (q.knownAs = ka))) := by
  fun_induction upsert rs q with
  | case1 q => simp [hasKey]
  | case2 x xs q hm => simp only [hasKey, List.any_cons, hm.1, hm.2, Bool.or_comm, Bool.or_self_left]
  | case3 x xs q hm ih =>
    simp only [hasKey, List.any_cons, Bool.or_assoc] at ih ⊢
    rw [ih]

theorem hasKey_addSec (s : Sec) (rs : List Req) (n : Str) (ka : Option Str) :
    hasKey (addSec rs s) n ka = (hasKey rs n ka || hasKey (s.filterMap makeReq) n ka) := by
  induction s generalizing rs with
  | nil => simp [addSec, hasKey]
  | cons e es ih =>
    rw [addSec, List.foldl_cons, ← addSec, List.filterMap_cons]
    cases makeReq e with
    | none => exact ih rs
    | some q => rw [ih, hasKey_upsert]; simp only [hasKey, List.any_cons, Bool.or_assoc]

theorem readComplete_requirements (d : Doc) : readComplete d (requirements d) = true := by
  unfold readComplete
  rw [List.all_eq_true]
  intro e he
  cases hq : makeReq e with
  | none => rfl
  | some q =>
    show hasKey (requirements d) q.name q.knownAs = true
    have : hasKey ((d.prod ++ d.opt ++ d.dev).filterMap makeReq) q.name q.knownAs = true := by
      rw [hasKey, List.any_eq_true]
      refine ⟨q, List.mem_filterMap.mpr ⟨e, ?_, hq⟩, by simp⟩
      simp only [List.mem_append] at he ⊢
      rcases he with (he | he) | he <;> simp [he]
    rw [requirements, hasKey_addSec, hasKey_addSec]
    simpa only [hasKey, List.filterMap_append, List.any_append, Bool.or_assoc] using this

end Scalibr.Npm
