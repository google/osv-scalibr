/-
Helper lemmas for C03_gemfile: the hand-written matcher on a rendered spec line, and `parseLockfileSections`
over rendered sections.
-/
import Scalibr.Spec.Parsers.Gemfile
import Scalibr.Proofs.Parsers.Layout
namespace Scalibr.Parsers.Gemfile
open Scalibr.Parsers

/-- `name (version)`: the group matches with the whole version -/
theorem tryLen_plain (v : List Char) (hv : v ≠ []) :
    tryLen (v ++ [')']) (v.length + 1) = some v := by
  obtain ⟨k, hk⟩ : ∃ k, v.length = k + 1 := ⟨v.length - 1, by cases v <;> simp_all⟩
  have h1 : check (v ++ [')']) (v.length + 1) = none := by
    unfold check
    have : (v ++ [')'])[v.length + 1]? = none := by simp
    rw [this]
  have h2 : check (v ++ [')']) v.length = some v := by
    unfold check
    have : (v ++ [')'])[v.length]? = some ')' := by simp
    rw [this]
    simp [tailOk]
  rw [tryLen, h1]
  simp only []
  rw [hk, tryLen, ← hk, h2]

/-- `name (version-platform)`: the group matches with the text before the dash -/
theorem tryLen_plat (v p : List Char) (hv : v ≠ []) :
    tryLen (v ++ '-' :: (p ++ [')'])) v.length = some v := by
  obtain ⟨k, hk⟩ : ∃ k, v.length = k + 1 := ⟨v.length - 1, by cases v <;> simp_all⟩
  have h2 : check (v ++ '-' :: (p ++ [')'])) v.length = some v := by
    unfold check
    have : (v ++ '-' :: (p ++ [')']))[v.length]? = some '-' := by simp
    rw [this]
    have hd : (v ++ '-' :: (p ++ [')'])).drop (v.length + 1) = p ++ [')'] := by
      rw [List.drop_append]; simp
    simp [hd]
  rw [hk, tryLen, ← hk, h2]

theorem matchRest_spec (v : List Char) (plat : Option (List Char)) (hv : v ≠ []) (hd : '-' ∉ v) :
    matchRest (' ' :: '(' :: (v ++ platTail plat)) = some v := by
  unfold matchRest groupMatch
  cases plat with
  | none =>
    have hm : ((v ++ [')']).takeWhile (· ≠ '-')).length = v.length + 1 := by
      rw [takeWhile_ne_none '-' (v ++ [')']) (by simp [hd])]; simp
    simp only [platTail, hm, tryLen_plain v hv]
  | some p =>
    have hm : ((v ++ '-' :: (p ++ [')'])).takeWhile (· ≠ '-')).length = v.length := by
      rw [takeWhile_ne_all '-' v _ hd]
    simp only [platTail, hm, tryLen_plat v p hv]

theorem groupMatch_name (c : Char) (t : List Char) (hc : c ≠ ' ') : groupMatch (c :: t) = none := by
  unfold groupMatch
  split
  · rename_i h; simp at h; exact absurd h.1 hc
  · rfl

theorem matchRest_name (c : Char) (t : List Char) (hc : c ≠ ' ') (ht : t ≠ []) : matchRest (c :: t) = none := by
  unfold matchRest
  rw [groupMatch_name c t hc]
  have : tailOk (c :: t) = false := by
    unfold tailOk
    cases t with
    | nil => exact absurd rfl ht
    | cons x xs => simp
  simp [this]

/-- the lazy name: every proper prefix of a space-free name fails, the whole name succeeds -/
theorem specNV_name (n rest : List Char) (hn : ' ' ∉ n) (hr : rest ≠ []) :
    ∀ acc, specNV (n ++ rest) acc = specNV rest (n.reverse ++ acc) := by
  induction n with
  | nil => intro acc; rfl
  | cons c n ih =>
    intro acc
    have hc : c ≠ ' ' := by intro e; subst e; simp at hn
    have hn' : ' ' ∉ n := by intro h; exact hn (by simp [h])
    have ht : n ++ rest ≠ [] := by simp [hr]
    rw [List.cons_append, specNV, matchRest_name c _ hc ht]
    simp only []
    rw [ih hn' (c :: acc)]
    simp

theorem specPkg_spec (n v : List Char) (plat : Option (List Char)) (hn : n ≠ []) (hsp : ' ' ∉ n) (hv : v ≠ []) (hd : '-' ∉ v) :
    specPkg (specText n v plat) = some (n, v) := by
  unfold specPkg specText
  rw [specNV_name n _ hsp (by simp) []]
  rw [specNV, matchRest_spec v plat hv hd]
  simp only [List.append_nil, List.reverse_reverse]
  have h1 : n.isEmpty = false := by cases n <;> simp_all
  have h2 : v.isEmpty = false := by cases v <;> simp_all
  simp [h1, h2]

/-! `parseLockfileSections` over rendered sections -/

def itemText : Item → Option (List Char)
  | .spec n v p => some (specText n v p)
  | _ => none

def specTexts (items : List Item) : List (List Char) := items.filterMap itemText

theorem specTexts_cons (it : Item) (items : List Item) : specTexts (it :: items) = (itemText it).toList ++ specTexts items := by
  cases it <;> rfl

theorem takeWhile_nospace (t : List Char) (ht : t.head? ≠ some ' ') : t.takeWhile (· = ' ') = [] := by
  cases t with
  | nil => rfl
  | cons c t =>
    have : c ≠ ' ' := by intro e; subst e; simp at ht
    simp [this]

theorem takeWhile_spaces (k : Nat) (t : List Char) (ht : t.head? ≠ some ' ') :
    ((List.replicate k ' ' ++ t).takeWhile (· = ' ')).length = k := by
  induction k with
  | zero => simp [takeWhile_nospace t ht]
  | succ k ih =>
    simp only [List.replicate_succ, List.cons_append, List.takeWhile_cons, decide_true, if_true, List.length_cons, ih]

theorem gemSections_items (rest : List Line) (acc : List Sec) : ∀ (items : List Item), (∀ i ∈ items, WFitem i) →
    ∀ c : Sec, gemSections (items.map itemLine ++ rest) (some c) acc
      = gemSections rest (some ⟨c.name, c.specs ++ specTexts items⟩) acc := by
  intro items
  induction items with
  | nil => intro _ c; simp [specTexts]
  | cons it items ih =>
    intro hwf c
    have hi := hwf it (by simp)
    have ih' := ih (fun x hx => hwf x (by simp [hx]))
    cases it with
    | blank =>
      simp only [List.map_cons, List.cons_append, itemLine, gemSections, List.isEmpty_nil, if_true]
      rw [ih' c, specTexts_cons]
      rfl
    | spec n v p =>
      obtain ⟨hn, hsp, _⟩ := hi
      have hhead : (specText n v p).head? ≠ some ' ' := by
        unfold specText
        cases n with
        | nil => exact absurd rfl hn
        | cons x xs => simp; intro e; subst e; simp at hsp
      have hind : ((' ' :: ' ' :: ' ' :: ' ' :: specText n v p).takeWhile (· = ' ')).length = 4 := by
        have := takeWhile_spaces 4 (specText n v p) hhead
        simpa [List.replicate] using this
      simp only [List.map_cons, List.cons_append, itemLine, gemSections, List.isEmpty_cons, Bool.false_eq_true, if_false, hind]
      have h40 : ¬ (4 : Nat) = 0 := by decide
      simp only [h40, if_false, if_true, addSpec, List.drop_succ_cons, List.drop_zero]
      rw [ih' _, specTexts_cons, List.append_assoc]
      rfl
    | aux k t =>
      obtain ⟨hk0, hk4, hhead, _, _⟩ := hi
      have hind := takeWhile_spaces k t hhead
      have hne : (List.replicate k ' ' ++ t).isEmpty = false := by
        cases k with
        | zero => exact absurd rfl hk0
        | succ k => simp [List.replicate_succ]
      simp only [List.map_cons, itemLine, List.cons_append, gemSections, hne, Bool.false_eq_true, if_false, hind, hk0, hk4]
      rw [specTexts_cons]
      split
      · exact ih' c
      · exact ih' c

theorem gemSections_blanks (k : Nat) (rest : List Line) (cur : Option Sec) (acc : List Sec) :
    gemSections (List.replicate k [] ++ rest) cur acc = gemSections rest cur acc := by
  induction k with
  | zero => simp
  | succ k ih => simp [List.replicate_succ, gemSections, ih]

theorem gemSections_header (name : List Char) (rest : List Line) (cur : Option Sec) (acc : List Sec)
    (hne : name ≠ []) (hh : name.head? ≠ some ' ') :
    gemSections (name :: rest) cur acc = gemSections rest (some ⟨name, []⟩) (flush cur acc) := by
  have h1 : name.isEmpty = false := by cases name <;> simp_all
  have h2 : (name.takeWhile (· = ' ')).length = 0 := by
    have := takeWhile_spaces 0 name hh
    simpa using this
  simp [gemSections, h1, h2]

def toSec (s : GSec) : Sec := ⟨s.name, specTexts s.items⟩

theorem gemSections_body (lead : Nat → Nat) : ∀ (secs : List GSec), WF secs → ∀ (i : Nat) (cur : Option Sec) (acc : List Sec),
    gemSections (bodyLines lead i secs) cur acc = some (flush cur acc ++ secs.map toSec) := by
  intro secs
  induction secs with
  | nil => intro _ i cur acc; simp [bodyLines, gemSections]
  | cons s rest ih =>
    intro hwf i cur acc
    obtain ⟨hne, hh, _, _, hitems⟩ := hwf s (by simp)
    simp only [bodyLines, secLines]
    rw [List.append_assoc, gemSections_blanks, List.cons_append, gemSections_header s.name _ cur acc hne hh,
      gemSections_items _ _ s.items hitems ⟨s.name, []⟩, ih (fun x hx => hwf x (by simp [hx]))]
    simp [flush, toSec]

theorem pkgs_of_items (items : List Item) (hwf : ∀ i ∈ items, WFitem i) :
    (specTexts items).filterMap specPkg = items.filterMap itemPkg := by
  rw [specTexts, List.filterMap_filterMap]
  refine filterMap_congr fun it hit => ?_
  cases it with
  | blank => rfl
  | aux k t => rfl
  | spec n v p =>
    obtain ⟨hn, hsp, hv, hd, _⟩ := hwf _ hit
    exact specPkg_spec n v p hn hsp hv hd

theorem pkgsOf_toSec (secs : List GSec) (hwf : WF secs) : pkgsOf (secs.map toSec) = installed secs := by
  induction secs with
  | nil => rfl
  | cons s rest ih =>
    have := pkgs_of_items s.items (hwf s (by simp)).2.2.2.2
    simp only [pkgsOf, installed, List.map_cons, List.flatMap_cons, toSec] at ih ⊢
    rw [ih (fun x hx => hwf x (by simp [hx]))]
    split <;> simp [this]

/-! clean lines -/

theorem replicate_space_ok (k : Nat) : okText (List.replicate k ' ') := by
  constructor <;> (intro h; have := List.eq_of_mem_replicate h; simp at this)

theorem itemLine_clean (it : Item) (h : WFitem it) : cleanLine (itemLine it) := by
  cases it with
  | blank => exact cleanLine_nil
  | aux k t => exact cleanLine_of_ok (okText_append _ _ (replicate_space_ok k) h.2.2.2.1) h.2.2.2.2
  | spec n v p =>
    obtain ⟨_, _, _, _, on, ov, op, hlen⟩ := h
    have hp : okText (platTail p) := by
      match p, op with
      | none, _ => unfold okText platTail; decide
      | some q, op => exact okText_cons _ _ (by decide) (okText_append _ _ (op q rfl) (by unfold okText; decide))
    refine cleanLine_of_ok ?_ hlen
    exact okText_cons _ _ (by decide) (okText_cons _ _ (by decide) (okText_cons _ _ (by decide) (okText_cons _ _ (by decide)
        (okText_append _ _ on (okText_cons _ _ (by decide) (okText_cons _ _ (by decide) (okText_append _ _ ov hp)))))))

theorem bodyLines_clean (lead : Nat → Nat) : ∀ (secs : List GSec), WF secs → ∀ i, ∀ l ∈ bodyLines lead i secs, cleanLine l := by
  intro secs
  induction secs with
  | nil => intro _ i l hl; simp [bodyLines] at hl
  | cons s rest ih =>
    intro hwf i l hl
    obtain ⟨_, _, hn, hlen, hitems⟩ := hwf s (by simp)
    simp only [bodyLines, secLines, List.mem_append, List.mem_cons, List.mem_map] at hl
    rcases hl with (hl | rfl | ⟨it, hit, rfl⟩) | hl
    · rw [List.eq_of_mem_replicate hl]; exact cleanLine_nil
    · exact cleanLine_of_ok hn hlen
    · exact itemLine_clean it (hitems it hit)
    · exact ih (fun x hx => hwf x (by simp [hx])) (i + 1) l hl

end Scalibr.Parsers.Gemfile
