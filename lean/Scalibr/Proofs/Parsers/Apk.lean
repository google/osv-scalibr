/-
Helper lemmas for C03_apk: the Go-map semantics of `put`/`get`, one record's lines → one record, and the three
equations of the record loop (end of input, blank line, record) that `stanzaFile_run` asks for.
-/
import Scalibr.Spec.Parsers.Apk
import Scalibr.Proofs.Parsers.Layout
import Scalibr.Proofs.Parsers.Fuel
namespace Scalibr.Parsers.Apk
open Scalibr.Parsers

/-- the Go map after reading the lines of `kvs` in order, starting from `g` -/
def mapOf (kvs : List (List Char × List Char)) (g : Rec) : Rec := kvs.foldl (fun g kv => put g kv.1 kv.2) g

theorem put_ne_nil (g : Rec) (k v : List Char) : put g k v ≠ [] := by unfold put; simp

theorem mapOf_ne_nil (kvs : List (List Char × List Char)) : ∀ g : Rec, (kvs ≠ [] ∨ g ≠ []) → mapOf kvs g ≠ [] := by
  induction kvs with
  | nil => intro g h; rcases h with h | h; exact absurd rfl h; simpa [mapOf] using h
  | cons kv rest ih =>
    intro g _
    simp only [mapOf, List.foldl_cons]
    exact ih (put g kv.1 kv.2) (Or.inr (put_ne_nil _ _ _))

theorem parseRecord_fields (kvs : List (List Char × List Char)) (hk : ∀ kv ∈ kvs, ':' ∉ kv.1)
    (rest : List Line) (hrest : rest = [] ∨ ∃ t, rest = [] :: t) : ∀ g : Rec, (kvs ≠ [] ∨ g ≠ []) →
      parseRecord false (kvs.map fieldLine ++ rest) g = some (mapOf kvs g, rest.drop 1) := by
  induction kvs with
  | nil =>
    intro g hg
    have : g ≠ [] := by rcases hg with h | h; exact absurd rfl h; exact h
    rcases hrest with rfl | ⟨t, rfl⟩ <;> simp [parseRecord, mapOf, this]
  | cons kv kvs ih =>
    intro g _
    have hcut : cutAt ':' (fieldLine kv) = some (kv.1, kv.2) := cutAt_key ':' kv.1 kv.2 (hk kv (by simp))
    have hne : (fieldLine kv).isEmpty = false := by simp [fieldLine]
    simp only [List.map_cons, List.cons_append, parseRecord, hne, Bool.not_false, if_true, hcut]
    exact ih (fun x hx => hk x (by simp [hx])) (put g kv.1 kv.2) (Or.inr (put_ne_nil _ _ _))

/-- Go-map semantics of `put` / `get` -/
theorem get_put (g : Rec) (k v k' : List Char) : get (put g k v) k' = if k' = k then v else get g k' := by
  unfold get put
  rw [List.find?_append]
  by_cases h : k' = k
  · subst h
    have hnone : (g.filter (fun x => decide (x.1 ≠ k'))).find? (fun x => decide (x.1 = k')) = none := by
      rw [List.find?_eq_none]
      intro x hx
      simpa using (List.mem_filter.mp hx).2
    rw [hnone]
    simp
  · have hne : ¬ k = k' := fun e => h e.symm
    have hfi : (g.filter (fun x => decide (x.1 ≠ k))).find? (fun x => decide (x.1 = k')) = g.find? (fun x => decide (x.1 = k')) := by
      rw [List.find?_filter]
      apply find?_congr
      intro x _
      by_cases hx : x.1 = k' <;> simp [hx, h]
    rw [hfi]
    simp only [h, if_false]
    cases g.find? (fun x => decide (x.1 = k')) <;> simp [hne]

theorem get_mapOf (k v : List Char) : ∀ (kvs : List (List Char × List Char)) (g : Rec),
    (∀ kv ∈ kvs, kv.1 = k → kv.2 = v) → ((∃ kv ∈ kvs, kv.1 = k) ∨ get g k = v) → get (mapOf kvs g) k = v := by
  intro kvs
  induction kvs with
  | nil => intro g _ h; simpa [mapOf] using h
  | cons kv kvs ih =>
    intro g hv h
    refine ih (put g kv.1 kv.2) (fun x hx => hv x (by simp [hx])) ?_
    rw [get_put]
    by_cases hk : kv.1 = k
    · right; simp [hk, hv kv (by simp) hk]
    · have hk' : ¬ k = kv.1 := fun e => hk e.symm
      simp only [hk', if_false]
      rcases h with ⟨x, hx, hxk⟩ | h
      · rcases List.mem_cons.mp hx with rfl | hx
        · exact absurd hxk hk
        · exact Or.inl ⟨x, hx, hxk⟩
      · exact Or.inr h

theorem mem_fields (r : GRec) (kv : List Char × List Char) :
    kv ∈ fields r ↔ kv = (['P'], r.name) ∨ kv = (['V'], r.ver) ∨ kv ∈ r.pre ++ r.mid ++ r.post := by
  unfold fields
  -- both sides list the same five alternatives, in another order and bracketing
  cases r.vFirst <;> simp only [List.mem_append, List.mem_singleton, Bool.false_eq_true, if_false, if_true] <;>
    exact ⟨fun h => by rcases h with (((h | h) | h) | h) | h <;> simp [h],
      fun h => by rcases h with h | h | (h | h) | h <;> simp [h]⟩

/-- the record read back from a rendered stanza has the generator's name and version -/
theorem name_ver_of_record (r : GRec) (h : WFrec r) (g : Rec) :
    get (mapOf (fields r) g) ['P'] = r.name ∧ get (mapOf (fields r) g) ['V'] = r.ver := by
  have hx := h.2.2.2.2.1
  constructor
  · refine get_mapOf _ _ _ g (fun kv hkv hk => ?_) (Or.inl ⟨_, (mem_fields r _).mpr (Or.inl rfl), rfl⟩)
    rcases (mem_fields r kv).mp hkv with rfl | rfl | hm
    · rfl
    · exact absurd hk (by simp)
    · exact absurd hk (hx kv hm).2.2.2.1
  · refine get_mapOf _ _ _ g (fun kv hkv hk => ?_) (Or.inl ⟨_, (mem_fields r _).mpr (Or.inr (Or.inl rfl)), rfl⟩)
    rcases (mem_fields r kv).mp hkv with rfl | rfl | hm
    · exact absurd hk (by simp)
    · rfl
    · exact absurd hk (hx kv hm).2.2.2.2

theorem fields_ne_nil (r : GRec) : fields r ≠ [] := by unfold fields; simp

theorem fields_keys (r : GRec) (h : WFrec r) : ∀ kv ∈ fields r, ':' ∉ kv.1 := by
  intro kv hk
  rcases (mem_fields r kv).mp hk with rfl | rfl | hm
  · simp
  · simp
  · exact (h.2.2.2.2.1 kv hm).2.2.1

/-- the loop as `parse` runs it; by `extract_fuel` any fuel above the number of lines gives the same result -/
def run (ls : List Line) (acc : List (List Char × List Char)) := extract false (ls.length + 2) ls acc

theorem extract_eq_run (f : Nat) (ls : List Line) (acc : List (List Char × List Char)) (h : ls.length + 1 ≤ f) :
    extract false f ls acc = run ls acc :=
  extract_fuel false ls acc f _ h (by omega)

theorem run_nil (acc : List (List Char × List Char)) : run [] acc = some acc := by
  simp [run, extract, parseRecord]

theorem run_blank (ls : List Line) (acc : List (List Char × List Char)) : run ([] :: ls) acc = run ls acc := by
  have : extract false (ls.length + 3) ([] :: ls) acc = extract false (ls.length + 3) ls acc := by
    simp only [extract, parseRecord, List.isEmpty_nil, Bool.not_true, Bool.false_eq_true, if_false]
  exact this.trans (extract_eq_run _ ls acc (by omega))

theorem run_record (r : GRec) (h : WFrec r) (rest : List Line) (acc : List (List Char × List Char))
    (hrest : rest = [] ∨ ∃ t, rest = [] :: t) :
    run (recLines r ++ rest) acc = run (rest.drop 1) (acc ++ [(r.name, r.ver)]) := by
  have ⟨hP, hV⟩ := name_ver_of_record r h []
  have hn : r.name.isEmpty = false := by have := h.1; cases hr : r.name <;> simp_all
  have hv : r.ver.isEmpty = false := by have := h.2.1; cases hr : r.ver <;> simp_all
  have hmne : (mapOf (fields r) []).isEmpty = false := by
    have := mapOf_ne_nil (fields r) [] (Or.inl (fields_ne_nil r))
    cases hm : mapOf (fields r) [] <;> simp_all
  have hpr := parseRecord_fields (fields r) (fields_keys r h) rest hrest [] (Or.inl (fields_ne_nil r))
  have hlen : (rest.drop 1).length + 1 ≤ (recLines r ++ rest).length + 1 := by
    simp only [List.length_append, List.length_drop]; omega
  rw [← extract_eq_run _ _ _ hlen]
  simp only [run, recLines, extract, hpr, hmne, hP, hV, hn, hv, Bool.false_or, Bool.false_eq_true, if_false]

theorem bodyLines_eq (gap : Nat → Nat) : ∀ (rs : List GRec) (i : Nat), bodyLines gap i rs = stanzaLines recLines gap i rs
  | [], _ => rfl
  | [_], _ => rfl
  | r :: r' :: rest, i => by rw [bodyLines, stanzaLines, bodyLines_eq gap (r' :: rest)]

theorem run_fileLines (ℓ : Layout) (rs : List GRec) (hwf : WF rs) : run (fileLines ℓ rs) [] = some (installed rs) := by
  rw [fileLines, bodyLines_eq,
    stanzaFile_run recLines ℓ.gap run (fun r => [(r.name, r.ver)]) run_nil run_blank ℓ.tail rs
      (fun r hr rest acc => run_record r (hwf r hr) rest acc)]
  rw [installed, List.map_eq_flatMap, List.nil_append]

theorem recLines_clean (r : GRec) (hw : WFrec r) : ∀ l ∈ recLines r, cleanLine l := by
  intro l hl
  obtain ⟨kv, hkv, rfl⟩ := List.mem_map.mp hl
  have hx : okText kv.1 ∧ okText kv.2 := by
    rcases (mem_fields r kv).mp hkv with rfl | rfl | hm
    · exact ⟨by simp [okText], hw.2.2.1⟩
    · exact ⟨by simp [okText], hw.2.2.2.1⟩
    · exact ⟨(hw.2.2.2.2.1 kv hm).1, (hw.2.2.2.2.1 kv hm).2.1⟩
  exact cleanLine_of_ok (okText_append _ _ hx.1 (okText_cons ':' _ (by decide) hx.2)) (hw.2.2.2.2.2 kv hkv)

theorem fileLines_clean (ℓ : Layout) (rs : List GRec) (hwf : WF rs) : ∀ l ∈ fileLines ℓ rs, cleanLine l := by
  rw [fileLines, bodyLines_eq]
  exact stanzaFile_clean recLines ℓ.gap ℓ.lead ℓ.tail rs (fun r hr => recLines_clean r (hwf r hr))

theorem recLines_getLast (r : GRec) : ∃ l, (recLines r).getLast? = some l ∧ l ≠ [] := by
  have hne : recLines r ≠ [] := by simp [recLines, fields_ne_nil r]
  refine ⟨(recLines r).getLast hne, List.getLast?_eq_some_getLast hne, ?_⟩
  obtain ⟨kv, _, hkv⟩ := List.mem_map.mp (List.getLast_mem hne)
  rw [← hkv]; simp [fieldLine]

theorem fileLines_endsOK (ℓ : Layout) (rs : List GRec) (h : LayoutOK ℓ rs) : endsOK (fileLines ℓ rs) ℓ.eols.final := by
  intro hf
  rw [fileLines, bodyLines_eq, (h hf).1]
  exact stanzaFile_endsOK recLines ℓ.gap ℓ.lead rs _ (fun hf => (h hf).2) (fun r _ => recLines_getLast r) hf

end Scalibr.Parsers.Apk
