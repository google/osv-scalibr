/-
Fuel adequacy on ARBITRARY input: the record loops of the apk, dpkg and requirements models take an iteration
bound (`lines + 2`, resp. `lines + 1`); here it is shown that the bound is never what ends the loop — every
iteration consumes at least one line or stops — so the result is the same for every larger bound. This is the
"terminates within a number of steps linear in the input" theorem for the modelled parsers.
-/
import Scalibr.Model.Parsers.Apk
import Scalibr.Model.Parsers.Dpkg
import Scalibr.Model.Parsers.Requirements
namespace Scalibr.Parsers

/-- the shape of the three arguments: when one iteration with positive fuel either answers without looking at the fuel or calls
the loop on fewer lines, any two bounds above the number of lines give the same result -/
theorem fuel_irrelevant {σ ρ : Type} (L : Nat → List Line → σ → ρ)
    (hstep : ∀ (a b : Nat) (ls : List Line) (s : σ),
      (∀ ls' s', ls'.length < ls.length → L a ls' s' = L b ls' s') → L (a + 1) ls s = L (b + 1) ls s)
    (ls : List Line) (s : σ) (f1 f2 : Nat) (h1 : ls.length < f1) (h2 : ls.length < f2) : L f1 ls s = L f2 ls s := by
  have key : ∀ (n : Nat) (ls : List Line) (s : σ) (f1 f2 : Nat), ls.length < n → n ≤ f1 → n ≤ f2 → L f1 ls s = L f2 ls s := by
    intro n
    induction n with
    | zero => intro ls s f1 f2 hl; omega
    | succ n ih =>
      intro ls s f1 f2 hl h1 h2
      obtain ⟨a, rfl⟩ : ∃ a, f1 = a + 1 := ⟨f1 - 1, by omega⟩
      obtain ⟨b, rfl⟩ : ∃ b, f2 = b + 1 := ⟨f2 - 1, by omega⟩
      exact hstep a b ls s (fun ls' s' h => ih ls' s' a b (by omega) (by omega) (by omega))
  exact key (ls.length + 1) ls s f1 f2 (Nat.lt_succ_self _) h1 h2

namespace Apk

theorem parseRecord_consumes (tl : Bool) : ∀ (ls : List Line) (g r : Rec) (rest : List Line),
    parseRecord tl ls g = some (r, rest) → rest.length ≤ ls.length ∧ (rest.length = ls.length → r = g) := by
  intro ls
  induction ls with
  | nil =>
    intro g r rest h
    simp only [parseRecord] at h
    split at h
    · cases h
    · simp at h; simp [← h.1, ← h.2]
  | cons l rest0 ih =>
    intro g r rest h
    simp only [parseRecord, List.length_cons] at h ⊢
    split at h
    · split at h
      · cases h
      · have := (ih _ _ _ h).1; omega
    · split at h
      · simp at h; rw [← h.2]; omega
      · have := (ih _ _ _ h).1; omega

/-- the iteration bound never ends the apk record loop: any two bounds above `lines` give the same result -/
theorem extract_fuel (tl : Bool) : ∀ (ls : List Line) (acc : List (List Char × List Char)) (f1 f2 : Nat),
    ls.length < f1 → ls.length < f2 → extract tl f1 ls acc = extract tl f2 ls acc := by
  refine fuel_irrelevant (extract tl) fun a b ls acc ih => ?_
  simp only [extract]
  cases hp : parseRecord tl ls [] with
  | none => rfl
  | some rr =>
    obtain ⟨r, rest⟩ := rr
    by_cases hr : r.isEmpty = true
    · simp [hr]
    · simp only [hr, Bool.false_eq_true, if_false]
      obtain ⟨hle, heq⟩ := parseRecord_consumes tl ls [] r rest hp
      exact ih rest _ (Nat.lt_of_le_of_ne hle fun e => hr (by rw [heq e]; rfl))

end Apk

namespace Dpkg

theorem stanza_consumes : ∀ (ls : List Line) (h : Hdr) (pend : Option (List Char)) (h' : Hdr) (eof : Bool) (rest : List Line),
    stanza ls h pend = some (h', eof, rest) → rest.length ≤ ls.length ∧ (rest.length = ls.length → eof = true) := by
  intro ls
  induction ls with
  | nil =>
    intro h pend h' eof rest hs
    simp only [stanza] at hs
    split at hs
    · cases hs
    · simp at hs; simp [← hs.2.1, ← hs.2.2]
  | cons l rest0 ih =>
    intro h pend h' eof rest hs
    simp only [stanza, List.length_cons] at hs ⊢
    split at hs
    · have := (ih _ _ _ _ _ hs).1; omega
    · split at hs
      · cases hs
      · split at hs
        · simp at hs; rw [← hs.2.2]; omega
        · split at hs
          · cases hs
          · have := (ih _ _ _ _ _ hs).1; omega

/-- the iteration bound never ends the dpkg record loop -/
theorem loop_fuel : ∀ (ls : List Line) (acc : List (List Char × List Char)) (f1 f2 : Nat),
    ls.length < f1 → ls.length < f2 → loop f1 ls acc = loop f2 ls acc := by
  refine fuel_irrelevant loop fun a b ls acc ih => ?_
  simp only [loop]
  split
  · rfl
  · cases hs : stanza ls [] none with
    | none => rfl
    | some x =>
      obtain ⟨h', eof, rest⟩ := x
      have hrec : ∀ acc', eof = false → loop a rest acc' = loop b rest acc' := by
        intro acc' he
        obtain ⟨hle, heq⟩ := stanza_consumes ls [] none h' eof rest hs
        exact ih rest acc' (Nat.lt_of_le_of_ne hle fun e => by rw [heq e] at he; cases he)
      cases eof with
      | true => simp
      | false =>
        simp only [Bool.false_eq_true, if_false]
        split
        · exact hrec _ rfl
        · split
          · rfl
          · exact hrec _ rfl
          · exact hrec _ rfl

end Dpkg

namespace Requirements

theorem readLogical_consumes : ∀ (ls : List Line) (b x : List Char) (rest : List Line),
    readLogical ls b = (x, rest) → rest.length ≤ ls.length - 1 := by
  intro ls
  induction ls with
  | nil => intro b x rest h; simp [readLogical] at h; simp [h.2]
  | cons l rest0 ih =>
    intro b x rest h
    simp only [readLogical] at h
    split at h
    · simp at h; simp [← h.2]
    · split at h
      · have := ih _ _ _ h; simp only [List.length_cons]; omega
      · simp at h; simp [← h.2]

/-- the iteration bound never ends the requirements loop -/
theorem loop_fuel : ∀ (ls : List Line) (acc : List (List Char × List Char)) (f1 f2 : Nat),
    ls.length < f1 → ls.length < f2 → loop f1 ls acc = loop f2 ls acc := by
  refine fuel_irrelevant loop fun a b ls acc ih => ?_
  cases ls with
  | nil => rfl
  | cons l rest =>
    simp only [loop]
    cases hr : readLogical (l :: rest) [] with
    | mk x rest' =>
      have := readLogical_consumes _ _ _ _ hr
      exact ih rest' _ (by simp only [List.length_cons] at this ⊢; omega)

end Requirements
end Scalibr.Parsers
