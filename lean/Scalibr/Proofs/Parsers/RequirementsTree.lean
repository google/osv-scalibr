/-
Proofs for the `-r` include closure of requirements files:
  (1) what one rendered file contributes to the queue: `includes (render ℓ rs) = targets`
  (2) the work list `walk` (any `visit` function): above the fuel bound the outcome does not depend on the fuel, and what a
      walk that came to its end has read (`Walked`)
  (3) reachable paths (`Reach`) and the checked certificate for them
  (4) the scan of a rendered top-level file over a rendered file system
-/
import Scalibr.Proofs.Parsers.Requirements
import Scalibr.Spec.Parsers.RequirementsTree
namespace Scalibr.Parsers.Requirements
open Scalibr.Parsers

/-! ### (1) include operands of a rendered file -/

theorem lineInc_of_norm_nil (l0 : List Char) (h : normLine l0 = []) : lineInc l0 = none := by
  unfold lineInc; rw [h]; rfl

theorem lineInc_rec (r : GRec) (hw : WFrec r) : lineInc (r.lead ++ core r) = none := by
  obtain ⟨c, t, hn, hc⟩ := (pieces r hw).head
  unfold lineInc
  simp [(normLine_rec r hw).2, hn, hasPrefix_cons, hc]

/-- the options that are cut start with "--" or "-C" -/
theorem optAt_dash (t : List Char) (h : t.head? ≠ some '-' ∧ t.head? ≠ some 'C') : optAt ('-' :: t) = false := by
  unfold optAt optionStarts; repeat rw [String.toList_ofList]
  cases t with
  | nil => rfl
  | cons c t => simp only [List.head?_cons, ne_eq, Option.some.injEq] at h; simp [hasPrefix_cons, h]

theorem plainOpt_plain : ∀ x ∈ special, plainOpt [x] = false := by decide +kernel

/-- an option line whose first character after the '-' is a name character other than 'r' is not an include -/
theorem lineInc_plain (t : List Char) (hp : plainOpt t = true) : lineInc ('-' :: t) = none := by
  cases t with
  | nil => simp [lineInc, normLine_plain ['-'] ['-'] rfl (optAt_dash [] (by simp)) rfl (by decide), hasPrefix]
  | cons c t' =>
    have hns : c ∉ special := fun hm => by have := plainOpt_plain c hm; rw [show plainOpt [c] = plainOpt (c :: t') from rfl, hp] at this; cases this
    have hr : c ≠ 'r' := by simp [plainOpt] at hp; exact hp.2
    rcases normLine_prefix '-' [c] t' (by simpa using ⟨(by decide : '-' ∉ special), hns⟩) with h | ⟨z, h⟩
    · exact lineInc_of_norm_nil _ h
    · simp [lineInc, show normLine ('-' :: c :: t') = '-' :: c :: z from h, hasPrefix_cons, hr]

/-- `-r<blanks><path>` is an include of `<path>` -/
theorem lineInc_incl (sp t : List Char) (hw : WFfiller (.incl sp t)) : lineInc ('-' :: 'r' :: (sp ++ t)) = some t := by
  obtain ⟨hs, _, ht, hh, _⟩ := hw
  have htp : ∀ c ∈ t, c ∉ special := fun c hc => pathChar_plain (List.all_eq_true.mp ht c hc)
  have hsafe : optSafe ('-' :: 'r' :: (sp ++ t)) = true := by
    rw [optSafe_cons, show isS '-' = false by decide]
    exact optSafe_append ('r' :: sp) t (by simpa using fun hm => (spTab_special hs _ hm).2.2.2.2 rfl) hh
      (optSafe_noS t fun c hc => (plain_props (htp c hc)).1)
  have hfil : ('-' :: 'r' :: (sp ++ t)).filter notWs = '-' :: 'r' :: t := by
    simp [show notWs '-' = true by decide, show notWs 'r' = true by decide, filter_spTab sp hs, filter_plain t htp]
  have hnorm := normLine_plain _ _ hsafe (optAt_dash _ (by simp)) hfil (by simpa using ⟨(by decide : '-' ∉ special), (by decide : 'r' ∉ special), htp⟩)
  simp [lineInc, hnorm, hasPrefix]

theorem lineInc_item (x : Filler ⊕ GRec) (h : Sum.elim WFfillerT WFrec x) :
    lineInc (itemText x) = Sum.elim incOf (fun _ => none) x := by
  cases x with
  | inr r => exact lineInc_rec r h
  | inl f =>
    cases f with
    | blank ws => exact lineInc_of_norm_nil _ (normLine_ws ws h.1.1)
    | comment ws t => exact lineInc_of_norm_nil _ (normLine_ws [] (by intro c hc; cases hc))
    | option t => exact lineInc_plain t h.2
    | incl sp t => exact lineInc_incl sp t h.1

theorem LayoutWFT.toWF {ℓ : Layout} {n : Nat} (h : LayoutWFT ℓ n) : LayoutWF ℓ n :=
  ⟨fun i hi f hf => (h.1 i hi f hf).1, fun f hf => (h.2 f hf).1⟩

theorem targets_eq (f : FileSpec) : (fileItems f.ℓ.before f.ℓ.after f.rs).filterMap (Sum.elim incOf (fun _ => none)) = targets f := by
  have : ∀ (rs : List GRec) (i : Nat), (bodyItems f.ℓ.before i rs).filterMap (Sum.elim incOf (fun _ => none)) = bodyIncs f.ℓ.before i rs := by
    intro rs
    induction rs with
    | nil => intro i; rfl
    | cons r rest ih => intro i; rw [bodyItems_filterMap]; simp [bodyIncs, ih]
  simp [fileItems, targets, this, List.filterMap_map, Function.comp_def]

/-- the include operands a rendered file puts on the queue are exactly its include lines, in file order -/
theorem includes_render (f : FileSpec) (hw : WFfile f) : includes (content f) = targets f := by
  obtain ⟨hwf, hlw, hl⟩ := hw
  have hitemsT := fileItems_forall f.ℓ.before f.ℓ.after f.rs WFfillerT WFrec hlw hwf
  have hitems := fileItems_forall f.ℓ.before f.ℓ.after f.rs WFfiller WFrec hlw.toWF hwf
  unfold includes content render
  rw [scan_unlines _ _ _ (fileLines_clean _ _ hitems) hl]
  simp only [incLoop_eq_logLoop]
  rw [logLoop_fileLines lineInc _ _ hitems _ (Nat.le_succ _), filterMap_congr fun x hx => lineInc_item x (hitemsT x hx), targets_eq]

/-! ### (2) the work list of `extractFromExtraPaths`, for any `visit` -/

section Walk
variable {α : Type} (visit : Line → Outcome (α × List Line))

/-- `p` can be opened and scanned -/
def Visitable (p : Line) : Prop := ∃ a i, visit p = .ok (a, i)

/-- what a walk that came to its end has read, `r`, given its queue and the paths it had found before: no path twice,
none that was found, with what `visit` returns for it; everything read hangs on the queue through includes of files
that were read (`sound`), and nothing readable that hangs on it is left out (`queue`, `closed`) -/
structure Walked (q found : List Line) (r : List (Line × α)) : Prop where
  nodup : (r.map (·.1)).Nodup
  fresh : ∀ x ∈ r.map (·.1), x ∉ found
  entry : ∀ x a, (x, a) ∈ r → ∃ i, visit x = .ok (a, i)
  sound : ∀ R : Line → Prop, (∀ y ∈ q, Visitable visit y → R y) →
    (∀ x a i, R x → x ∉ found → visit x = .ok (a, i) → ∀ y ∈ i, Visitable visit y → R y) → ∀ x ∈ r.map (·.1), R x
  queue : ∀ y ∈ q, Visitable visit y → y ∈ found ∨ y ∈ r.map (·.1)
  closed : ∀ x ∈ r.map (·.1), ∀ a i, visit x = .ok (a, i) → ∀ y ∈ i, Visitable visit y → y ∈ found ∨ y ∈ r.map (·.1)

variable {visit}

theorem Walked.nil (found : List Line) : Walked visit [] found [] :=
  ⟨List.nodup_nil, nofun, nofun, fun _ _ _ => nofun, nofun, nofun⟩

theorem Walked.skip {p : Line} {q found : List Line} {r : List (Line × α)} (hp : p ∈ found ∨ visit p = .err)
    (h : Walked visit q found r) : Walked visit (p :: q) found r :=
  { h with
    sound := fun R hq hc => h.sound R (fun y hy => hq y (List.mem_cons_of_mem _ hy)) hc
    queue := fun y hy hv => by
      rcases List.mem_cons.mp hy with rfl | hy
      · rcases hp with hp | hp
        · exact Or.inl hp
        · obtain ⟨a, i, hv⟩ := hv; rw [hp] at hv; cases hv
      · exact h.queue y hy hv }

theorem Walked.read {p : Line} {q found : List Line} {a : α} {incs : List Line} {r : List (Line × α)} (hp : p ∉ found)
    (hv : visit p = .ok (a, incs)) (h : Walked visit (q ++ incs) (p :: found) r) : Walked visit (p :: q) found ((p, a) :: r) := by
  have key : ∀ z, z ∈ p :: found ∨ z ∈ r.map (·.1) → z ∈ found ∨ z ∈ ((p, a) :: r).map (·.1) := by
    intro z hz
    simp only [List.map_cons, List.mem_cons] at hz ⊢
    rcases hz with (hz | hz) | hz
    · exact Or.inr (Or.inl hz)
    · exact Or.inl hz
    · exact Or.inr (Or.inr hz)
  refine ⟨List.nodup_cons.mpr ⟨fun hm => h.fresh p hm (by simp), h.nodup⟩, ?_, ?_, ?_, ?_, ?_⟩
  · intro x hx
    rcases List.mem_cons.mp hx with rfl | hx
    · exact hp
    · exact fun hf => h.fresh x hx (List.mem_cons_of_mem _ hf)
  · intro x b hx
    rcases List.mem_cons.mp hx with e | hx
    · cases e; exact ⟨incs, hv⟩
    · exact h.entry x b hx
  · intro R hq hc x hx
    have hRp : R p := hq p (by simp) ⟨a, incs, hv⟩
    rcases List.mem_cons.mp hx with rfl | hx
    · exact hRp
    · refine h.sound R (fun y hy hvis => ?_) (fun x' a' i' hR hnf => hc x' a' i' hR (fun hf => hnf (List.mem_cons_of_mem _ hf))) x hx
      rcases List.mem_append.mp hy with hy | hy
      · exact hq y (List.mem_cons_of_mem _ hy) hvis
      · exact hc p a incs hRp hp hv y hy hvis
  · intro y hy hvis
    rcases List.mem_cons.mp hy with rfl | hy
    · exact Or.inr (by simp)
    · exact key y (h.queue y (List.mem_append_left _ hy) hvis)
  · intro x hx a' i' hv' y hy hvis
    rcases List.mem_cons.mp hx with rfl | hx
    · rw [hv] at hv'; cases hv'
      exact key y (h.queue y (List.mem_append_right _ hy) hvis)
    · exact key y (h.closed x hx a' i' hv' y hy hvis)

variable (visit)

theorem walk_nil (n : Nat) (found : List Line) : walk visit n [] found = .ok [] := by
  cases n <;> rfl

theorem walk_skip (n : Nat) (p : Line) (q found : List Line) (h : p ∈ found ∨ visit p = .err) :
    walk visit (n + 1) (p :: q) found = walk visit n q found := by
  by_cases hp : p ∈ found
  · simp [walk, hp]
  · simp [walk, hp, h.resolve_left hp]

theorem walk_panic (n : Nat) (p : Line) (q found : List Line) (h : p ∉ found) (hv : visit p = .panic) :
    walk visit (n + 1) (p :: q) found = .panic := by
  simp [walk, h, hv]

theorem walk_read (n : Nat) (p : Line) (q found : List Line) (a : α) (incs : List Line) (h : p ∉ found)
    (hv : visit p = .ok (a, incs)) :
    walk visit (n + 1) (p :: q) found = pushRead (p, a) (walk visit n (q ++ incs) (p :: found)) := by
  simp [walk, h, hv]

/-- queue entries the files of `univ` that were not read yet can still add, plus one per such file -/
def cost (found : List Line) : List Line → Nat
  | [] => 0
  | u :: us => (if u ∈ found then 0 else 1 + incCount visit u) + cost found us

theorem cost_mono (p : Line) (found : List Line) : ∀ us, cost visit (p :: found) us ≤ cost visit found us := by
  intro us
  induction us with
  | nil => exact Nat.le_refl _
  | cons u us ih =>
    simp only [cost, List.mem_cons]
    split <;> split <;> simp_all <;> omega

/-- reading a file of `univ` pays for the queue entries it adds -/
theorem cost_step (p : Line) (found : List Line) (hp : p ∉ found) {a : α} {incs : List Line} (hv : visit p = .ok (a, incs)) :
    ∀ us, p ∈ us → cost visit (p :: found) us + (1 + incs.length) ≤ cost visit found us := by
  intro us
  induction us with
  | nil => intro h; cases h
  | cons u us ih =>
    intro hm
    by_cases h2 : u = p
    · subst h2
      have := cost_mono visit u found us
      simp only [cost, List.mem_cons, true_or, if_true, hp, if_false, incCount, hv]
      omega
    · have := ih ((List.mem_cons.mp hm).resolve_left (Ne.symm h2))
      simp only [cost, List.mem_cons, h2, false_or]
      split <;> omega

theorem cost_le_total (found : List Line) : ∀ us, cost visit found us ≤ (us.map fun u => 1 + incCount visit u).sum := by
  intro us
  induction us with
  | nil => exact Nat.le_refl _
  | cons u us ih =>
    simp only [cost, List.map_cons, List.sum_cons]
    split <;> omega

/-- with more fuel than queue entries and their possible additions the outcome is the same whatever the fuel, and — no
`visit` panicking — a normal end after a walk that came to its end -/
theorem walk_spec (univ : List Line) (hu : ∀ p, Visitable visit p → p ∈ univ) :
    ∀ (n : Nat) (q found : List Line), q.length + cost visit found univ < n →
    ∃ o, (∀ m, q.length + cost visit found univ < m → walk visit m q found = o) ∧
      ((∀ p, visit p ≠ .panic) → ∃ r, o = .ok r ∧ Walked visit q found r) := by
  intro n
  induction n with
  | zero => intro q found h; omega
  | succ n ih =>
    intro q found hb
    cases q with
    | nil => exact ⟨.ok [], fun m _ => walk_nil visit m found, fun _ => ⟨[], rfl, .nil found⟩⟩
    | cons p q =>
      simp only [List.length_cons] at hb ⊢
      have hsucc : ∀ m, q.length + 1 + cost visit found univ < m → ∃ k, m = k + 1 := fun m h => ⟨m - 1, by omega⟩
      by_cases hs : p ∈ found ∨ visit p = .err
      · obtain ⟨o, h1, h2⟩ := ih q found (by omega)
        refine ⟨o, fun m hm => ?_, fun hnp => ?_⟩
        · obtain ⟨k, rfl⟩ := hsucc m hm
          rw [walk_skip visit k p q found hs]; exact h1 k (by omega)
        · obtain ⟨r, ho, hr⟩ := h2 hnp
          exact ⟨r, ho, hr.skip hs⟩
      · obtain ⟨hp, he⟩ := not_or.mp hs
        cases hv : visit p with
        | err => exact absurd hv he
        | panic =>
          refine ⟨.panic, fun m hm => ?_, fun hnp => absurd hv (hnp p)⟩
          obtain ⟨k, rfl⟩ := hsucc m hm
          exact walk_panic visit k p q found hp hv
        | ok ai =>
          obtain ⟨a, incs⟩ := ai
          have hstep := cost_step visit p found hp hv univ (hu p ⟨a, incs, hv⟩)
          obtain ⟨o, h1, h2⟩ := ih (q ++ incs) (p :: found) (by simp only [List.length_append]; omega)
          refine ⟨pushRead (p, a) o, fun m hm => ?_, fun hnp => ?_⟩
          · obtain ⟨k, rfl⟩ := hsucc m hm
            rw [walk_read visit k p q found a incs hp hv, h1 k (by simp only [List.length_append]; omega)]
          · obtain ⟨r, rfl, hr⟩ := h2 hnp
            exact ⟨(p, a) :: r, rfl, hr.read hp hv⟩

/-- fuel adequacy: above the bound the result does not depend on the fuel (the Go loop has none) -/
theorem walk_fuel (univ : List Line) (hu : ∀ p, Visitable visit p → p ∈ univ) (n m : Nat) (q found : List Line)
    (hn : q.length + cost visit found univ < n) (hm : q.length + cost visit found univ < m) :
    walk visit n q found = walk visit m q found := by
  obtain ⟨o, h, _⟩ := walk_spec visit univ hu n q found hn
  rw [h n hn, h m hm]

theorem walk_walked (hnp : ∀ p, visit p ≠ .panic) (univ : List Line) (hu : ∀ p, Visitable visit p → p ∈ univ) (n : Nat)
    (q found : List Line) (hn : q.length + cost visit found univ < n) : ∃ r, walk visit n q found = .ok r ∧ Walked visit q found r := by
  obtain ⟨o, h1, h2⟩ := walk_spec visit univ hu n q found hn
  obtain ⟨r, rfl, hr⟩ := h2 hnp
  exact ⟨r, h1 n hn, hr⟩

end Walk

/-! ### (3) reachable paths and the certificate for them -/

theorem reach_edge {files : List FileSpec} {top : FileSpec} {p q : Line} (hp : Reach files top p) (hq : q ∈ edges files top p)
    (hs : (holder files top q).isSome) : Reach files top q := by
  unfold edges at hq
  cases hf : holder files top p with
  | none => simp [hf] at hq
  | some f => exact Reach.step hp hf (by simpa [hf] using hq) hs

theorem reach_subset {files : List FileSpec} {top : FileSpec} (all : List Line) (htop : top.path ∈ all)
    (hcl : ∀ s ∈ all, ∀ y ∈ edges files top s, (holder files top y).isSome → y ∈ all) : ∀ p, Reach files top p → p ∈ all := by
  intro p hp
  induction hp with
  | top => exact htop
  | @step p' q f _ hf hq hsome ih => exact hcl p' ih q (by unfold edges; rw [hf]; exact hq) hsome

theorem chainOK_sound (files : List FileSpec) (top : FileSpec) : ∀ (ps seen : List Line),
    (∀ s ∈ seen, Reach files top s) → chainOK files top seen ps = true → ∀ p ∈ ps, Reach files top p := by
  intro ps
  induction ps with
  | nil => intro _ _ _ p hp; cases hp
  | cons a ps ih =>
    intro seen hseen h
    simp only [chainOK, Bool.and_eq_true, List.any_eq_true, decide_eq_true_eq] at h
    obtain ⟨⟨⟨s, hs, hedge⟩, hsome⟩, hrest⟩ := h
    have ha : Reach files top a := reach_edge (hseen s hs) hedge hsome
    exact List.forall_mem_cons.mpr ⟨ha, ih (a :: seen) (List.forall_mem_cons.mpr ⟨ha, hseen⟩) hrest⟩

/-- a list that passes the check is a duplicate-free enumeration of the reachable paths other than the top-level one -/
theorem reachCert_iff (files : List FileSpec) (top : FileSpec) (ps : List Line) (h : isReachCert files top ps = true) :
    ps.Nodup ∧ ∀ p, p ∈ ps ↔ (p ≠ top.path ∧ Reach files top p) := by
  simp only [isReachCert, Bool.and_eq_true, decide_eq_true_eq, closedOK, List.all_eq_true, Bool.or_eq_true, Bool.not_eq_true'] at h
  obtain ⟨⟨⟨hnd, hnt⟩, hchain⟩, hclosed⟩ := h
  refine ⟨hnd, fun p => ⟨fun hp => ⟨fun e => hnt (e ▸ hp), ?_⟩, fun ⟨hne, hr⟩ => ?_⟩⟩
  · exact chainOK_sound files top ps [top.path] (fun s hs => by cases List.mem_singleton.mp hs; exact Reach.top) hchain p hp
  · exact (List.mem_cons.mp (reach_subset (top.path :: ps) (List.mem_cons_self ..)
      (fun s hs y hy hsome => (hclosed s hs y hy).resolve_left (by simp [hsome])) p hr)).resolve_left hne

/-! ### (4) the scan of a rendered tree -/

theorem parse_ne_panic (bytes : List Char) : parse bytes ≠ .panic := by
  rw [parse_eq]; split <;> simp

theorem visit_ne_panic (fs : Files) (p : Line) : visit fs p ≠ .panic := by
  unfold visit
  cases openFile fs p with
  | none => simp
  | some b =>
    have := parse_ne_panic b
    cases h : parse b <;> simp_all

theorem visitable_mem (fs : Files) (p : Line) (h : Visitable (visit fs) p) : p ∈ fs.map (·.1) := by
  obtain ⟨a, i, h⟩ := h
  unfold visit openFile at h
  cases hf : fs.find? (fun x => x.1 = p) with
  | none => simp [hf] at h
  | some x => exact List.mem_map.mpr ⟨x, List.mem_of_find?_eq_some hf, by simpa using List.find?_some hf⟩

theorem walkFuel_bound (fs : Files) (q found : List Line) : q.length + cost (visit fs) found (fs.map (·.1)) < walkFuel fs q := by
  have := cost_le_total (visit fs) found (fs.map (·.1))
  rw [List.map_map] at this
  exact Nat.lt_succ_of_le (Nat.add_le_add_left this _)

theorem walk_fuel_adequate (fs : Files) (q : List Line) (top : Line) (k : Nat) :
    walk (visit fs) (walkFuel fs q + k) q [top] = walk (visit fs) (walkFuel fs q) q [top] :=
  walk_fuel (visit fs) _ (visitable_mem fs) _ _ q [top]
    (Nat.lt_of_lt_of_le (walkFuel_bound fs q [top]) (Nat.le_add_right _ _)) (walkFuel_bound fs q [top])

theorem visit_filesOf (files : List FileSpec) (hwf : ∀ f ∈ files, WFfile f) (p : Line) :
    visit (filesOf files) p = match fileAt files p with
      | none => .err
      | some f => .ok (installed f.rs, (targets f).map (resolve p)) := by
  have ho : openFile (filesOf files) p = (fileAt files p).map content := by
    simp [openFile, filesOf, fileAt, List.find?_map, Function.comp_def]
  cases h : fileAt files p with
  | none => simp [visit, ho, h]
  | some f =>
    have hw := hwf f (List.mem_of_find?_eq_some h)
    have hp : parse (content f) = .ok (installed f.rs) := parse_render f.ℓ f.rs hw.1 hw.2.1.toWF hw.2.2
    simp [visit, ho, h, hp, includes_render f hw]

theorem visit_ok {files : List FileSpec} (hwf : ∀ f ∈ files, WFfile f) {p : Line} {a : List (List Char × List Char)} {i : List Line}
    (h : visit (filesOf files) p = .ok (a, i)) : ∃ f, fileAt files p = some f ∧ a = installed f.rs ∧ i = (targets f).map (resolve p) := by
  rw [visit_filesOf files hwf] at h
  cases hf : fileAt files p with
  | none => simp [hf] at h
  | some f => simp only [hf, Outcome.ok.injEq, Prod.mk.injEq] at h; exact ⟨f, rfl, h.1.symm, h.2.symm⟩

theorem extractAll_render (files : List FileSpec) (top : FileSpec) (hwf : ∀ f ∈ top :: files, WFfile f) :
    ∃ order : List Line,
      extractAll (filesOf files) top.path (content top)
        = .ok ((installed top.rs).map (fun x => (x.1, x.2, [top.path])) ++ order.flatMap (pinsAt files top.path))
      ∧ order.Nodup ∧ ∀ p, p ∈ order ↔ (p ≠ top.path ∧ Reach files top p) := by
  have hwfF : ∀ f ∈ files, WFfile f := fun f hf => hwf f (List.mem_cons_of_mem _ hf)
  have hwt : WFfile top := hwf top (List.mem_cons_self ..)
  obtain ⟨r, hr, hw⟩ := walk_walked (visit (filesOf files)) (visit_ne_panic _) _ (visitable_mem _) _
    ((targets top).map (resolve top.path)) [top.path] (walkFuel_bound _ _ _)
  have htop : edges files top top.path = (targets top).map (resolve top.path) := by simp [edges, holder]
  have hedge : ∀ x a i, x ∉ [top.path] → visit (filesOf files) x = .ok (a, i) → i = edges files top x := by
    intro x a i hx hv
    obtain ⟨f, hf, _, hi⟩ := visit_ok hwfF hv
    have hx : x ≠ top.path := fun e => hx (List.mem_singleton.mpr e)
    simp [edges, holder, hx, hf, hi]
  have hvis : ∀ y, Visitable (visit (filesOf files)) y → (holder files top y).isSome := by
    rintro y ⟨a, i, hv⟩
    obtain ⟨f, hf, _⟩ := visit_ok hwfF hv
    unfold holder; split <;> simp [hf]
  have hvis' : ∀ y, y ≠ top.path → (holder files top y).isSome → Visitable (visit (filesOf files)) y := by
    intro y hy hs
    rw [holder, if_neg hy] at hs
    obtain ⟨f, hf⟩ := Option.isSome_iff_exists.mp hs
    exact ⟨_, _, by rw [visit_filesOf files hwfF, hf]⟩
  refine ⟨r.map (·.1), ?_, hw.nodup, fun p => ⟨fun hp => ⟨fun e => hw.fresh p hp (by simp [e]), ?_⟩, fun ⟨hne, hreach⟩ => ?_⟩⟩
  · have hpins : ∀ y ∈ r, y.2.map (fun x => (x.1, x.2, [top.path, y.1])) = pinsAt files top.path y.1 := by
      intro y hy
      obtain ⟨i, hi⟩ := hw.entry y.1 y.2 hy
      obtain ⟨f, hf, ha, _⟩ := visit_ok hwfF hi
      simp [pinsAt, hf, ha]
    unfold extractAll
    rw [show parse (content top) = .ok (installed top.rs) from parse_render top.ℓ top.rs hwt.1 hwt.2.1.toWF hwt.2.2]
    simp only [includes_render top hwt, hr, List.flatMap_def]
    rw [List.map_congr_left hpins, List.map_map]
    rfl
  · exact hw.sound (Reach files top) (fun y hy hv => reach_edge .top (htop ▸ hy) (hvis y hv))
      (fun x a i hR hx hvx y hy hv => reach_edge hR (hedge x a i hx hvx ▸ hy) (hvis y hv)) p hp
  · refine (List.mem_cons.mp (reach_subset (top.path :: r.map (·.1)) (List.mem_cons_self ..) ?_ p hreach)).resolve_left hne
    intro s hs y hy hsome
    by_cases hyt : y = top.path
    · exact hyt ▸ List.mem_cons_self ..
    · have hin : y ∈ [top.path] ∨ y ∈ r.map (·.1) → y ∈ top.path :: r.map (·.1) := fun h =>
        h.elim (fun h => absurd (List.mem_singleton.mp h) hyt) (List.mem_cons_of_mem _)
      rcases List.mem_cons.mp hs with rfl | hs
      · exact hin (hw.queue y (htop ▸ hy) (hvis' y hyt hsome))
      · obtain ⟨⟨s', a⟩, hsa, rfl⟩ := List.mem_map.mp hs
        obtain ⟨i, hi⟩ := hw.entry s' a hsa
        exact hin (hw.closed s' hs a i hi y (hedge s' a i (hw.fresh s' hs) hi ▸ hy) (hvis' y hyt hsome))

end Scalibr.Parsers.Requirements
