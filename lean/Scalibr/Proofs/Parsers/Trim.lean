/-
Lemmas about the byte-level model of `strings.TrimSpace`: in-line white space around a line whose first
character is printable ASCII is removed, and nothing at or before a printable ASCII character is ever removed
from the right.
-/
import Scalibr.Spec.Parsers.Layout
namespace Scalibr.Parsers

theorem isAsciiSp_inline (c : Char) (h : c = ' ' ∨ c = '\t' ∨ c.toNat = 11 ∨ c.toNat = 12) : isAsciiSp c = true := by
  unfold isAsciiSp
  rcases h with h | h | h | h <;> simp [h]

theorem isAsciiSp_graphic (c : Char) (h : graphic c) : isAsciiSp c = false := by
  unfold isAsciiSp
  unfold graphic at h
  have h1 : c ≠ ' ' := by rintro rfl; simp at h
  have h2 : c ≠ '\t' := by rintro rfl; simp at h
  have h3 : c ≠ '\n' := by rintro rfl; simp at h
  have h4 : c ≠ '\r' := by rintro rfl; simp at h
  have h5 : c.toNat ≠ 11 := by omega
  have h6 : c.toNat ≠ 12 := by omega
  simp [h1, h2, h3, h4, h5, h6]

theorem leadSpace_graphic (c : Char) (t : List Char) (h : graphic c) : leadSpace (c :: t) = 0 := by
  have hs := isAsciiSp_graphic c h
  unfold graphic at h
  have h1 : c.toNat ≠ 0xC2 := by omega
  have h2 : c.toNat ≠ 0xE1 := by omega
  have h3 : c.toNat ≠ 0xE2 := by omega
  have h4 : c.toNat ≠ 0xE3 := by omega
  simp [leadSpace, hs, h1, h2, h3, h4]

theorem leadSpace_ws (c : Char) (t : List Char) (h : isAsciiSp c = true) : leadSpace (c :: t) = 1 := by
  simp [leadSpace, h]

theorem trimLeft_ws (rest : List Char) (h0 : leadSpace rest = 0) :
    ∀ (ws : List Char) (f : Nat), inlineWs ws → ws.length ≤ f → trimLeft f (ws ++ rest) = rest := by
  intro ws
  induction ws with
  | nil =>
    intro f _ _
    cases f with
    | zero => rfl
    | succ f => simp [trimLeft, h0]
  | cons w ws ih =>
    intro f hw hf
    obtain ⟨f', rfl⟩ : ∃ f', f = f' + 1 := ⟨f - 1, by simp at hf; omega⟩
    have h1 : leadSpace (w :: (ws ++ rest)) = 1 := leadSpace_ws _ _ (isAsciiSp_inline w (hw w (by simp)))
    simp only [List.cons_append, trimLeft, h1, List.drop_succ_cons, List.drop_zero]
    exact ih f' (fun x hx => hw x (by simp [hx])) (by simp at hf; omega)

theorem trailSpace_take (s : List Char) : ∀ x ∈ s.take (trailSpace s), isAsciiSp x = true ∨ 0x80 ≤ x.toNat := by
  intro x hx
  unfold trailSpace at hx
  split at hx
  · simp at hx
  · rename_i c rest
    split at hx
    · simp only [List.take_succ_cons, List.take_zero, List.mem_singleton] at hx
      subst hx; left; assumption
    · split at hx
      · rename_i d rest2
        split at hx
        · rename_i h
          simp only [Bool.and_eq_true, Bool.or_eq_true, decide_eq_true_eq] at h
          simp only [List.take_succ_cons, List.take_zero, List.mem_cons, List.not_mem_nil, or_false] at hx
          rcases hx with rfl | rfl <;> right <;> omega
        · split at hx
          · rename_i e _
            split at hx
            · rename_i h
              simp only [e280, Bool.and_eq_true, Bool.or_eq_true, decide_eq_true_eq] at h
              simp only [List.take_succ_cons, List.take_zero, List.mem_cons, List.not_mem_nil, or_false] at hx
              rcases hx with rfl | rfl | rfl <;> right <;> omega
            · simp at hx
          · simp at hx
      · simp at hx

/-- a space sequence at the end of a string never reaches a printable ASCII character -/
theorem trailSpace_le (a b : List Char) (d : Char) (hd : graphic d) : trailSpace (a ++ d :: b) ≤ a.length := by
  apply Nat.le_of_not_lt
  intro hlt
  have hm : d ∈ (a ++ d :: b).take (trailSpace (a ++ d :: b)) := by
    rw [List.take_append]
    exact List.mem_append_right _ (by
      obtain ⟨k, hk⟩ : ∃ k, trailSpace (a ++ d :: b) - a.length = k + 1 := ⟨_, (Nat.succ_pred_eq_of_pos (Nat.sub_pos_of_lt hlt)).symm⟩
      rw [hk]; simp)
  rcases trailSpace_take _ d hm with h | h
  · rw [isAsciiSp_graphic d hd] at h; cases h
  · unfold graphic at hd; omega
/-- trimming from the right keeps everything up to and including a printable ASCII character -/
theorem trimRightRev_keep (b : List Char) (d : Char) (hd : graphic d) :
    ∀ (f : Nat) (a : List Char), ∃ a', trimRightRev f (a ++ d :: b) = a' ++ d :: b := by
  intro f
  induction f with
  | zero => intro a; exact ⟨a, rfl⟩
  | succ f ih =>
    intro a
    have hle := trailSpace_le a b d hd
    simp only [trimRightRev]
    split
    · exact ⟨a, rfl⟩
    · rename_i n _
      have : (a ++ d :: b).drop (trailSpace (a ++ d :: b)) = a.drop (trailSpace (a ++ d :: b)) ++ d :: b := by
        rw [List.drop_append_of_le_length hle]
      rw [this]
      exact ih _

theorem trimRightRev_nil (f : Nat) : trimRightRev f [] = [] := by
  cases f <;> simp [trimRightRev, trailSpace]

/-- white space, then text starting with a printable character and containing a printable character `d`:
`TrimSpace` removes the leading white space and nothing up to `d` -/
theorem trimSpace_core (ws p rest : List Char) (c d : Char) (q : List Char) (hws : inlineWs ws)
    (hp : p ++ [d] = c :: q) (hc : graphic c) (hd : graphic d) :
    ∃ rest', trimSpace (ws ++ (p ++ d :: rest)) = p ++ d :: rest' := by
  have e : p ++ d :: rest = c :: (q ++ rest) := by
    have : p ++ d :: rest = (p ++ [d]) ++ rest := by simp
    rw [this, hp]; simp
  unfold trimSpace
  have hl : trimLeft (ws ++ (p ++ d :: rest)).length (ws ++ (p ++ d :: rest)) = p ++ d :: rest := by
    rw [e]; exact trimLeft_ws _ (leadSpace_graphic c _ hc) ws _ hws (by simp)
  simp only [hl]
  have hr : (p ++ d :: rest).reverse = rest.reverse ++ d :: p.reverse := by simp
  rw [hr]
  obtain ⟨a', ha⟩ := trimRightRev_keep p.reverse d hd (p ++ d :: rest).length rest.reverse
  rw [ha]
  exact ⟨a'.reverse, by simp⟩

theorem trimSpace_all_ws (ws : List Char) (h : inlineWs ws) : trimSpace ws = [] := by
  have := trimLeft_ws [] rfl ws _ h (Nat.le_refl _)
  rw [List.append_nil] at this
  simp [trimSpace, this, trimRightRev_nil]

end Scalibr.Parsers
