/-
From bytes to lines, and from lines to records.

Byte-to-line lemmas: reading the bytes of `unlines` gives back the lines, for every mix of LF/CRLF and with or without a
final newline — for `bufio.Scanner` (`scan`) and for `bufio.Reader.ReadLine` (`Dpkg.rlines`), both from one statement about
the raw chunks with their "terminated" flags.

Layout shapes: the Spec files describe two kinds of file twice each — records separated by blank lines (apk, dpkg) and
record lines with filler lines around them (gradle, requirements). Each shape is given here once, over variable record and
filler types, with the facts the round-trip proofs need.
-/
import Scalibr.Spec.Parsers.Layout
import Scalibr.Model.Parsers.Dpkg
import Scalibr.Proofs.Parsers.Common
namespace Scalibr.Parsers

theorem okText_append (a b : List Char) (ha : okText a) (hb : okText b) : okText (a ++ b) := by
  unfold okText at *; simp only [List.mem_append]; exact ⟨fun h => h.elim ha.1 hb.1, fun h => h.elim ha.2 hb.2⟩

theorem okText_cons (c : Char) (b : List Char) (hc : c ≠ '\n' ∧ c ≠ '\r') (hb : okText b) : okText (c :: b) := by
  unfold okText at *; simp only [List.mem_cons]
  exact ⟨fun h => h.elim (fun e => hc.1 e.symm) hb.1, fun h => h.elim (fun e => hc.2 e.symm) hb.2⟩

theorem okText_of_forall (p : Char → Prop) (l : List Char) (h : ∀ c ∈ l, p c) (hn : ¬ p '\n') (hr : ¬ p '\r') : okText l :=
  ⟨fun hm => hn (h _ hm), fun hm => hr (h _ hm)⟩

theorem inlineWs_ok (ws : List Char) (h : inlineWs ws) : okText ws :=
  okText_of_forall _ ws h (by decide) (by decide)

theorem cleanLine_of_ok {l : Line} (h : okText l) (hl : l.length + 1 < maxTok) : cleanLine l := ⟨h.1, h.2, hl⟩

theorem cleanLine_nil : cleanLine ([] : Line) := by unfold cleanLine maxTok; simp

open Dpkg (rchunks rlines)

theorem rchunks_line (l s : List Char) (h : '\n' ∉ l) :
    ∀ cur, rchunks (l ++ '\n' :: s) cur = (cur.reverse ++ l, true) :: rchunks s [] := by
  induction l with
  | nil => intro cur; simp [rchunks]
  | cons c l ih =>
    intro cur
    have hc : c ≠ '\n' := by intro e; subst e; simp at h
    have hl : '\n' ∉ l := by intro e; exact h (by simp [e])
    simp only [List.cons_append, rchunks, hc, if_false]
    rw [ih hl]; simp

theorem rchunks_last (l : List Char) (h : '\n' ∉ l) :
    ∀ cur, rchunks l cur = if (cur.reverse ++ l).isEmpty then [] else [(cur.reverse ++ l, false)] := by
  induction l with
  | nil => intro cur; simp [rchunks]
  | cons c l ih =>
    intro cur
    have hc : c ≠ '\n' := by intro e; subst e; simp at h
    have hl : '\n' ∉ l := by intro e; exact h (by simp [e])
    simp only [rchunks, hc, if_false]
    rw [ih hl]; simp

theorem chunks_eq_rchunks : ∀ (s cur : List Char), chunks s cur = (rchunks s cur).map (·.1) := by
  intro s
  induction s with
  | nil => intro cur; simp only [chunks, rchunks]; split <;> rfl
  | cons c s ih =>
    intro cur
    simp only [chunks, rchunks]
    split
    · rw [List.map_cons, ih]
    · exact ih _

/-- the raw chunks of a rendered file and whether each was terminated: the lines, with a CR on those written CRLF -/
def rawLines : List Line → List Bool → Bool → List (List Char × Bool)
  | [], _, _ => []
  | [l], cr, fin => [(l ++ (if fin && cr.headD false then ['\r'] else []), fin)]
  | l :: l' :: ls, cr, fin => (l ++ (if cr.headD false then ['\r'] else []), true) :: rawLines (l' :: ls) cr.tail fin

theorem unlines_cons_cons (l l' : Line) (ls : List Line) (cr : List Bool) (fin : Bool) :
    unlines (l :: l' :: ls) cr fin = (l ++ (if cr.headD false then ['\r'] else [])) ++ '\n' :: unlines (l' :: ls) cr.tail fin := by
  simp only [unlines, eol]
  generalize cr.headD false = b
  cases b <;> simp

theorem rchunks_unlines (ls : List Line) (hc : ∀ l ∈ ls, '\n' ∉ l ∧ '\r' ∉ l) :
    ∀ (cr : List Bool) (fin : Bool), endsOK ls fin → rchunks (unlines ls cr fin) [] = rawLines ls cr fin := by
  induction ls with
  | nil => intro cr fin _; rfl
  | cons l ls ih =>
    intro cr fin he
    have hl := (hc l (by simp)).1
    have hraw : '\n' ∉ l ++ (if cr.headD false then ['\r'] else []) := by split <;> simp [hl]
    cases ls with
    | nil =>
      cases fin with
      | false =>
        have hne : l ≠ [] := by intro e; apply he rfl; simp [e]
        simp [unlines, rawLines, rchunks_last l hl, hne]
      | true =>
        have e : unlines [l] cr true = (l ++ (if cr.headD false then ['\r'] else [])) ++ '\n' :: [] := by
          simp only [unlines, eol, if_true]
          generalize cr.headD false = b
          cases b <;> simp
        rw [e, rchunks_line _ [] hraw]
        simp [rawLines, rchunks]
    | cons l' ls' =>
      have he' : endsOK (l' :: ls') fin := by
        intro hf; have := he hf; simpa [List.getLast?_cons_cons] using this
      rw [unlines_cons_cons, rchunks_line _ _ hraw, ih (fun x hx => hc x (by simp [hx])) cr.tail fin he']
      simp [rawLines]

theorem dropCR_noCR (l : List Char) (h : '\r' ∉ l) : dropCR l = l := by
  unfold dropCR
  split
  · rename_i hlast
    exact absurd (List.mem_of_getLast? hlast) h
  · rfl

theorem dropCR_append_CR (l : List Char) : dropCR (l ++ ['\r']) = l := by
  simp [dropCR]

theorem dropCR_raw (l : List Char) (h : '\r' ∉ l) (b : Bool) : dropCR (l ++ (if b then ['\r'] else [])) = l := by
  cases b
  · simpa using dropCR_noCR l h
  · exact dropCR_append_CR l

/-- dropping the CRs gives the lines back; an unterminated last chunk has none, so it makes no difference whether the reader
strips it (`bufio.Scanner`) or not (`ReadLine`) -/
theorem rawLines_dropCR (ls : List Line) (hc : ∀ l ∈ ls, '\r' ∉ l) (strip : Bool) :
    ∀ (cr : List Bool) (fin : Bool), (rawLines ls cr fin).map (fun ct => if ct.2 || strip then dropCR ct.1 else ct.1) = ls := by
  induction ls with
  | nil => intro cr fin; rfl
  | cons l ls ih =>
    intro cr fin
    have hl := hc l (by simp)
    cases ls with
    | nil =>
      cases fin
      · simp [rawLines, dropCR_noCR l hl]
      · simp [rawLines, dropCR_raw l hl]
    | cons l' ls' =>
      have ih' := ih (fun x hx => hc x (by simp [hx])) cr.tail fin
      simp only [rawLines, List.map_cons, Bool.true_or, if_true, dropCR_raw l hl, ih']

theorem rawLines_short (ls : List Line) (hc : ∀ l ∈ ls, l.length + 1 < maxTok) :
    ∀ (cr : List Bool) (fin : Bool), ∀ c ∈ rawLines ls cr fin, c.1.length < maxTok := by
  induction ls with
  | nil => intro cr fin c h; simp [rawLines] at h
  | cons l ls ih =>
    intro cr fin c h
    have hl := hc l (by simp)
    cases ls with
    | nil =>
      simp only [rawLines, List.mem_singleton] at h
      subst h
      dsimp only; split <;> simp <;> omega
    | cons l' ls' =>
      simp only [rawLines, List.mem_cons] at h
      rcases h with h | h
      · subst h; dsimp only; split <;> simp <;> omega
      · exact ih (fun x hx => hc x (by simp [hx])) cr.tail fin c (by simpa [rawLines] using h)

/-- **byte-to-line lemma** for `bufio.Scanner`: it returns exactly the rendered lines and no error -/
theorem scan_unlines (ls : List Line) (cr : List Bool) (fin : Bool)
    (hc : ∀ l ∈ ls, cleanLine l) (he : endsOK ls fin) :
    scan (unlines ls cr fin) = (ls, false) := by
  unfold scan
  rw [chunks_eq_rchunks, rchunks_unlines ls (fun l hl => ⟨(hc l hl).1, (hc l hl).2.1⟩) cr fin he]
  have htw : ((rawLines ls cr fin).map (·.1)).takeWhile (fun c => decide (c.length < maxTok)) = (rawLines ls cr fin).map (·.1) := by
    apply takeWhile_all
    intro c h
    obtain ⟨ct, hct, rfl⟩ := List.mem_map.mp h
    simpa using rawLines_short ls (fun l hl => (hc l hl).2.2) cr fin ct hct
  have hd := rawLines_dropCR ls (fun l hl => (hc l hl).2.1) true cr fin
  simp only [Bool.or_true, if_true] at hd
  simp only [htw, List.map_map, Function.comp_def, hd]
  simp

/-- **byte-to-line lemma** for `bufio.Reader.ReadLine` -/
theorem Dpkg.rlines_unlines (ls : List Line) (hc : ∀ l ∈ ls, '\n' ∉ l ∧ '\r' ∉ l) :
    ∀ (cr : List Bool) (fin : Bool), endsOK ls fin → rlines (unlines ls cr fin) = ls := by
  intro cr fin he
  have hd := rawLines_dropCR ls (fun l hl => (hc l hl).2) false cr fin
  simp only [Bool.or_false] at hd
  rw [rlines, rchunks_unlines ls hc cr fin he, hd]

section Stanzas
variable {ρ : Type} (recLines : ρ → List Line) (gap : Nat → Nat)

/-- the body of such a file: the line group of each record, `gap i + 1` blank lines after the i-th (`Apk.bodyLines`,
`Dpkg.bodyLines`) -/
def stanzaLines : Nat → List ρ → List Line
  | _, [] => []
  | _, [r] => recLines r
  | i, r :: r' :: rest => recLines r ++ List.replicate (gap i + 1) [] ++ stanzaLines (i + 1) (r' :: rest)

/-- … with the blank lines in front of each record and after the last spelled out: `lead` in front of the first -/
theorem stanzaLines_lead_tail (tail : Nat) : ∀ (rs : List ρ) (lead i : Nat),
    List.replicate lead [] ++ stanzaLines recLines gap i rs ++ List.replicate tail []
      = match rs with
        | [] => List.replicate (lead + tail) []
        | [r] => List.replicate lead [] ++ (recLines r ++ List.replicate tail [])
        | r :: r' :: rest => List.replicate lead [] ++ (recLines r ++ [] ::
            (List.replicate (gap i) [] ++ stanzaLines recLines gap (i + 1) (r' :: rest) ++ List.replicate tail [])) := by
  intro rs lead i
  match rs with
  | [] => simp [stanzaLines, List.replicate_append_replicate]
  | [r] => simp [stanzaLines]
  | r :: r' :: rest => simp [stanzaLines, List.replicate_succ]

theorem stanzaLines_forall (P : Line → Prop) (hblank : P []) : ∀ (rs : List ρ), (∀ r ∈ rs, ∀ l ∈ recLines r, P l) →
    ∀ i, ∀ l ∈ stanzaLines recLines gap i rs, P l := by
  intro rs
  induction rs with
  | nil => intro _ i l hl; simp [stanzaLines] at hl
  | cons r rest ih =>
    intro h i l hl
    cases rest with
    | nil => exact h r (by simp) l (by simpa [stanzaLines] using hl)
    | cons r' rest' =>
      simp only [stanzaLines, List.mem_append] at hl
      rcases hl with (hl | hl) | hl
      · exact h r (by simp) l hl
      · rw [List.eq_of_mem_replicate hl]; exact hblank
      · exact ih (fun x hx => h x (by simp [hx])) (i + 1) l hl

theorem stanzaFile_clean (lead tail : Nat) (rs : List ρ) (h : ∀ r ∈ rs, ∀ l ∈ recLines r, cleanLine l) :
    ∀ l ∈ List.replicate lead [] ++ stanzaLines recLines gap 0 rs ++ List.replicate tail [], cleanLine l := by
  intro l hl
  simp only [List.mem_append] at hl
  rcases hl with (hl | hl) | hl
  · rw [List.eq_of_mem_replicate hl]; exact cleanLine_nil
  · exact stanzaLines_forall recLines gap cleanLine cleanLine_nil rs h 0 l hl
  · rw [List.eq_of_mem_replicate hl]; exact cleanLine_nil

theorem stanzaLines_getLast : ∀ (rs : List ρ), rs ≠ [] → (∀ r ∈ rs, ∃ l, (recLines r).getLast? = some l ∧ l ≠ []) → ∀ i,
    ∃ l, (stanzaLines recLines gap i rs).getLast? = some l ∧ l ≠ [] := by
  intro rs
  induction rs with
  | nil => intro h; exact absurd rfl h
  | cons r rest ih =>
    intro _ h i
    cases rest with
    | nil => simpa [stanzaLines] using h r (by simp)
    | cons r' rest' =>
      obtain ⟨l, hl, hne⟩ := ih (by simp) (fun x hx => h x (by simp [hx])) (i + 1)
      refine ⟨l, ?_, hne⟩
      simp only [stanzaLines]
      rw [List.getLast?_append, hl]; simp

theorem stanzaFile_endsOK (lead : Nat) (rs : List ρ) (fin : Bool) (hne : fin = false → rs ≠ [])
    (h : ∀ r ∈ rs, ∃ l, (recLines r).getLast? = some l ∧ l ≠ []) :
    endsOK (List.replicate lead [] ++ stanzaLines recLines gap 0 rs ++ List.replicate 0 []) fin := by
  intro hf
  obtain ⟨l, hl, hlne⟩ := stanzaLines_getLast recLines gap rs (hne hf) h 0
  simp only [List.replicate_zero, List.append_nil]
  rw [List.getLast?_append, hl]
  simpa using hlne

/-- **the record loop over such a file.** `run` is the loop with enough fuel; it ends at the end of the input, skips a blank
line, and turns the line group of a record that is followed by a blank line or by the end of the input into `emit r`. -/
theorem stanzaFile_run {β : Type} (run : List Line → List β → Option (List β)) (emit : ρ → List β)
    (hnil : ∀ acc, run [] acc = some acc) (hblank : ∀ ls acc, run ([] :: ls) acc = run ls acc)
    (tail : Nat) : ∀ (rs : List ρ),
    (∀ r ∈ rs, ∀ rest acc, (rest = [] ∨ ∃ t, rest = [] :: t) → run (recLines r ++ rest) acc = run (rest.drop 1) (acc ++ emit r)) →
    ∀ (lead i : Nat) (acc : List β),
      run (List.replicate lead [] ++ stanzaLines recLines gap i rs ++ List.replicate tail []) acc = some (acc ++ rs.flatMap emit) := by
  have hblanks : ∀ (n : Nat) (ls : List Line) (acc : List β), run (List.replicate n [] ++ ls) acc = run ls acc := by
    intro n ls acc
    induction n with
    | zero => simp
    | succ n ih => rw [List.replicate_succ, List.cons_append, hblank, ih]
  have hend : ∀ (n : Nat) (acc : List β), run (List.replicate n []) acc = some acc := by
    intro n acc; have := hblanks n [] acc; rw [List.append_nil] at this; rw [this, hnil]
  intro rs
  induction rs with
  | nil => intro _ lead i acc; rw [stanzaLines_lead_tail]; simp [hend]
  | cons r rest ih =>
    intro hrec lead i acc
    rw [stanzaLines_lead_tail, List.flatMap_cons, ← List.append_assoc acc]
    cases rest with
    | nil =>
      dsimp only
      rw [hblanks, hrec r (by simp) _ acc (by cases tail <;> simp [List.replicate_succ])]
      cases tail <;> simp [List.replicate_succ, hnil, hend]
    | cons r' rest' =>
      dsimp only
      rw [hblanks, hrec r (by simp) _ acc (Or.inr ⟨_, rfl⟩)]
      exact ih (fun x hx => hrec x (by simp [hx])) (gap i) (i + 1) _

end Stanzas

section Fillers
variable {φ ρ : Type} (before : Nat → List φ)

/-- the file as a list of fillers and records: the fillers `before i` in front of the i-th record, `after` behind the last -/
def bodyItems : Nat → List ρ → List (φ ⊕ ρ)
  | _, [] => []
  | i, r :: rest => (before i).map .inl ++ .inr r :: bodyItems (i + 1) rest

def fileItems (after : List φ) (rs : List ρ) : List (φ ⊕ ρ) := bodyItems before 0 rs ++ after.map .inl

theorem bodyItems_forall (P : φ → Prop) (Q : ρ → Prop) : ∀ (rs : List ρ) (i : Nat),
    (∀ j, i ≤ j → j < i + rs.length → ∀ f ∈ before j, P f) → (∀ r ∈ rs, Q r) →
    ∀ x ∈ bodyItems before i rs, Sum.elim P Q x := by
  intro rs
  induction rs with
  | nil => intro i _ _ x hx; simp [bodyItems] at hx
  | cons r rest ih =>
    intro i hb hq x hx
    simp only [bodyItems, List.mem_append, List.mem_cons, List.mem_map] at hx
    rcases hx with ⟨f, hf, rfl⟩ | rfl | hx
    · exact hb i (Nat.le_refl _) (by simp) f hf
    · exact hq r (by simp)
    · exact ih (i + 1) (fun j h1 h2 => hb j (by omega) (by simp only [List.length_cons]; omega)) (fun y hy => hq y (by simp [hy])) x hx

theorem fileItems_forall (after : List φ) (rs : List ρ) (P : φ → Prop) (Q : ρ → Prop)
    (hb : (∀ i < rs.length, ∀ f ∈ before i, P f) ∧ (∀ f ∈ after, P f)) (hq : ∀ r ∈ rs, Q r) :
    ∀ x ∈ fileItems before after rs, Sum.elim P Q x := by
  intro x hx
  rcases List.mem_append.mp hx with hx | hx
  · exact bodyItems_forall before P Q rs 0 (fun j _ h f hf => hb.1 j (by omega) f hf) hq x hx
  · obtain ⟨f, hf, rfl⟩ := List.mem_map.mp hx
    exact hb.2 f hf

theorem bodyItems_filterMap {β : Type} (a : φ → Option β) (b : ρ → Option β) : ∀ (rs : List ρ) (i : Nat),
    (bodyItems before i rs).filterMap (Sum.elim a b)
      = match rs with
        | [] => []
        | r :: rest => (before i).filterMap a ++ ((b r).toList ++ (bodyItems before (i + 1) rest).filterMap (Sum.elim a b)) := by
  intro rs i
  cases rs with
  | nil => rfl
  | cons r rest =>
    simp only [bodyItems, List.filterMap_append, List.filterMap_map, List.filterMap_cons, Sum.elim_inr]
    congr 1
    cases b r <;> rfl

theorem fileItems_records {β : Type} (after : List φ) (out : ρ → β) (rs : List ρ) :
    (fileItems before after rs).filterMap (Sum.elim (fun _ => none) (fun r => some (out r))) = rs.map out := by
  have : ∀ (rs : List ρ) (i : Nat), (bodyItems before i rs).filterMap (Sum.elim (fun _ => none) (fun r => some (out r))) = rs.map out := by
    intro rs
    induction rs with
    | nil => intro i; rfl
    | cons r rest ih => intro i; rw [bodyItems_filterMap]; simp [ih]
  simp [fileItems, this]

end Fillers

end Scalibr.Parsers
