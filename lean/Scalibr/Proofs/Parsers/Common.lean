/-
Lemmas about the string primitives of `Model/Parsers/Common.lean` (`strings.Cut`, `strings.SplitN`, `strings.HasPrefix`)
and the list facts they rest on.
-/
import Scalibr.Model.Parsers.Common
import Scalibr.Proofs.Lists
namespace Scalibr.Parsers
export Lists (filterMap_congr find?_congr)

theorem takeWhile_all {α} (p : α → Bool) (l : List α) (h : ∀ x ∈ l, p x = true) : l.takeWhile p = l := by
  induction l with
  | nil => rfl
  | cons x xs ih =>
    rw [List.takeWhile_cons, h x (by simp)]
    simp only [if_true]
    rw [ih (fun y hy => h y (by simp [hy]))]

theorem ne_of_not_mem {c : Char} {l : List Char} (h : c ∉ l) : ∀ x ∈ l, (decide (x ≠ c)) = true := by
  intro x hx; simp; intro e; subst e; exact h hx

theorem takeWhile_ne_none (c : Char) (l : List Char) (h : c ∉ l) : l.takeWhile (· ≠ c) = l :=
  takeWhile_all _ _ (ne_of_not_mem h)

theorem takeWhile_ne_all (c : Char) (l rest : List Char) (h : c ∉ l) : (l ++ c :: rest).takeWhile (· ≠ c) = l := by
  rw [List.takeWhile_append_of_pos (ne_of_not_mem h)]; simp

theorem mapM_some {α β : Type} (f : α → Option β) (g : α → β) (h : ∀ x, f x = some (g x)) (l : List α) :
    l.mapM f = some (l.map g) := by
  induction l with
  | nil => rfl
  | cons x xs ih => simp [List.mapM_cons, h, ih]

theorem filterMap_id_map {α β : Type} (f : α → Option β) (l : List α) : (l.map f).filterMap id = l.filterMap f := by
  induction l with
  | nil => rfl
  | cons x xs ih => simp [List.filterMap_cons, ih]

theorem cutAt_key (c : Char) (k v : List Char) (hk : c ∉ k) : cutAt c (k ++ c :: v) = some (k, v) := by
  unfold cutAt
  simp only [takeWhile_ne_all c k v hk]
  simp

theorem cutAt_none (c : Char) (l : List Char) (h : c ∉ l) : cutAt c l = none := by
  unfold cutAt
  rw [takeWhile_ne_none c l h]; simp

theorem cutAt_nil (c : Char) : cutAt c [] = none := cutAt_none c [] (by simp)

theorem cutAt_some_of_mem (c : Char) (l : List Char) (h : c ∈ l) : ∃ a r, cutAt c l = some (a, r) := by
  obtain ⟨a, r, rfl, ha⟩ := List.eq_append_cons_of_mem h
  exact ⟨a, r, cutAt_key c a r ha⟩

theorem splitN2 (c : Char) (l : List Char) :
    splitN c 2 l = match cutAt c l with | none => [l] | some (a, r) => [a, r] := by
  simp only [splitN]
  cases cutAt c l with
  | none => rfl
  | some ar => rfl

theorem splitN3 (c : Char) (l : List Char) :
    splitN c 3 l = match cutAt c l with
      | none => [l]
      | some (a, r) => match cutAt c r with
        | none => [a, r]
        | some (b, r2) => [a, b, r2] := by
  simp only [splitN]
  cases cutAt c l with
  | none => rfl
  | some ar =>
    obtain ⟨a, r⟩ := ar
    dsimp only
    cases cutAt c r with
    | none => rfl
    | some br => rfl

theorem hasPrefix_cons (c x : Char) (pt l : List Char) : hasPrefix (c :: pt) (x :: l) = (decide (x = c) && hasPrefix pt l) := by
  unfold hasPrefix
  simp only [List.length_cons, List.take_succ_cons, List.cons.injEq]
  by_cases h : x = c <;> simp [h]

theorem hasPrefix_nil_right (c : Char) (pt : List Char) : hasPrefix (c :: pt) [] = false := by simp [hasPrefix]

theorem hasPrefix_append (p x : List Char) : hasPrefix p (p ++ x) = true := by simp [hasPrefix]

theorem hasPrefix_length_le (p o : List Char) (h : hasPrefix p o = true) : p.length ≤ o.length := by
  unfold hasPrefix at h
  have h' : o.take p.length = p := by simpa using h
  have := congrArg List.length h'
  simp at this; omega

/-- a prefix that holds `c` and not `d` does not fit on text whose first `d` comes before any `c` -/
theorem hasPrefix_false_of (p g x : List Char) (c d : Char) (hc : c ∈ p) (hd : d ∉ p) (hg : c ∉ g) :
    hasPrefix p (g ++ d :: x) = false := by
  cases h : hasPrefix p (g ++ d :: x) with
  | false => rfl
  | true =>
    have e : g.take p.length ++ (d :: x).take (p.length - g.length) = p := by
      rw [← List.take_append]; simpa [hasPrefix] using h
    rw [← e] at hc hd
    rcases List.mem_append.mp hc with h1 | h1
    · exact absurd (List.mem_of_mem_take h1) hg
    · cases hn : p.length - g.length with
      | zero => rw [hn] at h1; simp at h1
      | succ n => rw [hn] at hd; simp at hd

end Scalibr.Parsers
