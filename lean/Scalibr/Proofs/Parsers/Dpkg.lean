/-
Helper lemmas for C03_dpkg: one field / one stanza through the `ReadMIMEHeader` model, header lookup under any field
order, and the three equations of the record loop (end of input, blank line, stanza) that `stanzaFile_run` asks for.
-/
import Scalibr.Spec.Parsers.Dpkg
import Scalibr.Proofs.Parsers.Layout
import Scalibr.Proofs.Parsers.Fuel
import Scalibr.Proofs.GoMap
namespace Scalibr.Parsers.Dpkg
open Scalibr.Parsers

def contText (cs : List Line) : List Char := cs.flatMap fun c => ' ' :: trimST c

def firstLine (f : Field) : Line := f.key ++ ':' :: (f.sep ++ f.value)

/-- the logical line `readContinuedLineSlice` assembles for a field -/
def logical (f : Field) : List Char := firstLine f ++ contText f.cont

theorem stanza_cont (rest : List Line) (h : Hdr) : ∀ (cs : List Line), (∀ c ∈ cs, startsSpTab c = true) →
    ∀ buf : List Char, stanza (cs ++ rest) h (some buf) = stanza rest h (some (buf ++ contText cs)) := by
  intro cs
  induction cs with
  | nil => intro _ buf; simp [contText]
  | cons c cs ih =>
    intro hc buf
    have h1 := hc c (by simp)
    simp only [List.cons_append, stanza, h1, Option.isSome_some, Bool.and_self, if_true, Option.map_some]
    rw [ih (fun x hx => hc x (by simp [hx]))]
    simp [contText, List.append_assoc]

theorem fieldByte_not (c : Char) (h : fieldByte c = true) : c ≠ ' ' ∧ c ≠ '\t' ∧ c ≠ ':' := by
  refine ⟨?_, ?_, ?_⟩ <;> (rintro rfl; revert h; decide)

theorem dropWhile_head (p : Char → Bool) (l : List Char) (h : ∀ c, l.head? = some c → p c = false) : l.dropWhile p = l := by
  cases l with
  | nil => rfl
  | cons c t => simp [h c rfl]

theorem trimST_id (l : Line) (h1 : noSpTab l.head?) (h2 : noSpTab l.getLast?) : trimST l = l := by
  have hp : ∀ o : Option Char, noSpTab o → ∀ c, o = some c → isSpTab c = false := by
    intro o ho c hc; subst hc
    unfold isSpTab; simp
    exact ⟨fun e => ho.1 (by rw [e]), fun e => ho.2 (by rw [e])⟩
  unfold trimST
  rw [dropWhile_head isSpTab l (hp _ h1)]
  rw [dropWhile_head isSpTab l.reverse (by rw [List.head?_reverse]; exact hp _ h2)]
  simp

theorem firstLine_props (f : Field) (hw : WFfield f) :
    startsSpTab (firstLine f) = false ∧ (firstLine f).isEmpty = false ∧ (firstLine f).contains ':' = true ∧
    trimST (firstLine f) = firstLine f := by
  obtain ⟨hk, hkb, hsep, hve, hvh, hvl, _⟩ := hw
  obtain ⟨k0, kt, hk0⟩ : ∃ k0 kt, f.key = k0 :: kt := by cases hf : f.key with
    | nil => exact absurd hf hk
    | cons a b => exact ⟨a, b, rfl⟩
  have hk0b : fieldByte k0 = true := by
    have := List.all_eq_true.mp hkb k0 (by rw [hk0]; simp); exact this
  have hn := fieldByte_not k0 hk0b
  refine ⟨?_, ?_, ?_, ?_⟩
  · simp [firstLine, hk0, startsSpTab, isSpTab, hn.1, hn.2.1]
  · simp [firstLine, hk0]
  · simp [firstLine]
  · apply trimST_id
    · simp only [firstLine, hk0, List.cons_append, List.head?_cons]
      exact ⟨by simp [hn.1], by simp [hn.2.1]⟩
    · have : (firstLine f).getLast? = if f.value = [] then some ':' else f.value.getLast? := by
        unfold firstLine
        by_cases hv : f.value = []
        · simp [hv, hve hv]
        · simp only [hv, if_false]
          have e : f.key ++ ':' :: (f.sep ++ f.value) = (f.key ++ ':' :: f.sep) ++ f.value := by simp
          rw [e, List.getLast?_append]
          cases hl : f.value.getLast? with
          | none => simp [List.getLast?_eq_none_iff] at hl; exact absurd hl hv
          | some x => simp
      rw [this]
      split
      · exact ⟨by simp, by simp⟩
      · exact hvl

theorem stanza_field (f : Field) (hw : WFfield f) (rest : List Line) (h : Hdr) (pend : Option (List Char)) :
    stanza (fieldLines f ++ rest) h pend =
      match commit h pend with
      | none => none
      | some h' => stanza rest h' (some (logical f)) := by
  obtain ⟨h1, h2, h3, h4⟩ := firstLine_props f hw
  have hcont : ∀ c ∈ f.cont, startsSpTab c = true := fun c hc => (hw.2.2.2.2.2.2.2.2.1 c hc).1
  show stanza (firstLine f :: (f.cont ++ rest)) h pend = _
  simp only [stanza, h1, Bool.false_and, Bool.false_eq_true, if_false, h2, h3, Bool.not_true]
  cases commit h pend with
  | none => rfl
  | some h' =>
    simp only []
    rw [h4, stanza_cont rest h' f.cont hcont]
    rfl

/-- what the header stores for a field: canonical key, value without its leading white space -/
def entry (f : Field) : List Char × List Char :=
  (canonAux true f.key, (f.sep ++ f.value ++ contText f.cont).dropWhile isSpTab)

/-- first value of a key stays -/
def store (h : Hdr) (e : List Char × List Char) : Hdr := if h.any (·.1 = e.1) then h else h ++ [e]

theorem all_trimST (p : Char → Bool) (l : Line) (h : l.all p = true) : (trimST l).all p = true := by
  have h' : ∀ c ∈ l, p c = true := by simpa using h
  have : ∀ c ∈ trimST l, p c = true := by
    intro c hc
    unfold trimST at hc
    have hc1 := List.mem_reverse.mp hc
    have hc2 := (List.dropWhile_sublist _).subset hc1
    have hc3 := List.mem_reverse.mp hc2
    exact h' c ((List.dropWhile_sublist _).subset hc3)
  simpa using this

theorem canonKey_wf (k : List Char) (hne : k ≠ []) (hb : k.all fieldByte = true) : canonKey k = some (canonAux true k) := by
  have hb' : ∀ c ∈ k, fieldByte c = true := by simpa using hb
  have h1 : k.isEmpty = false := by cases k <;> simp_all
  have h2 : k.all (fun c => fieldByte c || c = ' ') = true := by
    simp only [List.all_eq_true]; intro c hc; simp [hb' c hc]
  have h3 : k.contains ' ' = false := by
    simp only [List.contains_eq_mem, decide_eq_false_iff_not]
    intro hm; exact (fieldByte_not ' ' (hb' _ hm)).1 rfl
  unfold canonKey
  rw [h1, h2, h3]; simp

theorem commit_field (f : Field) (hw : WFfield f) (h : Hdr) : commit h (some (logical f)) = some (store h (entry f)) := by
  obtain ⟨hk, hkb, hsep, _, _, _, hval, _, hcont, _⟩ := hw
  have hkb' : ∀ c ∈ f.key, fieldByte c = true := by simpa using hkb
  have hcolon : ':' ∉ f.key := fun hm => (fieldByte_not ':' (hkb' _ hm)).2.2 rfl
  have hcut : cutAt ':' (logical f) = some (f.key, f.sep ++ f.value ++ contText f.cont) := by
    have : logical f = f.key ++ ':' :: (f.sep ++ f.value ++ contText f.cont) := by simp [logical, firstLine]
    rw [this]; exact cutAt_key ':' _ _ hcolon
  have hv : (f.sep ++ f.value ++ contText f.cont).all valueByte = true := by
    simp only [List.all_append, Bool.and_eq_true]
    refine ⟨⟨?_, hval⟩, ?_⟩
    · simp only [List.all_eq_true] at hsep ⊢
      intro c hc; have := hsep c hc
      unfold isSpTab at this; unfold valueByte
      rcases (by simpa using this : c = ' ' ∨ c = '\t') with rfl | rfl <;> decide
    · simp only [List.all_eq_true]
      intro x hx
      simp only [contText, List.mem_flatMap] at hx
      obtain ⟨c, hc, hxc⟩ := hx
      have hcv := (hcont c hc).2.1
      rcases List.mem_cons.mp hxc with rfl | hxc
      · decide
      · exact List.all_eq_true.mp (all_trimST valueByte c hcv) x hxc
  simp only [commit, hcut, canonKey_wf f.key hk hkb, hv, if_true]
  by_cases hc : (h.any fun kv => decide (kv.1 = canonAux true f.key)) = true
  · have : store h (entry f) = h := if_pos hc
    rw [this, if_pos hc]
  · have : store h (entry f) = h ++ [entry f] := if_neg hc
    rw [this, if_neg hc]; rfl

/-- the header after committing a run of fields -/
def hdrFrom (h : Hdr) (fs : List Field) : Hdr := fs.foldl (fun h f => store h (entry f)) h

theorem commit_none (h : Hdr) : commit h none = some h := rfl

/-- a run of rendered fields, then a blank line or the end of the input: one stanza -/
theorem stanza_fields (rest : List Line) (hrest : rest = [] ∨ ∃ t, rest = [] :: t) :
    ∀ (fs : List Field), (∀ f ∈ fs, WFfield f) → ∀ (h : Hdr) (pend : Option (List Char)) (hp : Hdr),
      commit h pend = some hp →
      stanza (fs.flatMap fieldLines ++ rest) h pend = some (hdrFrom hp fs, rest.isEmpty, rest.drop 1) := by
  intro fs
  induction fs with
  | nil =>
    intro _ h pend hp hc
    rcases hrest with rfl | ⟨t, rfl⟩
    · simp [stanza, hc, hdrFrom]
    · simp [stanza, startsSpTab, hc, hdrFrom]
  | cons f fs ih =>
    intro hwf h pend hp hc
    have hf := hwf f (by simp)
    rw [List.flatMap_cons, List.append_assoc, stanza_field f hf, hc]
    simp only []
    rw [ih (fun x hx => hwf x (by simp [hx])) hp (some (logical f)) _ (commit_field f hf hp)]
    rfl

theorem hdrFrom_eq (fs : List Field) : ∀ h : Hdr, hdrFrom h fs = Lockfiles.insertFirst (fs.map entry) h := by
  have hany : ∀ (h : Hdr) (k : List Char), h.any (fun kv => decide (kv.1 = k)) = (Lockfiles.lookup h k).isSome := by
    intro h k
    induction h with
    | nil => rfl
    | cons e h ih =>
      rw [Lockfiles.lookup_cons]
      by_cases he : e.1 = k <;> simp [he, ih]
  induction fs with
  | nil => intro h; rfl
  | cons f fs ih =>
    intro h
    simp only [hdrFrom, List.foldl_cons, List.map_cons, Lockfiles.insertFirst]
    rw [show store h (entry f) = Lockfiles.addFirst h (entry f) by unfold store Lockfiles.addFirst; rw [hany]]
    exact ih _

theorem get_hdr (fs : List Field) (k : List Char) : get (hdrFrom [] fs) k = (Lockfiles.lookup (fs.map entry) k).getD [] := by
  show (Lockfiles.lookup (hdrFrom [] fs) k).getD [] = _
  rw [hdrFrom_eq, (Lockfiles.insertFirst_spec (fs.map entry) [] (by simp [Lockfiles.keys])).2 k]
  simp [Lockfiles.lookup_nil]

theorem dropWhile_sep (sep v : List Char) (hs : sep.all isSpTab = true) (hv : noSpTab v.head?) :
    (sep ++ v).dropWhile isSpTab = v := by
  induction sep with
  | nil =>
    apply dropWhile_head
    intro c hc
    simp only [List.nil_append] at hc
    unfold isSpTab; simp
    exact ⟨fun e => hv.1 (by rw [hc, e]), fun e => hv.2 (by rw [hc, e])⟩
  | cons c sep ih =>
    simp only [List.all_cons, Bool.and_eq_true] at hs
    simp [hs.1, ih hs.2]

theorem entry_sig (key sep v : List Char) (K : List Char) (hw : WFfield ⟨key, sep, v, []⟩) (hk : canonKey key = some K) :
    entry ⟨key, sep, v, []⟩ = (K, v) := by
  have h1 := canonKey_wf key hw.1 hw.2.1
  rw [hk] at h1
  have h1' : canonAux true key = K := (Option.some.inj h1).symm
  unfold entry
  simp only [contText, List.flatMap_nil, List.append_nil, h1']
  rw [dropWhile_sep sep v hw.2.2.1 hw.2.2.2.2.1]

theorem extra_key (f : Field) (hw : WFfield f) (hx : extraKeyOK f = true) : (entry f).1 ∉ sigKeys := by
  have h1 := canonKey_wf f.key hw.1 hw.2.1
  unfold extraKeyOK at hx
  rw [h1] at hx
  simpa [entry] using hx

structure SigVals (r : GRec) : Prop where
  pkg : get (hdrFrom [] r.fields) "Package".toList = r.name
  ver : get (hdrFrom [] r.fields) "Version".toList = r.ver
  status : get (hdrFrom [] r.fields) "Status".toList = statusValue r
  source : get (hdrFrom [] r.fields) "Source".toList = r.source.getD []

/-- what the header holds under a key: the value `v` when every entry under the key carries `v` and, unless `v` is empty
(the zero value of an absent key), there is one -/
theorem get_hdr_of (fs : List Field) (K v : List Char) (hu : ∀ f ∈ fs, (entry f).1 = K → (entry f).2 = v)
    (hex : v ≠ [] → ∃ f ∈ fs, (entry f).1 = K) : get (hdrFrom [] fs) K = v := by
  rw [get_hdr]
  cases hl : Lockfiles.lookup (fs.map entry) K with
  | some v' =>
    obtain ⟨f, hf, he⟩ := List.mem_map.mp (Lockfiles.mem_of_lookup _ _ _ hl)
    have := hu f hf (by rw [he])
    rw [he] at this; exact this
  | none =>
    by_cases hv : v = []
    · exact hv.symm
    · obtain ⟨f, hf, hk⟩ := hex hv
      exact absurd (List.mem_map.mpr ⟨entry f, List.mem_map.mpr ⟨f, hf, rfl⟩, hk⟩) ((Lockfiles.lookup_eq_none_iff _ _).mp hl)

/-- the four significant keys with the values the generator gave them (empty: no such field) -/
def sigEntries (r : GRec) : List (List Char × List Char) :=
  [("Package".toList, r.name), ("Status".toList, statusValue r), ("Version".toList, r.ver), ("Source".toList, r.source.getD [])]

theorem sigKeys_nodup : sigKeys.Nodup := by
  unfold sigKeys; repeat rw [String.toList_ofList]
  decide

/-- whatever order the fields stand in, the header holds the generator's value under each significant key: every field is a
significant one, stored as its entry of `sigEntries`, or is stored under another key -/
theorem get_sig (r : GRec) (hw : WFrec r) : ∀ e ∈ sigEntries r, get (hdrFrom [] r.fields) e.1 = e.2 := by
  obtain ⟨hperm, hfields, hkP, hkS, hkV, hkSrc, _, _, _, _, _, _, hextras⟩ := hw
  have hmem : ∀ f, f ∈ r.fields ↔ f ∈ sigFields r ++ r.extras := fun f => hperm.mem_iff
  have stored : ∀ key sep v K, (⟨key, sep, v, []⟩ : Field) ∈ sigFields r → canonKey key = some K →
      ∃ f ∈ r.fields, entry f = (K, v) := fun key sep v K hm hk =>
    have hf := (hmem _).mpr (List.mem_append_left _ hm)
    ⟨_, hf, entry_sig key sep v K (hfields _ hf) hk⟩
  have hall : ∀ f ∈ r.fields, entry f ∈ sigEntries r ∨ (entry f).1 ∉ sigKeys := by
    intro f hf
    rcases List.mem_append.mp ((hmem f).mp hf) with h | h
    · left
      simp only [sigFields, List.mem_append, List.mem_cons, List.not_mem_nil, or_false] at h
      rcases h with ((rfl | rfl) | h) | h
      · rw [entry_sig _ _ _ _ (hfields _ hf) hkP]; exact .head _
      · rw [entry_sig _ _ _ _ (hfields _ hf) hkS]; exact .tail _ (.head _)
      · unfold verFields at h
        split at h
        · cases h
        · rw [List.mem_singleton] at h; subst h
          rw [entry_sig _ _ _ _ (hfields _ hf) hkV]; exact .tail _ (.tail _ (.head _))
      · cases hs : r.source with
        | none => rw [hs] at h; cases h
        | some src =>
          rw [hs, List.mem_singleton] at h; subst h
          rw [entry_sig _ _ _ _ (hfields _ hf) hkSrc, sigEntries, hs]; exact .tail _ (.tail _ (.tail _ (.head _)))
    · exact Or.inr (extra_key f (hfields f hf) (hextras f h))
  have hnd : (Lockfiles.keys (sigEntries r)).Nodup := sigKeys_nodup
  intro e he
  refine get_hdr_of r.fields e.1 e.2 (fun f hf hk => ?_) (fun hv => ?_)
  · rcases hall f hf with h | h
    · have h1 := Lockfiles.lookup_of_mem _ (entry f).1 (entry f).2 hnd h
      rw [hk, Lockfiles.lookup_of_mem _ e.1 e.2 hnd he] at h1
      exact (Option.some.inj h1).symm
    · exact absurd (hk ▸ (List.mem_map_of_mem (f := Prod.fst) he : e.1 ∈ sigKeys)) h
  · have via : (∃ f ∈ r.fields, entry f = e) → ∃ f ∈ r.fields, (entry f).1 = e.1 := fun ⟨f, hf, h⟩ => ⟨f, hf, by rw [h]⟩
    simp only [sigEntries, List.mem_cons, List.not_mem_nil, or_false] at he
    rcases he with rfl | rfl | rfl | rfl
    · exact via (stored r.keyP r.sepP _ _ (by simp [sigFields]) hkP)
    · exact via (stored r.keyS r.sepS _ _ (by simp [sigFields]) hkS)
    · exact via (stored r.keyV r.sepV _ _ (by simp [sigFields, verFields, show r.ver ≠ [] from hv]) hkV)
    · cases hs : r.source with
      | none => rw [hs] at hv; exact absurd rfl hv
      | some src => rw [hs] at via; exact via (stored r.keySrc [' '] src _ (by simp [sigFields, hs]) hkSrc)

theorem sig_vals (r : GRec) (hw : WFrec r) : SigVals r := by
  have h := get_sig r hw
  exact ⟨h _ (.head _), h _ (.tail _ (.tail _ (.head _))), h _ (.tail _ (.head _)), h _ (.tail _ (.tail _ (.tail _ (.head _))))⟩

theorem splitSp_word (w rest : List Char) (hw : ' ' ∉ w) :
    ∀ cur, splitSp (w ++ ' ' :: rest) cur = (cur.reverse ++ w) :: splitSp rest [] := by
  induction w with
  | nil => intro cur; simp [splitSp]
  | cons c w ih =>
    intro cur
    have hc : c ≠ ' ' := by intro e; subst e; simp at hw
    have hw' : ' ' ∉ w := by intro e; exact hw (by simp [e])
    simp only [List.cons_append, splitSp, hc, if_false]
    rw [ih hw']; simp

theorem splitSp_last (w : List Char) (hw : ' ' ∉ w) : ∀ cur, splitSp w cur = [cur.reverse ++ w] := by
  induction w with
  | nil => intro cur; simp [splitSp]
  | cons c w ih =>
    intro cur
    have hc : c ≠ ' ' := by intro e; subst e; simp at hw
    have hw' : ' ' ∉ w := by intro e; exact hw (by simp [e])
    simp only [splitSp, hc, if_false]
    rw [ih hw']; simp

theorem process_wf (r : GRec) (hw : WFrec r) :
    process (hdrFrom [] r.fields) = if r.state = "installed".toList then .pkg r.name r.ver else .skip := by
  have sv := sig_vals r hw
  obtain ⟨_, _, _, _, _, _, hn, hv, hwant, hflag, hstate, hsrc, _⟩ := hw
  unfold process
  generalize "installed".toList = I at hv ⊢
  simp only [sv.pkg, sv.ver, sv.status, sv.source]
  have hst : (statusValue r).isEmpty = false := by
    unfold statusValue; cases hwt : r.want with
    | nil => exact absurd hwt hwant.1
    | cons a b => simp
  have hsplit : splitSp (statusValue r) [] = [r.want, r.flag, r.state] := by
    unfold statusValue
    rw [splitSp_word r.want _ hwant.2, splitSp_word r.flag _ hflag.2, splitSp_last r.state hstate.2]
    simp
  have hne : r.name.isEmpty = false := by cases h : r.name <;> simp_all
  have hve : r.state = I → r.ver.isEmpty = false := by
    intro hi; have := hv hi; cases h : r.ver <;> simp_all
  have hsrc' : ¬ (r.source.getD []) = [] → containsSpParen (r.source.getD []) = true → (r.source.getD []).getLast? = some ')' := by
    cases hs : r.source with
    | none => simp
    | some s => intro _ hc; exact (hsrc s hs).2 hc
  by_cases hi : r.state = I
  · have hve' := hve hi
    simp [hst, hsplit, hi, hne, hve']
    exact hsrc'
  · simp [hst, hsplit, hi]

def emitted (r : GRec) : List (List Char × List Char) :=
  if r.state = "installed".toList then [(r.name, r.ver)] else []

theorem installed_eq (rs : List GRec) : installed rs = rs.flatMap emitted := by
  unfold installed emitted
  generalize "installed".toList = I
  induction rs with
  | nil => rfl
  | cons r rs ih =>
    rw [List.flatMap_cons, ← ih]
    by_cases h : r.state = I
    · rw [List.filter_cons_of_pos (by simp [h]), if_pos h]; rfl
    · rw [List.filter_cons_of_neg (by simp [h]), if_neg h]; rfl

/-- the loop as `parse` runs it; by `loop_fuel` any fuel above the number of lines gives the same result -/
def run (ls : List Line) (acc : List (List Char × List Char)) := loop (ls.length + 2) ls acc

theorem loop_eq_run (f : Nat) (ls : List Line) (acc : List (List Char × List Char)) (h : ls.length + 1 ≤ f) :
    loop f ls acc = run ls acc :=
  loop_fuel ls acc f _ h (by omega)

theorem run_nil (acc : List (List Char × List Char)) : run [] acc = some acc := by
  simp [run, loop, stanza, commit, headSpTab]

theorem run_blank (ls : List Line) (acc : List (List Char × List Char)) : run ([] :: ls) acc = run ls acc := by
  have : loop (ls.length + 3) ([] :: ls) acc = loop (ls.length + 2) ls acc := by
    simp [loop, stanza, commit, startsSpTab, headSpTab]
  exact this

theorem fields_ne_nil (r : GRec) (hw : WFrec r) : ∃ f fs, r.fields = f :: fs := by
  have hl := hw.1.length_eq
  cases hf : r.fields with
  | nil => rw [hf] at hl; simp [sigFields] at hl
  | cons f fs => exact ⟨f, fs, rfl⟩

theorem run_record (r : GRec) (hw : WFrec r) (rest : List Line) (acc : List (List Char × List Char))
    (hrest : rest = [] ∨ ∃ t, rest = [] :: t) :
    run (recLines r ++ rest) acc = run (rest.drop 1) (acc ++ emitted r) := by
  obtain ⟨f0, fs, hf⟩ := fields_ne_nil r hw
  have hwf := hw.2.1
  have hfirst : headSpTab (recLines r ++ rest) = false := by
    have h0 := (firstLine_props f0 (hwf f0 (by rw [hf]; simp))).1
    simp only [recLines, hf, List.flatMap_cons, fieldLines, List.cons_append, headSpTab]
    exact h0
  have hst : stanza (recLines r ++ rest) [] none = some (hdrFrom [] r.fields, rest.isEmpty, rest.drop 1) :=
    stanza_fields rest hrest r.fields hwf [] none [] rfl
  have hnonempty : (hdrFrom [] r.fields).isEmpty = false := by
    have := (sig_vals r hw).pkg
    cases hh : hdrFrom [] r.fields with
    | nil => rw [hh] at this; exact absurd this.symm hw.2.2.2.2.2.2.1
    | cons a b => rfl
  have hstep : ∀ f, loop (f + 1) (recLines r ++ rest) acc
      = if rest.isEmpty then some (acc ++ emitted r) else loop f (rest.drop 1) (acc ++ emitted r) := by
    intro f
    rw [loop, hfirst]
    simp only [Bool.false_eq_true, if_false, hst, hnonempty, process_wf r hw, emitted]
    by_cases hi : r.state = "installed".toList
    · simp only [hi, if_true]
    · simp only [hi, if_false, List.append_nil]
  rw [run, hstep]
  rcases hrest with rfl | ⟨t, rfl⟩
  · simp [run_nil]
  · simp only [List.isEmpty_cons, Bool.false_eq_true, if_false, List.drop_succ_cons, List.drop_zero]
    exact loop_eq_run _ t _ (by simp only [List.length_append, List.length_cons]; omega)

theorem bodyLines_eq (gap : Nat → Nat) : ∀ (rs : List GRec) (i : Nat), bodyLines gap i rs = stanzaLines recLines gap i rs
  | [], _ => rfl
  | [_], _ => rfl
  | r :: r' :: rest, i => by rw [bodyLines, stanzaLines, bodyLines_eq gap (r' :: rest)]

theorem run_fileLines (ℓ : Layout) (rs : List GRec) (hwf : WF rs) : run (fileLines ℓ rs) [] = some (installed rs) := by
  rw [fileLines, bodyLines_eq,
    stanzaFile_run recLines ℓ.gap run emitted run_nil run_blank ℓ.tail rs (fun r hr rest acc => run_record r (hwf r hr) rest acc),
    installed_eq, List.nil_append]

/-! ### clean lines -/

theorem fieldLines_clean (f : Field) (hw : WFfield f) : ∀ l ∈ fieldLines f, cleanLine l := by
  obtain ⟨_, hkb, hsep, _, _, _, _, hv, hcont, hlen⟩ := hw
  intro l hl
  rcases List.mem_cons.mp hl with rfl | hl
  · have hk : okText f.key := okText_of_forall (fieldByte · = true) _ (by simpa using hkb) (by decide) (by decide)
    have hs : okText f.sep := okText_of_forall (isSpTab · = true) _ (by simpa using hsep) (by decide) (by decide)
    exact cleanLine_of_ok (okText_append _ _ hk (okText_cons ':' _ (by decide) (okText_append _ _ hs hv))) hlen
  · exact cleanLine_of_ok (hcont l hl).2.2.1 (hcont l hl).2.2.2

theorem recLines_clean (r : GRec) (hw : WFrec r) : ∀ l ∈ recLines r, cleanLine l := by
  intro l hl
  obtain ⟨f, hf, hlf⟩ := List.mem_flatMap.mp hl
  exact fieldLines_clean f (hw.2.1 f hf) l hlf

theorem fileLines_clean (ℓ : Layout) (rs : List GRec) (hwf : WF rs) : ∀ l ∈ fileLines ℓ rs, cleanLine l := by
  rw [fileLines, bodyLines_eq]
  exact stanzaFile_clean recLines ℓ.gap ℓ.lead ℓ.tail rs (fun r hr => recLines_clean r (hwf r hr))

theorem recLines_getLast (r : GRec) (hw : WFrec r) : ∃ l, (recLines r).getLast? = some l ∧ l ≠ [] := by
  obtain ⟨f0, fs, hf⟩ := fields_ne_nil r hw
  have hne : recLines r ≠ [] := by simp [recLines, hf, fieldLines]
  refine ⟨(recLines r).getLast hne, List.getLast?_eq_some_getLast hne, ?_⟩
  obtain ⟨f, hfm, hx⟩ := List.mem_flatMap.mp (List.getLast_mem hne)
  have hwf := hw.2.1 f hfm
  rcases List.mem_cons.mp hx with hx | hx
  · have := (firstLine_props f hwf).2.1
    intro e; rw [hx] at e; rw [firstLine, e] at this; simp at this
  · have := (hwf.2.2.2.2.2.2.2.2.1 _ hx).1
    intro e; rw [e] at this; simp [startsSpTab] at this

theorem fileLines_endsOK (ℓ : Layout) (rs : List GRec) (hwf : WF rs) (h : LayoutOK ℓ rs) : endsOK (fileLines ℓ rs) ℓ.eols.final := by
  intro hf
  rw [fileLines, bodyLines_eq, (h hf).1]
  exact stanzaFile_endsOK recLines ℓ.gap ℓ.lead rs _ (fun hf => (h hf).2) (fun r hr => recLines_getLast r (hwf r hr)) hf

end Scalibr.Parsers.Dpkg
