/-
Helper lemmas for C03_gradle: a rendered dependency line parses to its package, a filler line to nothing.
-/
import Scalibr.Spec.Parsers.Gradle
import Scalibr.Proofs.Parsers.Layout
import Scalibr.Proofs.Parsers.Trim
namespace Scalibr.Parsers.Gradle
open Scalibr.Parsers

theorem gradleLine_rec (r : GRec) (h : WFrec r) : gradleLine (recLine r) = some (r.group ++ ':' :: r.artifact, r.ver) := by
  obtain ⟨⟨c, t, hg, hc, hne⟩, hg1, hg2, ha1, _, hv, _, _, _, _, hlead, _, _, hane⟩ := h
  -- the line is  lead ++ (p ++ '=' :: rest)  with  p = group:artifact:ver
  have hp : (r.group ++ ':' :: (r.artifact ++ ':' :: r.ver)) ++ ['='] = c :: (t ++ ':' :: (r.artifact ++ ':' :: r.ver) ++ ['=']) := by
    rw [hg]; simp
  obtain ⟨rest', htrim⟩ := trimSpace_core r.lead _ (r.confs ++ r.trail) c '=' _ hlead hp hc (by decide)
  have hline : trimSpace (recLine r) = r.group ++ ':' :: (r.artifact ++ ':' :: (r.ver ++ '=' :: rest')) := by
    simpa [recLine] using htrim
  have h1 : hasPrefix ['#'] (r.group ++ ':' :: (r.artifact ++ ':' :: (r.ver ++ '=' :: rest'))) = false := by
    rw [hg, List.cons_append, hasPrefix_cons]; simp [hne]
  have h2 : hasPrefix "empty=".toList (r.group ++ ':' :: (r.artifact ++ ':' :: (r.ver ++ '=' :: rest'))) = false :=
    hasPrefix_false_of _ _ _ '=' ':' (by rw [String.toList_ofList]; decide) (by rw [String.toList_ofList]; decide) hg2
  have hgne : r.group.isEmpty = false := by rw [hg]; rfl
  have hane' : r.artifact.isEmpty = false := by cases ha : r.artifact <;> simp_all
  simp only [gradleLine, hline, h1, h2, Bool.or_false, Bool.false_eq_true, if_false, cutAt_key ':' _ _ hg1, cutAt_key ':' _ _ ha1,
    cutAt_key '=' _ _ hv, hgne, hane']

theorem gradleLine_filler (f : Filler) (h : WFfiller f) : gradleLine (fillerLine f) = none := by
  unfold gradleLine
  cases f with
  | comment lead t =>
    obtain ⟨rest', htrim⟩ := trimSpace_core lead [] t '#' '#' [] h.1 rfl (by decide) (by decide)
    have htrim : trimSpace (lead ++ '#' :: t) = '#' :: rest' := htrim
    simp only [fillerLine, htrim, hasPrefix_cons, decide_true, Bool.true_and]
    rfl
  | emptyConf lead t =>
    -- with the literal as a character list (evaluating `String.toList` on it is slow)
    have hE : "empty=".toList = ['e', 'm', 'p', 't', 'y', '='] := String.toList_ofList
    simp only [fillerLine, hE]
    obtain ⟨rest', htrim⟩ := trimSpace_core lead ['e', 'm', 'p', 't', 'y'] t 'e' '=' ['m', 'p', 't', 'y', '='] h.1 rfl (by decide) (by decide)
    have htrim : trimSpace (lead ++ (['e', 'm', 'p', 't', 'y', '='] ++ t)) = ['e', 'm', 'p', 't', 'y', '='] ++ rest' := htrim
    simp only [htrim, hasPrefix_append, Bool.or_true, if_true]
  | blank ws =>
    simp only [fillerLine, trimSpace_all_ws ws h.1, hasPrefix_nil_right, cutAt_nil]
    rfl

abbrev WFitem : Filler ⊕ GRec → Prop := Sum.elim WFfiller WFrec
abbrev itemLine : Filler ⊕ GRec → Line := Sum.elim fillerLine recLine

theorem fileLines_eq (ℓ : Layout) (rs : List GRec) : fileLines ℓ rs = (fileItems ℓ.before ℓ.after rs).map itemLine := by
  have : ∀ (rs : List GRec) (i : Nat), bodyLines ℓ.before i rs = (bodyItems ℓ.before i rs).map itemLine := by
    intro rs
    induction rs with
    | nil => intro i; rfl
    | cons r rest ih => intro i; simp [bodyLines, bodyItems, ih]
  simp [fileLines, fileItems, this]

theorem recLine_clean (r : GRec) (h : WFrec r) : cleanLine (recLine r) := by
  obtain ⟨_, _, _, _, _, _, og, oa, ov, oc, hlead, htrail, hlen, _⟩ := h
  refine cleanLine_of_ok ?_ hlen
  exact okText_append _ _ (inlineWs_ok _ hlead) (okText_append _ _ og (okText_cons _ _ (by decide)
    (okText_append _ _ oa (okText_cons _ _ (by decide) (okText_append _ _ ov (okText_cons _ _ (by decide)
      (okText_append _ _ oc (inlineWs_ok _ htrail))))))))

theorem fillerLine_clean (f : Filler) (h : WFfiller f) : cleanLine (fillerLine f) := by
  cases f with
  | comment lead t => exact cleanLine_of_ok (okText_append _ _ (inlineWs_ok _ h.1) (okText_cons '#' _ (by decide) h.2.1)) h.2.2
  | emptyConf lead t =>
    have he : okText "empty=".toList := by rw [String.toList_ofList]; unfold okText; decide
    exact cleanLine_of_ok (okText_append _ _ (inlineWs_ok _ h.1) (okText_append _ _ he h.2.1)) h.2.2
  | blank ws => exact cleanLine_of_ok (inlineWs_ok _ h.1) h.2

theorem itemLine_clean (x : Filler ⊕ GRec) (h : WFitem x) : cleanLine (itemLine x) := by
  cases x with
  | inl f => exact fillerLine_clean f h
  | inr r => exact recLine_clean r h

theorem gradleLine_item (x : Filler ⊕ GRec) (h : WFitem x) :
    gradleLine (itemLine x) = Sum.elim (fun _ => none) (fun r => some (r.group ++ ':' :: r.artifact, r.ver)) x := by
  cases x with
  | inl f => exact gradleLine_filler f h
  | inr r => exact gradleLine_rec r h

theorem filterMap_fileLines (ℓ : Layout) (rs : List GRec) (hwf : WF rs) (hlw : LayoutWF ℓ rs.length) :
    (∀ l ∈ fileLines ℓ rs, cleanLine l) ∧ (fileLines ℓ rs).filterMap gradleLine = installed rs := by
  have hitems := fileItems_forall ℓ.before ℓ.after rs WFfiller WFrec hlw hwf
  rw [fileLines_eq]
  constructor
  · intro l hl
    obtain ⟨x, hx, rfl⟩ := List.mem_map.mp hl
    exact itemLine_clean x (hitems x hx)
  · rw [List.filterMap_map]
    exact (filterMap_congr fun x hx => gradleLine_item x (hitems x hx)).trans (fileItems_records ℓ.before ℓ.after _ rs)

end Scalibr.Parsers.Gradle
