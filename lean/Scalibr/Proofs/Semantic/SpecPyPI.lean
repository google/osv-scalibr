/-
C07 — PEP 440, part 3: `parsePyPIVersion` on a normalised version text yields the version's own
fields, and the comparison agrees with PEP 440 (`Spec/Semantic/PyPI.lean`).
-/
import Scalibr.Proofs.Semantic.PepStages
namespace Scalibr.Semantic
open PepSpec

/-! ## the characters of a normalised text -/

theorem lseg_no_bang (s : LSeg) (hw : s.wf = true) : ∀ x ∈ s.render, isLocalCh x = true := (lseg_chars s hw).2

theorem localCh_props (x : Char) (h : isLocalCh x = true) : x ≠ '!' ∧ isSepP x = false ∧ x.toNat < 128 ∧ isUpper x = false := by
  refine ⟨ne_of_class h (by decide), not_sep_of_class h, ?_⟩
  simp only [isLocalCh, isDigit, isLower, isUpper, Bool.or_eq_true, Bool.and_eq_true, decide_eq_true_eq, Bool.and_eq_false_iff,
    decide_eq_false_iff_not] at h ⊢
  omega

/-- characters of a normalised text after the epoch: digits, lower-case letters, `.`, `+` -/
def pepChar (x : Char) : Bool := isLocalCh x || x = '.' || x = '+'

theorem pepChar_props (x : Char) (h : pepChar x = true) : x ≠ '!' ∧ x.toNat < 128 ∧ isUpper x = false := by
  simp only [pepChar, Bool.or_eq_true, decide_eq_true_eq] at h
  rcases h with (h | rfl) | rfl
  · exact ⟨(localCh_props x h).1, (localCh_props x h).2.2⟩
  · decide
  · decide

theorem dotJoin_all (p : Char → Bool) (hp : p '.' = true) : ∀ ts : List (List Char), (∀ t ∈ ts, t.all p = true) →
    (dotJoin ts).all p = true :=
  fun _ h => List.all_eq_true.mpr (forall_mem_dotJoin (P := (p · = true)) hp fun t ht => List.all_eq_true.mp (h t ht))

theorem body_chars (v : V) (hw : v.wf = true) : ∀ x ∈ joinNums v.first v.rest ++ v.t1, pepChar x = true := by
  have hloc : ∀ t : List Char, (∀ x ∈ t, isLocalCh x = true) → t.all pepChar = true := fun t ht =>
    List.all_eq_true.mpr fun x hx => by simp [pepChar, ht x hx]
  have hD : ∀ n, (D n).all pepChar = true := fun n => hloc _ fun x hx => by simp [isLocalCh, D_digits n x hx]
  have hrel : (joinNums v.first v.rest).all pepChar = true := by
    rw [joinNums_eq]
    exact dotJoin_all pepChar (by decide) _ fun t ht => by obtain ⟨n, _, rfl⟩ := List.mem_map.mp ht; exact hD n
  have hpre : v.preText.all pepChar = true := by
    unfold V.preText
    rcases v.pre with _ | ⟨ph, n⟩
    · rfl
    · rw [List.all_append, hD, Bool.and_true]; cases ph <;> decide
  have hpost : v.postText.all pepChar = true := by
    unfold V.postText
    cases v.post with
    | none => rfl
    | some n => rw [List.all_append, hD]; decide
  have hdev : v.devText.all pepChar = true := by
    unfold V.devText
    cases v.dev with
    | none => rfl
    | some n => rw [List.all_append, hD]; decide
  have hlocal : v.localText.all pepChar = true := by
    unfold V.localText
    split
    · rfl
    · rw [List.all_cons, joinDots_eq, dotJoin_all pepChar (by decide) _ fun t ht => hloc t (loc_chars v hw t ht).2]
      decide
  rw [← List.all_eq_true]
  simp only [V.t1, V.t2, V.t3, V.t4, List.all_append, hrel, hpre, hpost, hdev, hlocal, Bool.and_self]

theorem lowerStr_id (t : List Char) (h : ∀ x ∈ t, x.toNat < 128 ∧ isUpper x = false) : lowerStr t = t := by
  refine (List.map_congr_left fun x hx => ?_).trans (List.map_id t)
  rw [goToLower_ascii x (h x hx).1, lowerAscii, (h x hx).2]
  rfl

theorem lowerStr_render (v : V) (hw : v.wf = true) : lowerStr (render v) = render v := by
  refine lowerStr_id _ fun x hx => ?_
  rw [render_eq, List.mem_append] at hx
  rcases hx with hx | hx
  · unfold V.epochText at hx
    split at hx
    · exact nomatch hx
    · rcases List.mem_append.mp hx with h | h
      · exact (localCh_props x (by simp [isLocalCh, D_digits _ x h])).2.2
      · rw [List.mem_singleton.mp h]; decide
  · exact (pepChar_props x (body_chars v hw x hx)).2

/-! ## the whole recogniser -/

/-- the captures of the highest-priority full parse -/
def PepSpec.V.caps (v : V) : Caps :=
  v.localCaps ++ (v.devCaps ++ (v.postCaps ++ (v.preCaps ++ ((Cap.release, joinNums v.first v.rest) :: (v.epochCaps ++ [])))))

theorem digit_not_ws (c : Char) (h : isDigit c = true) : isWs c = false := by
  have : c.toNat ≠ 12 := by simp only [isDigit, Bool.and_eq_true, decide_eq_true_eq] at h; omega
  have ne : ∀ d, isDigit d = false → c ≠ d := fun d => ne_of_class h
  simp [isWs, this, ne ' ' (by decide), ne '\t' (by decide), ne '\n' (by decide), ne '\r' (by decide)]

theorem render_D (v : V) : ∃ k rest, render v = D k ++ rest := by
  rw [render_eq, joinNums_eq, List.map_cons, dotJoin_cons]
  unfold V.epochText
  split
  · exact ⟨v.first, _, by rw [List.nil_append, List.append_assoc]⟩
  · exact ⟨v.epoch, _, by rw [List.append_assoc]⟩

/-- the highest-priority parse of the whole expression on a normalised text; the length of the text
is fuel enough for both stars -/
theorem pepP_render (v : V) (hw : v.wf = true) (fuel : Nat) (hf : (render v).length ≤ fuel) :
    Hd (pepP fuel) (render v) [] ([], v.caps) := by
  obtain ⟨k, rest, hr⟩ := render_D v
  have hws : Stops isWs (render v) := hr ▸ stops_D isWs digit_not_ws k rest
  have hv : Stops (· == 'v') (render v) := hr ▸ stops_D _ (fun c hc => by simpa using ne_of_class (d := 'v') hc (by decide)) k rest
  have hbang : ∀ x ∈ joinNums v.first v.rest ++ v.t1, x ≠ '!' := fun x hx => (pepChar_props x (body_chars v hw x hx)).1
  simp only [render_eq, V.t1, V.t2, V.t3, List.length_append] at hf
  rw [pepP_eq]
  exact Hd.seq (Hd.of_eq (pRun_start isWs none _ [] hws)) (Hd.seq (Hd.optNone (pLit_miss 'v' _ [] hv))
    (Hd.seq (stage_epoch v _ hbang [])
    (Hd.seq (stage_release v fuel (by simp only [V.t1, V.t2, V.t3, List.length_append]; omega) _)
    (Hd.seq (stage_pre v _) (Hd.seq (stage_post v _) (Hd.seq (stage_dev v _) (Hd.seq (stage_local v hw fuel (by omega) _)
    (Hd.of_eq (pRun_start isWs none [] v.caps (.inl rfl))))))))))

theorem matchPep_render (v : V) (hw : v.wf = true) : matchPep (render v) = some v.caps := by
  obtain ⟨t, ht⟩ := (pepP_render v hw ((render v).length + 1) (Nat.le_succ _)).cons
  simp [matchPep, ht]

/-! ## reading the captures -/

theorem capOf_nil (n : Cap) : capOf [] n = [] := rfl

theorem capOf_cons (m : Cap) (t : List Char) (c : Caps) (n : Cap) : capOf ((m, t) :: c) n = if m = n then t else capOf c n := by
  unfold capOf
  by_cases h : m = n <;> simp [h]

theorem capOf_wnCaps_skip (name nname : Cap) (o : Option (List Char × Nat)) (c : Caps) (n : Cap) (h1 : name ≠ n) (h2 : nname ≠ n) :
    capOf (wnCaps name nname o ++ c) n = capOf c n := by
  rcases o with _ | ⟨w, k⟩
  · rfl
  · simp only [wnCaps, List.cons_append, List.nil_append, capOf_cons, if_neg h1, if_neg h2]

theorem capOf_optCap_skip (name : Cap) (t : List Char) (b : Bool) (c : Caps) (n : Cap) (h : name ≠ n) :
    capOf (optCap name t b ++ c) n = capOf c n := by
  cases b
  · rfl
  · simp only [optCap, if_true, List.cons_append, List.nil_append, capOf_cons, if_neg h]

/-- the word and the digits of a `word number` segment; `d` when the segment is absent -/
def wnWord (d : List Char) : Option (List Char × Nat) → List Char
  | some (w, _) => w
  | none => d
def wnNum (d : List Char) : Option (List Char × Nat) → List Char
  | some (_, n) => D n
  | none => d

theorem capOf_wnCaps_word (name nname : Cap) (o : Option (List Char × Nat)) (c : Caps) (hne : nname ≠ name) :
    capOf (wnCaps name nname o ++ c) name = wnWord (capOf c name) o := by
  rcases o with _ | ⟨w, k⟩
  · rfl
  · simp only [wnCaps, List.cons_append, capOf_cons, if_neg hne, if_true, wnWord]

theorem capOf_wnCaps_num (name nname : Cap) (o : Option (List Char × Nat)) (c : Caps) :
    capOf (wnCaps name nname o ++ c) nname = wnNum (capOf c nname) o := by
  rcases o with _ | ⟨w, k⟩
  · rfl
  · simp only [wnCaps, List.cons_append, capOf_cons, if_true, wnNum]

theorem capOf_optCap (name : Cap) (t : List Char) (b : Bool) (c : Caps) :
    capOf (optCap name t b ++ c) name = if b then t else capOf c name := by
  cases b
  · rfl
  · simp only [optCap, if_true, List.cons_append, capOf_cons]

/-! ## the fields read off the captures -/

def phaseLN (p : Option (Phase × Nat)) : LN :=
  match p with
  | some (ph, n) => ⟨ph.text, some (n : Int)⟩
  | none => ⟨[], none⟩

def wordLN (w : List Char) (p : Option Nat) : LN :=
  match p with
  | some n => ⟨w, some (n : Int)⟩
  | none => ⟨[], none⟩

def PepSpec.V.locTexts (v : V) : List (List Char) := if v.loc.isEmpty then [[]] else v.loc.map LSeg.render

/-- the parsed form of a normalised version -/
def PepSpec.V.parsed (v : V) : PyV :=
  ⟨(v.epoch : Int), castNums v.release, phaseLN v.pre, wordLN ['p','o','s','t'] v.post, wordLN ['d','e','v'] v.dev, v.locTexts, []⟩

theorem pyInts_D : ∀ ns : List Nat, pyInts (ns.map D) = some (castNums ns) := by
  intro ns; induction ns with
  | nil => rfl
  | cons n rest ih => simp only [List.map, pyInts, toBig_D, ih, castNums]

/-- `parseLetterVersion` leaves the words of a normalised text as they are: lower case already, and
none of the seven it replaces -/
theorem letterVer_keep (w : List Char) (n : Nat) (h : w ∈ [['a'], ['b'], ['r','c'], ['p','o','s','t'], ['d','e','v']]) :
    letterVer w (D n) = some ⟨w, some (n : Int)⟩ := by
  obtain ⟨hl, hne, hs⟩ := (by decide : ∀ w ∈ [['a'], ['b'], ['r','c'], ['p','o','s','t'], ['d','e','v']],
    lowerStr w = w ∧ w.isEmpty = false ∧ w ∉ [['a','l','p','h','a'], ['b','e','t','a'], ['c'], ['p','r','e'],
      ['p','r','e','v','i','e','w'], ['r','e','v'], ['r']]) w h
  simp only [List.mem_cons, List.not_mem_nil, or_false, not_or] at hs
  simp [letterVer, hl, hne, hs, isEmpty_D, toBig_D]

theorem parsePy_render (v : V) (hw : v.wf = true) : parsePy (render v) = .ok v.parsed := by
  have hep : (if (if (v.epoch != 0) = true then D v.epoch else []).isEmpty = true then some (0 : Int)
      else toBig (if (v.epoch != 0) = true then D v.epoch else [])) = some (v.epoch : Int) := by
    by_cases he : v.epoch = 0 <;> simp [he, isEmpty_D, toBig_D]
  have hrel : pyInts (splitOn '.' (joinNums v.first v.rest)) = some (castNums v.release) := by
    rw [joinNums_eq, splitOn_dotJoin _ (by simp), pyInts_D, V.release]
    intro t ht
    obtain ⟨n, _, rfl⟩ := List.mem_map.mp ht
    exact D_no n '.' (by decide)
  have hpre : letterVer (wnWord [] (v.pre.map fun p => (p.1.text, p.2))) (wnNum [] (v.pre.map fun p => (p.1.text, p.2))) =
      some (phaseLN v.pre) := by
    rcases v.pre with _ | ⟨ph, n⟩
    · rfl
    · exact letterVer_keep ph.text n (by cases ph <;> decide)
  have hword : ∀ (w : List Char) (p : Option Nat), w ∈ [['a'], ['b'], ['r','c'], ['p','o','s','t'], ['d','e','v']] →
      letterVer (wnWord [] (p.map fun n => (w, n))) (wnNum [] (p.map fun n => (w, n))) = some (wordLN w p) := by
    intro w p h
    cases p with
    | none => rfl
    | some n => exact letterVer_keep w n h
  have hloc : List.map lowerStr (splitOnP isSepP (if (!v.loc.isEmpty) = true then joinDots (v.loc.map LSeg.render) else [])) =
      v.locTexts := by
    have hch := loc_chars v hw
    unfold V.locTexts
    cases hl : v.loc.isEmpty with
    | true => rfl
    | false =>
      have hne : v.loc.map LSeg.render ≠ [] := by
        intro e; rw [List.map_eq_nil_iff] at e; rw [e] at hl; exact nomatch hl
      rw [Bool.not_false, if_pos rfl, if_neg (by decide), joinDots_eq,
        splitOnP_dotJoin isSepP (by decide) _ hne fun t ht x hx => (localCh_props x ((hch t ht).2 x hx)).2.1]
      refine (List.map_congr_left fun t ht => ?_).trans (List.map_id _)
      exact lowerStr_id t fun x hx => (localCh_props x ((hch t ht).2 x hx)).2.2
  unfold parsePy
  simp only [lowerStr_render v hw, matchPep_render v hw]
  simp only [V.caps, V.localCaps, V.devCaps, V.postCaps, V.preCaps, V.epochCaps, capOf_wnCaps_skip, capOf_optCap_skip,
    capOf_wnCaps_word, capOf_wnCaps_num, capOf_optCap, capOf_cons, capOf_nil, ne_eq, reduceCtorEq, not_false_eq_true,
    if_false, if_true, List.isEmpty_nil]
  simp only [hep, hrel, hpre, hword ['p','o','s','t'] v.post (by decide), hword ['d','e','v'] v.dev (by decide), hloc]
  rfl

/-! ## the comparison -/

theorem parsed_wf (v : V) : v.parsed.wf := by
  intro h
  simp only [V.parsed, phaseLN] at h ⊢
  cases hp : v.pre with
  | none => rw [hp] at h; simp at h
  | some pn => obtain ⟨ph, n⟩ := pn; cases ph <;> simp [Phase.text]

theorem wordLN_num (w : List Char) (p : Option Nat) : (wordLN w p).num = Option.map Int.ofNat p := by
  cases p <;> rfl

/-- code of the first letter of a phase: `a` < `b` < `r` as the ranks 0 < 1 < 2 -/
def phaseCode : Phase → Nat
  | .a => 97
  | .b => 98
  | .rc => 114

theorem phase_codes (p q : Phase) : ncmp (phaseCode p) (phaseCode q) = ncmp p.rank q.rank := by
  cases p <;> cases q <;> decide

/-- without a pre-release the stage only asks whether this is a development release of the release itself -/
theorem stage_eq (v : V) :
    v.stage = (match v.pre with
      | some (ph, n) => (1, ph.rank, n)
      | none => if v.post.isNone && v.dev.isSome then (0, 0, 0) else (2, 0, 0)) := by
  unfold V.stage
  rcases v.pre with _ | ⟨ph, n⟩ <;> cases v.post <;> cases v.dev <;> rfl

theorem preKey_parsed (v : V) :
    preKey v.parsed = (match v.pre with
      | some (ph, n) => (1, phaseCode ph, (n : Int))
      | none => if v.post.isNone && v.dev.isSome then (0, 0, 0) else (2, 0, 0)) := by
  simp only [preKey, preTrick, V.parsed, wordLN_num, Option.isNone_map, Option.isSome_map]
  rcases v.pre with _ | ⟨ph, n⟩
  · rfl
  · cases ph <;> rfl

theorem stage_agree (a b : V) : cmpPyPreT a.parsed b.parsed = stageCmp a.stage b.stage := by
  rw [cmpPyPreT, cmpOn, preKey_parsed, preKey_parsed, stage_eq, stage_eq]
  rcases a.pre with _ | ⟨p, n⟩ <;> rcases b.pre with _ | ⟨q, m⟩
  · cases a.post.isNone && a.dev.isSome <;> cases b.post.isNone && b.dev.isSome <;> rfl
  · cases a.post.isNone && a.dev.isSome <;> rfl
  · cases b.post.isNone && b.dev.isSome <;> rfl
  · simp only [tripleCmp_mk, stageCmp, phase_codes, icmp_cast, ncmp_self]

theorem post_agree (a b : V) : cmpPyPost a.parsed b.parsed = postCmp a.post b.post := by
  simp only [cmpPyPost, V.parsed, wordLN]
  cases a.post <;> cases b.post <;> simp [postCmp, icmp_cast]

theorem dev_agree (a b : V) : cmpPyDev a.parsed b.parsed = devCmp a.dev b.dev := by
  simp only [cmpPyDev, V.parsed, wordLN]
  cases a.dev <;> cases b.dev <;> simp [devCmp, icmp_cast]

theorem toBig_lseg (s : LSeg) (hw : s.wf = true) :
    toBig s.render = (match s with
      | .num n => some (n : Int)
      | .str _ => none) := by
  cases s with
  | num n => exact toBig_D n
  | str t =>
    simp only [LSeg.wf, Bool.and_eq_true, Bool.not_eq_true', List.any_eq_true] at hw
    obtain ⟨⟨hne, hall⟩, y, hy, hyl⟩ := hw
    -- a letter among the characters: not a number
    have hnd : t.all isDigit = false := by
      cases h : t.all isDigit with
      | false => rfl
      | true => exact absurd (List.all_eq_true.mp h y hy) (by rw [lower_not_digit y hyl]; decide)
    cases t with
    | nil => exact nomatch hne
    | cons c cs =>
      have hc : isLocalChar c = true := List.all_eq_true.mp hall c (by simp)
      rw [LSeg.render, toBig_cons c cs (ne_of_class hc (by decide)) (ne_of_class hc (by decide)), hnd]
      rfl

theorem localElem_render (s t : LSeg) (hs : s.wf = true) (ht : t.wf = true) : localElem s.render t.render = s.cmp t := by
  unfold localElem
  rw [toBig_lseg s hs, toBig_lseg t ht]
  cases s <;> cases t <;> simp [LSeg.cmp, icmp_cast, LSeg.render]

/-- the empty label is one empty segment, below every segment of a label -/
theorem localElem_nil (s : LSeg) (hs : s.wf = true) : localElem [] s.render = .lt ∧ localElem s.render [] = .gt := by
  unfold localElem
  rw [toBig_lseg s hs, toBig_nil]
  cases s with
  | num n => exact ⟨rfl, rfl⟩
  | str t =>
    simp only [LSeg.wf, Bool.and_eq_true, Bool.not_eq_true'] at hs
    cases t with
    | nil => exact nomatch hs.1.1
    | cons c cs => exact ⟨rfl, rfl⟩

theorem local_agree (a b : V) (ha : a.wf = true) (hb : b.wf = true) :
    cmpPyLocal a.locTexts b.locTexts = localCmp a.loc b.loc := by
  have wa : ∀ s ∈ a.loc, s.wf = true := List.all_eq_true.mp ha
  have wb : ∀ s ∈ b.loc, s.wf = true := List.all_eq_true.mp hb
  have key := cmpLex_image LSeg.render (fun s t hs ht => localElem_render s t hs ht) a.loc b.loc wa wb
  unfold cmpPyLocal localCmp V.locTexts
  cases hla : a.loc with
  | nil =>
    cases hlb : b.loc with
    | nil => decide
    | cons t _ => rw [hlb] at wb; simp [cmpLex, (localElem_nil t (wb t (by simp))).1]
  | cons s _ =>
    cases hlb : b.loc with
    | nil => rw [hla] at wa; simp [cmpLex, (localElem_nil s (wa s (by simp))).2]
    | cons t _ => rw [hla, hlb] at key; exact key

theorem cmpPyT_parsed (a b : V) (ha : a.wf = true) (hb : b.wf = true) : cmpPyT a.parsed b.parsed = PepSpec.specCmp a b := by
  have hleg : cmpPyLegacy a.parsed b.parsed = .eq := rfl
  have hloc : cmpPyLocal a.parsed.loc b.parsed.loc = localCmp a.loc b.loc := local_agree a b ha hb
  have hrel : compsCmp a.parsed.release b.parsed.release = cmpPad ncmp 0 a.release b.release := compsCmp_cast _ _
  have hep : icmp a.parsed.epoch b.parsed.epoch = ncmp a.epoch b.epoch := icmp_cast _ _
  rw [cmpPyT, PepSpec.specCmp, stage_agree, post_agree, dev_agree, hleg, hloc, hrel, hep, eqThen, Ordering.then_assoc]

/-- PEP 440 on every normalised version -/
theorem pypi_spec (a b : V) (ha : a.wf = true) (hb : b.wf = true) :
    compareStr .pypi (render a) (render b) = .ofOrd (PepSpec.specCmp a b) :=
  (pypi_laws.compare_ok ((pypiFam_parse _).trans (parsePy_render a ha)) ((pypiFam_parse _).trans (parsePy_render b hb))).trans
    (congrArg Outcome.ofOrd (cmpPyT_parsed a b ha hb))

end Scalibr.Semantic
