/-
C07 — facts about character lists that the comparator proofs share: prefixes cut off by a predicate
(`takeWhile` / `dropWhile`), texts split at a separator, texts joined by dots, and the ASCII
character classes.
-/
import Scalibr.Model.Semantic.Basic
import Scalibr.Proofs.Lists
namespace Scalibr.Semantic

/-! ## prefixes cut off by a predicate -/

theorem length_dropWhile_le {α} (p : α → Bool) (l : List α) : (l.dropWhile p).length ≤ l.length :=
  (List.dropWhile_sublist p).length_le

theorem mem_dropWhile {α} (p : α → Bool) (l : List α) (x : α) (h : x ∈ l.dropWhile p) : x ∈ l :=
  (List.dropWhile_sublist p).subset h

theorem take_takeWhile {α : Type} (p : α → Bool) (s : List α) : s.take (s.takeWhile p).length = s.takeWhile p := by
  conv => lhs; arg 2; rw [← List.takeWhile_append_dropWhile (p := p) (l := s)]
  exact List.take_left' rfl

export Lists (drop_takeWhile)

theorem dropWhile_of_takeWhile_nil {α} (p : α → Bool) (l : List α) (h : l.takeWhile p = []) : l.dropWhile p = l := by
  have := List.takeWhile_append_dropWhile (p := p) (l := l)
  rwa [h, List.nil_append] at this

theorem head_dropWhile {α} (p : α → Bool) (l : List α) :
    l.dropWhile p = [] ∨ ∃ c r, l.dropWhile p = c :: r ∧ p c = false := by
  induction l with
  | nil => left; rfl
  | cons x xs ih =>
    by_cases hx : p x = true
    · simp only [List.dropWhile, hx]; exact ih
    · right; exact ⟨x, xs, by simp [List.dropWhile, hx], by simpa using hx⟩

/-- a stopping suffix for a run of `f`-elements: empty, or starting with a non-`f` element -/
def Stops {α} (f : α → Bool) (t : List α) : Prop := t = [] ∨ ∃ x u, t = x :: u ∧ f x = false

theorem takeWhile_append_stop {α} (p : α → Bool) (l rest : List α) (hl : ∀ x ∈ l, p x = true) (hr : Stops p rest) :
    (l ++ rest).takeWhile p = l ∧ (l ++ rest).dropWhile p = rest := by
  induction l with
  | nil =>
    rcases hr with hr | ⟨c, t, hr, hc⟩
    · subst hr; simp
    · subst hr; simp [hc]
  | cons x xs ih =>
    have hx := hl x (by simp)
    have := ih (fun y hy => hl y (by simp [hy]))
    simp [hx, this.1, this.2]

theorem dropWhile_none {α} (p : α → Bool) (l : List α) (h : ∀ x ∈ l, p x = false) : l.dropWhile p = l := by
  cases l with
  | nil => rfl
  | cons x xs => simp [List.dropWhile, h x (by simp)]

theorem trimSpace_id (s : List Char) (h : ∀ c ∈ s, isSpace c = false) : trimSpace s = s := by
  unfold trimSpace
  rw [dropWhile_none isSpace s h, dropWhile_none isSpace s.reverse (fun c hc => h c (by simpa using hc))]
  simp

theorem stripPrefix_append (p r : List Char) : stripPrefix p (p ++ r) = r := by
  have : p.isPrefixOf (p ++ r) = true := by simp
  simp [stripPrefix, hasPrefix, this]

/-! ## texts split at a separator -/

theorem splitOnP_no_sep (p : Char → Bool) : ∀ (t : List Char), (∀ x ∈ t, p x = false) → splitOnP p t = [t] := by
  intro t; induction t with
  | nil => intro _; rfl
  | cons c cs ih =>
    intro h
    simp only [splitOnP, h c (by simp), Bool.false_eq_true, if_false, ih (fun d hd => h d (by simp [hd]))]

theorem splitOnP_append_sep (p : Char → Bool) (sep : Char) (hs : p sep = true) : ∀ (t rest : List Char), (∀ x ∈ t, p x = false) →
    splitOnP p (t ++ sep :: rest) = t :: splitOnP p rest := by
  intro t; induction t with
  | nil => intro rest _; simp [splitOnP, hs]
  | cons c cs ih =>
    intro rest h
    simp only [List.cons_append, splitOnP, h c (by simp), Bool.false_eq_true, if_false, ih rest (fun d hd => h d (by simp [hd]))]

/-- `strings.Split` at one character is the split at a one-character class -/
theorem splitOn_eq_splitOnP (sep : Char) : ∀ s, splitOn sep s = splitOnP (fun c => c = sep) s := by
  intro s; induction s with
  | nil => rfl
  | cons c cs ih => simp only [splitOn, splitOnP, ih, decide_eq_true_eq]

theorem splitOn_no_sep (sep : Char) (P : List Char) (h : ∀ c ∈ P, c ≠ sep) : splitOn sep P = [P] := by
  rw [splitOn_eq_splitOnP]; exact splitOnP_no_sep _ P (by simpa using h)

theorem splitOn_append_sep (sep : Char) (P rest : List Char) (h : ∀ c ∈ P, c ≠ sep) :
    splitOn sep (P ++ sep :: rest) = P :: splitOn sep rest := by
  rw [splitOn_eq_splitOnP, splitOn_eq_splitOnP]; exact splitOnP_append_sep _ sep (by simp) P rest (by simpa using h)

theorem splitOn_ne_nil (sep : Char) : ∀ s, splitOn sep s ≠ [] := by
  intro s
  cases s with
  | nil => simp [splitOn]
  | cons c cs =>
    simp only [splitOn]
    split
    · simp
    · split <;> simp

theorem cutAt_none (sep : Char) : ∀ (P : List Char), (∀ c ∈ P, c ≠ sep) → cutAt sep P = none := by
  intro P; induction P with
  | nil => intro _; rfl
  | cons c cs ih =>
    intro h
    simp only [cutAt, h c (by simp), if_false, ih (fun d hd => h d (by simp [hd]))]

theorem cutAt_append_sep (sep : Char) : ∀ (P rest : List Char), (∀ c ∈ P, c ≠ sep) →
    cutAt sep (P ++ sep :: rest) = some (P, rest) := by
  intro P; induction P with
  | nil => intro rest _; simp [cutAt]
  | cons c cs ih =>
    intro rest h
    simp only [List.cons_append, cutAt, h c (by simp), if_false, ih rest (fun d hd => h d (by simp [hd]))]

theorem cutLast_append_sep (sep : Char) (U R : List Char) (hR : ∀ c ∈ R, c ≠ sep) :
    cutLast sep (U ++ sep :: R) = some (U, R) := by
  unfold cutLast
  have : (U ++ sep :: R).reverse = R.reverse ++ sep :: U.reverse := by simp
  rw [this, cutAt_append_sep sep R.reverse U.reverse (fun c hc => hR c (by simpa using hc))]
  simp

theorem cutLast_none (sep : Char) (U : List Char) (hU : ∀ c ∈ U, c ≠ sep) : cutLast sep U = none := by
  unfold cutLast
  rw [cutAt_none sep U.reverse (fun c hc => hU c (by simpa using hc))]

/-! ## texts joined by dots

Every specification renders a sequence (identifiers, segments, digit runs) as its members' texts
with single dots in between; each of those renderings is `dotJoin` of the mapped list (`eq_dotJoin`). -/

def dotJoin : List (List Char) → List Char
  | [] => []
  | [t] => t
  | t :: u :: rest => t ++ '.' :: dotJoin (u :: rest)

theorem eq_dotJoin {α} (f : α → List Char) (j : List α → List Char) (h0 : j [] = []) (h1 : ∀ i, j [i] = f i)
    (h2 : ∀ i k r, j (i :: k :: r) = f i ++ '.' :: j (k :: r)) : ∀ l, j l = dotJoin (l.map f)
  | [] => h0
  | [i] => h1 i
  | i :: k :: r => by rw [h2, eq_dotJoin f j h0 h1 h2 (k :: r)]; rfl

theorem dotJoin_cons (t : List Char) (ts : List (List Char)) :
    dotJoin (t :: ts) = t ++ (ts.map fun u => '.' :: u).flatten := by
  induction ts generalizing t with
  | nil => simp [dotJoin]
  | cons u us ih => simp [dotJoin, ih u]

theorem forall_mem_dotJoin {P : Char → Prop} (hdot : P '.') :
    ∀ {ts : List (List Char)}, (∀ t ∈ ts, ∀ c ∈ t, P c) → ∀ c ∈ dotJoin ts, P c
  | [], _, _, h => by cases h
  | [t], H, c, h => H t (by simp) c h
  | t :: u :: r, H, c, h => by
    rw [dotJoin, List.mem_append, List.mem_cons] at h
    rcases h with h | rfl | h
    · exact H t (by simp) c h
    · exact hdot
    · exact forall_mem_dotJoin hdot (fun x hx => H x (by simp [hx])) c h

theorem splitOnP_dotJoin (p : Char → Bool) (hp : p '.' = true) : ∀ (ts : List (List Char)), ts ≠ [] →
    (∀ t ∈ ts, ∀ x ∈ t, p x = false) → splitOnP p (dotJoin ts) = ts
  | [], h, _ => absurd rfl h
  | [t], _, h => splitOnP_no_sep p t (h t (by simp))
  | t :: u :: r, _, h => by
    rw [dotJoin, splitOnP_append_sep p '.' hp t _ (h t (by simp)),
      splitOnP_dotJoin p hp (u :: r) (by simp) fun x hx => h x (by simp [hx])]

theorem splitOn_dotJoin (ts : List (List Char)) (hne : ts ≠ []) (h : ∀ t ∈ ts, ∀ c ∈ t, c ≠ '.') :
    splitOn '.' (dotJoin ts) = ts := by
  rw [splitOn_eq_splitOnP]; exact splitOnP_dotJoin _ (by simp) ts hne (by simpa using h)

/-! ## character classes -/

theorem ne_of_class {p : Char → Bool} {c d : Char} (hc : p c = true) (hd : p d = false) : c ≠ d :=
  fun e => by rw [e, hd] at hc; cases hc

theorem char_eq_of_toNat {a b : Char} (h : a.toNat = b.toNat) : a = b :=
  Char.ext (UInt32.toNat_inj.mp h)

theorem letter_range (c : Char) (h : isLetter c = true) :
    (65 ≤ c.toNat ∧ c.toNat ≤ 90) ∨ (97 ≤ c.toNat ∧ c.toNat ≤ 122) := by
  simp only [isLetter, isLower, isUpper, Bool.or_eq_true, Bool.and_eq_true, decide_eq_true_eq] at h
  omega

theorem letter_not_digit (c : Char) (h : isLetter c = true) : isDigit c = false := by
  have := letter_range c h
  simp only [isDigit, Bool.and_eq_false_iff, decide_eq_false_iff_not]
  omega

theorem digit_not_letter (c : Char) (h : isDigit c = true) : isLetter c = false := by
  cases hl : isLetter c with
  | false => rfl
  | true => rw [letter_not_digit c hl] at h; exact absurd h (by simp)

theorem lower_not_digit (y : Char) (h : isLower y = true) : isDigit y = false :=
  letter_not_digit y (by simp [isLetter, h])

theorem digit_props (c : Char) (h : isDigit c = true) : c ≠ ':' ∧ c ≠ '-' ∧ isSpace c = false := by
  refine ⟨ne_of_class h (by decide), ne_of_class h (by decide), ?_⟩
  simp only [isDigit, Bool.and_eq_true, decide_eq_true_eq] at h
  simp only [isSpace, Bool.or_eq_false_iff, Bool.and_eq_false_iff, decide_eq_false_iff_not]
  omega

theorem letter_props (c : Char) (h : isLetter c = true) : isDigit c = false ∧ c ≠ '.' ∧ c ≠ '-' ∧ c ≠ '+' ∧ c ≠ '0' :=
  ⟨letter_not_digit c h, ne_of_class h (by decide), ne_of_class h (by decide), ne_of_class h (by decide),
    ne_of_class h (by decide)⟩

/-- `unicode.ToLower` on ASCII -/
theorem goToLower_ascii (c : Char) (h : c.toNat < 128) : goToLower c = lowerAscii c := by
  unfold goToLower lowerAscii
  by_cases hu : isUpper c = true
  · simp [hu]
  · simp [hu, h]

theorem ite_ne {α} {c : Prop} [Decidable c] {a b v : α} (ha : a ≠ v) (hb : b ≠ v) : (if c then a else b) ≠ v := by
  split <;> assumption

end Scalibr.Semantic
