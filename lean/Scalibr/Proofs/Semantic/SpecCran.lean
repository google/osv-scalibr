/-
C07 — the CRAN comparison agrees with R's documented ordering (`Spec/Semantic/Cran.lean`) on every
canonically rendered version.
-/
import Scalibr.Spec.Semantic.Cran
import Scalibr.Proofs.Semantic.Simple
import Scalibr.Proofs.Semantic.Decimal
namespace Scalibr.Semantic
open CranSpec

theorem map_dash_D (n : Nat) : (D n).map (fun c => if c = '-' then '.' else c) = D n :=
  (List.map_congr_left fun c hc => if_neg (D_no n '-' (by decide) c hc)).trans (List.map_id _)

theorem map_dash_rest : ∀ rest : List (Bool × Nat),
    (renderRest rest).map (fun c => if c = '-' then '.' else c) = dotted (rest.map (·.2))
  | [] => rfl
  | (s, n) :: ps => by cases s <;> simp [renderRest, dotted, map_dash_D, map_dash_rest ps]

theorem cranParts_D : ∀ ns : List Nat, cranParts (ns.map D) = some (castNums ns)
  | [] => rfl
  | n :: ns => by simp only [List.map, cranParts, isEmpty_D, Bool.false_eq_true, if_false, toBig_D, cranParts_D ns, castNums]

theorem parseCran_render (v : V) : parseCran (render v) = .ok (castNums v.nums) := by
  unfold parseCran render
  rw [List.map_append, map_dash_D, map_dash_rest, splitOn_dotted, cranParts_D]
  rfl

/-! ## padded comparison, then the lengths = lexicographic comparison (non-negative components) -/

theorem padL_then_lt : ∀ ms : List Nat, (cmpPadL ncmp 0 ms).then .lt = .lt
  | [] => rfl
  | m :: ms => by
    rw [cmpPadL, Ordering.then_assoc, padL_then_lt ms]
    cases m <;> simp [ncmp]

theorem padR_then_gt : ∀ ns : List Nat, (cmpPadR ncmp 0 ns).then .gt = .gt
  | [] => rfl
  | n :: ns => by
    rw [cmpPadR, Ordering.then_assoc, padR_then_gt ns]
    cases n <;> simp [ncmp]

theorem pad_then_length : ∀ ns ms : List Nat, (cmpPad ncmp 0 ns ms).then (ncmp ns.length ms.length) = cmpLex ncmp ns ms
  | [], [] => rfl
  | [], m :: ms => by rw [cmpPad, List.length_cons, List.length_nil, ncmp_lt.mpr (Nat.succ_pos _)]; exact padL_then_lt _
  | n :: ns, [] => by rw [cmpPad_nil_right, List.length_cons, List.length_nil, ncmp_gt.mpr (Nat.succ_pos _)]; exact padR_then_gt _
  | n :: ns, m :: ms => by
    rw [cmpPad, cmpLex, Ordering.then_assoc, List.length_cons, List.length_cons, ncmp_mono (· + 1) (by omega),
      pad_then_length ns ms]

/-- R's ordering on every canonically rendered version -/
theorem cran_spec (a b : V) : compareStr .cran (render a) (render b) = .ofOrd (CranSpec.specCmp a b) := by
  show cranFam.compareStr (render a) (render b) = _
  rw [cran_laws.compare_ok ((cranFam_parse _).trans (parseCran_render a)) ((cranFam_parse _).trans (parseCran_render b)), cmpCran, compsCmp_cast, castNums, castNums,
    List.length_map, List.length_map, pad_then_length]
  rfl

end Scalibr.Semantic
