/-
C07 — from the string-level laws (`Total`, `Refl`, `Antisymm`, `TransOn`) to the vocabulary of
`Spec/VersionOrder.lean` (`TotalPreorderOn`, `RankFor`), and: a comparison that answers is a
comparison of accepted strings.
-/
import Scalibr.Proofs.Semantic.Lex
import Scalibr.Spec.Semantic.Grammar
namespace Scalibr.Semantic

/-- if the comparison answers `<`, `=` or `>` then the receiver was accepted by `Parse` -/
theorem accepted_of_ofOrd {f : Fam} {a b : List Char} {o : Ordering} (h : compareStr f a b = .ofOrd o) :
    accepted f a = true := by
  unfold compareStr Family.compareStr Family.cmpParsed at h
  unfold accepted Family.accepted
  cases hp : f.family.parse a with
  | panic => rw [hp] at h; exact absurd h.symm (ofOrd_ne_panic o)
  | err => rw [hp] at h; exact absurd h.symm (ofOrd_ne_err o)
  | ok v => rfl

theorem TransOn.mono {f : Fam} {P Q : List Char → Prop} (h : ∀ s, Q s → P s) (t : TransOn f P) : TransOn f Q :=
  fun a b c qa qb qc => t a b c (h a qa) (h b qb) (h c qc)

/-- the string-level laws on a domain `P` of accepted strings give the laws of a total preorder, in
the shape C11 / C18 consume, on every list of versions drawn from `P` -/
theorem preorder_on {f : Fam} {P : List Char → Prop} (ht : Total f) (hr : Refl f) (ha : Antisymm f)
    (htr : TransOn f P) (hacc : ∀ s, P s → accepted f s = true) (vs : List (List Char))
    (hvs : ∀ s ∈ vs, P s) : Upgrade.TotalPreorderOn (cmpOrd f) vs := by
  have ok : ∀ a b, P a → P b →
      compareStr f a b ≠ .err ∧ compareStr f a b ≠ .panic ∧ compareStr f a b = (compareStr f b a).flip :=
    fun a b pa pb => ⟨(ha a b (hacc a pa) (hacc b pb)).1, ht a b, (ha a b (hacc a pa) (hacc b pb)).2⟩
  constructor
  · intro a ma
    simp only [cmpOrd, hr a (hacc a (hvs a ma))]
  · intro a ma b mb
    obtain ⟨e1, p1, f1⟩ := ok a b (hvs a ma) (hvs b mb)
    obtain ⟨e2, p2, _⟩ := ok b a (hvs b mb) (hvs a ma)
    unfold cmpOrd
    revert e1 p1 f1 e2 p2
    generalize compareStr f a b = x
    generalize compareStr f b a = y
    cases y <;> cases x <;> simp [Outcome.flip]
  · intro a ma b mb c mc h1 h2
    obtain ⟨e1, p1, _⟩ := ok a b (hvs a ma) (hvs b mb)
    obtain ⟨e2, p2, _⟩ := ok b c (hvs b mb) (hvs c mc)
    obtain ⟨e3, p3, _⟩ := ok a c (hvs a ma) (hvs c mc)
    have l1 : (compareStr f a b).isLe = true := by
      revert h1 e1 p1; unfold cmpOrd; cases compareStr f a b <;> simp [Outcome.isLe]
    have l2 : (compareStr f b c).isLe = true := by
      revert h2 e2 p2; unfold cmpOrd; cases compareStr f b c <;> simp [Outcome.isLe]
    have l3 := (htr a b c (hvs a ma) (hvs b mb) (hvs c mc) l1 l2).1
    revert l3; unfold cmpOrd; cases compareStr f a c <;> simp [Outcome.isLe]

end Scalibr.Semantic
