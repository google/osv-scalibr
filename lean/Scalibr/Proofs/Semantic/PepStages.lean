/-
C07 — PEP 440, part 2: the groups of the recogniser, each on its segment of a normalised version
text followed by the rest of the text, and the captures it adds.
-/
import Scalibr.Proofs.Semantic.PepParse
namespace Scalibr.Semantic
open PepSpec

/-! ## the groups of `pypiVersionFinder` -/

/-- `[sep] word [sep] [digits]`: the shape of the pre-release, post-release and development groups -/
def wordGroup (name nname : Cap) (alts : List (List Char)) : PP :=
  pSeq (pOpt (pChar isSepP)) <| pSeq (pCapLit name alts) <| pSeq (pOpt (pChar isSepP)) (pOpt (pRun isDigit 1 (some nname)))

def preAlts : List (List Char) :=
  [['a'], ['b'], ['c'], ['r','c'], ['a','l','p','h','a'], ['b','e','t','a'], ['p','r','e'], ['p','r','e','v','i','e','w']]
def postAlts : List (List Char) := [['p','o','s','t'], ['r','e','v'], ['r']]

def gEpoch : PP := pOpt (pSeq (pRun isDigit 1 (some .epoch)) (pLit ['!']))
def gRelease (fuel : Nat) : PP :=
  pCapture .release (pSeq (pRun isDigit 1 none) (pStar (pSeq (pLit ['.']) (pRun isDigit 1 none)) fuel))
def gPre : PP := pOpt (wordGroup .preL .preN preAlts)
def gPost : PP := pOpt (pAlt (pSeq (pLit ['-']) (pRun isDigit 1 (some .postN1))) (wordGroup .postL .postN2 postAlts))
def gDev : PP := pOpt (wordGroup .devL .devN [['d','e','v']])
def gLocal (fuel : Nat) : PP :=
  pOpt (pSeq (pLit ['+']) (pCapture .localV (pSeq (pRun isLocalCh 1 none) (pStar (pSeq (pChar isSepP) (pRun isLocalCh 1 none)) fuel))))

theorem pepP_eq (fuel : Nat) :
    pepP fuel = pSeq (pRun isWs 0 none) (pSeq (pOpt (pLit ['v'])) (pSeq gEpoch (pSeq (gRelease fuel)
      (pSeq gPre (pSeq gPost (pSeq gDev (pSeq (gLocal fuel) (pRun isWs 0 none)))))))) := rfl

/-! ## texts and captures -/

/-- the texts after the pre-release, post-release and development segments -/
def PepSpec.V.t4 (v : V) : List Char := v.localText
def PepSpec.V.t3 (v : V) : List Char := v.devText ++ v.t4
def PepSpec.V.t2 (v : V) : List Char := v.postText ++ v.t3
def PepSpec.V.t1 (v : V) : List Char := v.preText ++ v.t2

theorem render_eq (v : V) : render v = v.epochText ++ (joinNums v.first v.rest ++ v.t1) := rfl

/-- the captures of a `word number` segment and of a single optional group -/
def wnCaps (name nname : Cap) : Option (List Char × Nat) → Caps
  | some (w, n) => [(nname, D n), (name, w)]
  | none => []
def optCap (name : Cap) (t : List Char) (present : Bool) : Caps := if present then [(name, t)] else []

def PepSpec.V.epochCaps (v : V) : Caps := optCap .epoch (D v.epoch) (v.epoch != 0)
def PepSpec.V.preCaps (v : V) : Caps := wnCaps .preL .preN (v.pre.map fun p => (p.1.text, p.2))
def PepSpec.V.postCaps (v : V) : Caps := wnCaps .postL .postN2 (v.post.map fun n => (['p','o','s','t'], n))
def PepSpec.V.devCaps (v : V) : Caps := wnCaps .devL .devN (v.dev.map fun n => (['d','e','v'], n))
def PepSpec.V.localCaps (v : V) : Caps := optCap .localV (joinDots (v.loc.map LSeg.render)) !v.loc.isEmpty

/-- what can follow a segment: nothing, the local label, or a dot and one of the words `ws` -/
def Tail (ws : List (List Char)) (t : List Char) : Prop :=
  t = [] ∨ (∃ u, t = '+' :: u) ∨ ∃ w ∈ ws, ∃ u, t = '.' :: (w ++ u)

theorem Tail.mono {ws : List (List Char)} {t : List Char} (w : List Char) (h : Tail ws t) : Tail (w :: ws) t := by
  rcases h with h | h | ⟨w', hw, h⟩
  · exact .inl h
  · exact .inr (.inl h)
  · exact .inr (.inr ⟨w', List.mem_cons_of_mem _ hw, h⟩)

theorem Tail.stops {ws : List (List Char)} {t : List Char} (h : Tail ws t) (f : Char → Bool)
    (hp : f '+' = false := by decide) (hd : f '.' = false := by decide) : Stops f t := by
  rcases h with rfl | ⟨u, rfl⟩ | ⟨w, _, u, rfl⟩
  · exact .inl rfl
  · exact .inr ⟨_, _, rfl, hp⟩
  · exact .inr ⟨_, _, rfl, hd⟩

theorem t4_tail (v : V) : Tail [] v.t4 := by
  unfold V.t4 V.localText
  split
  · exact .inl rfl
  · exact .inr (.inl ⟨_, rfl⟩)

theorem t3_tail (v : V) : Tail [['d','e','v']] v.t3 := by
  unfold V.t3 V.devText
  cases v.dev with
  | none => exact (t4_tail v).mono _
  | some n => exact .inr (.inr ⟨_, List.mem_cons_self, D n ++ v.t4, rfl⟩)

theorem t2_tail (v : V) : Tail [['p','o','s','t'], ['d','e','v']] v.t2 := by
  unfold V.t2 V.postText
  cases v.post with
  | none => exact (t3_tail v).mono _
  | some n => exact .inr (.inr ⟨_, List.mem_cons_self, D n ++ v.t3, rfl⟩)

/-! ## word groups -/

theorem not_sep_of_class {p : Char → Bool} {c : Char} (hc : p c = true) (h1 : p '-' = false := by decide)
    (h2 : p '_' = false := by decide) (h3 : p '.' = false := by decide) : isSepP c = false := by
  simp [isSepP, ne_of_class hc h1, ne_of_class hc h2, ne_of_class hc h3]

theorem sepOpt_rest (s : List Char) (c : Caps) :
    ∀ r ∈ pOpt (pChar isSepP) s c, r.1 = s ∨ ∃ x, isSepP x = true ∧ s = x :: r.1 := by
  intro r hr
  simp only [pOpt, pAlt, pEps, List.mem_append, List.mem_singleton] at hr
  rcases hr with hr | rfl
  · cases s with
    | nil => exact nomatch hr
    | cons x u =>
      by_cases hx : isSepP x = true <;> simp [pChar, hx] at hr
      exact .inr ⟨x, hx, by rw [hr]⟩
  · exact .inl rfl

/-- a word group fails on a tail when each of its words clashes with `+`, with `.` and with the
words that can follow the dot -/
theorem wordGroup_none (name nname : Cap) (alts ws : List (List Char))
    (hc : ∀ a ∈ alts, ∀ w ∈ ['+'] :: ['.'] :: ws, clash a w = true) (t : List Char) (ht : Tail ws t) (c : Caps) :
    wordGroup name nname alts t c = [] := by
  refine pSeq_all_nil fun r hr => pSeq_nil (pCapLit_none name alts r.1 r.2 fun a ha => ?_)
  have hnil : hasPrefix a [] = false := by
    cases a with
    | nil => exact absurd (hc [] ha ['+'] (by simp)) (by simp [clash])
    | cons _ _ => rfl
  -- what the optional separator leaves is `t`, or `t` without a leading `.`
  rcases ht with rfl | ⟨u, rfl⟩ | ⟨w, hw, u, rfl⟩ <;> rcases sepOpt_rest _ c r hr with e | ⟨x, hx, e⟩
  · rw [e]; exact hnil
  · exact nomatch e
  · rw [e]; exact hasPrefix_clash a ['+'] u (hc a ha _ (by simp))
  · obtain ⟨rfl, _⟩ := List.cons.inj e
    exact absurd hx (by decide)
  · rw [e]; exact hasPrefix_clash a ['.'] _ (hc a ha _ (by simp))
  · rw [← (List.cons.inj e).2]; exact hasPrefix_clash a w u (hc a ha w (by simp [hw]))

/-- on `[.]word digits` followed by a text that stops the digits, the word group takes both -/
theorem wordGroup_some (name nname : Cap) (alts : List (List Char)) (sep word : List Char) (hsep : sep = [] ∨ sep = ['.'])
    (hm : word ∈ alts) (hfirst : ∀ a ∈ alts.takeWhile (· != word), clash a word = true)
    (hword : ∃ x r, word = x :: r ∧ isSepP x = false) (n : Nat) (tail : List Char) (c : Caps) (hstop : Stops isDigit tail) :
    Hd (wordGroup name nname alts) (sep ++ (word ++ (D n ++ tail))) c (tail, (nname, D n) :: (name, word) :: c) := by
  have h1 : Hd (pOpt (pChar isSepP)) (sep ++ (word ++ (D n ++ tail))) c (word ++ (D n ++ tail), c) := by
    rcases hsep with rfl | rfl
    · obtain ⟨x, r, rfl, hx⟩ := hword
      exact Hd.optNone (pChar_miss isSepP _ c (.inr ⟨x, _, rfl, hx⟩))
    · exact Hd.optSome (Hd.of_eq (pChar_hit isSepP '.' _ c (by decide)))
  have h3 : Hd (pOpt (pChar isSepP)) (D n ++ tail) ((name, word) :: c) (D n ++ tail, (name, word) :: c) :=
    Hd.optNone (pChar_miss isSepP _ _ (stops_D isSepP (fun _ h => not_sep_of_class h) n tail))
  exact Hd.seq h1 (Hd.seq (Hd.capLit name alts word _ c hm hfirst) (Hd.seq h3
    (Hd.optSome (Hd.run isDigit (some nname) (D n) tail _ (D_digits n) (D_ne n) hstop))))

theorem stage_pre (v : V) (c : Caps) : Hd gPre v.t1 c (v.t2, v.preCaps ++ c) := by
  unfold V.t1 V.preText V.preCaps
  rcases v.pre with _ | ⟨ph, n⟩
  · exact Hd.optNone (wordGroup_none .preL .preN preAlts _ (by decide) _ (t2_tail v) c)
  · have := wordGroup_some .preL .preN preAlts [] ph.text (.inl rfl) (by cases ph <;> decide) (by cases ph <;> decide)
      (by cases ph <;> exact ⟨_, _, rfl, by decide⟩) n v.t2 c ((t2_tail v).stops isDigit)
    rw [List.nil_append, ← List.append_assoc] at this
    exact Hd.optSome this

theorem stage_post (v : V) (c : Caps) : Hd gPost v.t2 c (v.t3, v.postCaps ++ c) := by
  unfold V.t2 V.postText V.postCaps
  rcases v.post with _ | n
  · exact Hd.optNone (List.append_eq_nil_iff.mpr ⟨pSeq_nil (pLit_miss '-' _ c ((t3_tail v).stops (· == '-'))),
      wordGroup_none .postL .postN2 postAlts _ (by decide) _ (t3_tail v) c⟩)
  · exact Hd.optSome (Hd.altR (pSeq_nil (pLit_miss '-' _ c (.inr ⟨'.', _, rfl, by decide⟩)))
      (wordGroup_some .postL .postN2 postAlts ['.'] ['p','o','s','t'] (.inr rfl) (by decide) (by decide)
        ⟨_, _, rfl, by decide⟩ n v.t3 c ((t3_tail v).stops isDigit)))

theorem stage_dev (v : V) (c : Caps) : Hd gDev v.t3 c (v.t4, v.devCaps ++ c) := by
  unfold V.t3 V.devText V.devCaps
  rcases v.dev with _ | n
  · exact Hd.optNone (wordGroup_none .devL .devN [['d','e','v']] [] (by decide) _ (t4_tail v) c)
  · exact Hd.optSome (wordGroup_some .devL .devN [['d','e','v']] ['.'] ['d','e','v'] (.inr rfl) (by decide) (by decide)
      ⟨_, _, rfl, by decide⟩ n v.t4 c ((t4_tail v).stops isDigit))

/-! ## the dotted groups: local label and release -/

theorem joinDots_eq : ∀ ts : List (List Char), joinDots ts = dotJoin ts
  | [] => rfl
  | [_] => rfl
  | t :: u :: r => by rw [joinDots, dotJoin, joinDots_eq (u :: r)]

theorem joinNums_eq (n : Nat) (ms : List Nat) : joinNums n ms = dotJoin ((n :: ms).map D) := by
  induction ms generalizing n with
  | nil => rfl
  | cons m ms ih => rw [joinNums, ih m]; rfl

theorem lseg_chars (s : LSeg) (hw : s.wf = true) : s.render ≠ [] ∧ ∀ x ∈ s.render, isLocalCh x = true := by
  cases s with
  | num n => exact ⟨D_ne n, fun x hx => by simp [isLocalCh, D_digits n x hx]⟩
  | str t =>
    simp only [LSeg.wf, Bool.and_eq_true, Bool.not_eq_true'] at hw
    refine ⟨by intro e; simp only [LSeg.render] at e; rw [e] at hw; simp at hw, fun x hx => ?_⟩
    simpa [isLocalCh, isLocalChar] using List.all_eq_true.mp hw.1.2 x hx

theorem loc_chars (v : V) (hw : v.wf = true) : ∀ u ∈ v.loc.map LSeg.render, u ≠ [] ∧ ∀ x ∈ u, isLocalCh x = true := by
  intro u hu
  obtain ⟨s, hs, rfl⟩ := List.mem_map.mp hu
  exact lseg_chars s (List.all_eq_true.mp hw s hs)

theorem stage_local (v : V) (hw : v.wf = true) (fuel : Nat) (hf : v.t4.length ≤ fuel) (c : Caps) :
    Hd (gLocal fuel) v.t4 c ([], v.localCaps ++ c) := by
  have hch := loc_chars v hw
  unfold V.t4 V.localText V.localCaps at *
  cases hl : v.loc with
  | nil => exact Hd.optNone (pSeq_nil (pLit_miss '+' [] c (.inl rfl)))
  | cons s rest =>
    rw [hl] at hch hf
    have := Hd.dotted .localV isLocalCh (pChar isSepP) (by decide) (fun r c => pChar_hit isSepP '.' r c (by decide)) [] (.inl rfl)
      (fun c => pSeq_nil rfl) s.render (rest.map LSeg.render) hch fuel
      (by rw [List.append_nil, ← joinDots_eq]; exact Nat.le_of_succ_le hf) c
    rw [List.append_nil, ← joinDots_eq] at this
    exact Hd.optSome (Hd.seq (Hd.of_eq (pLit_hit ['+'] _ c)) this)

theorem t1_stops (v : V) : Stops isDigit v.t1 ∧ ∀ c, pSeq (pLit ['.']) (pRun isDigit 1 none) v.t1 c = [] := by
  unfold V.t1 V.preText
  rcases v.pre with _ | ⟨ph, n⟩
  · refine ⟨(t2_tail v).stops isDigit, fun c => ?_⟩
    rw [List.nil_append]
    rcases t2_tail v with h | ⟨u, h⟩ | ⟨w, hw, u, h⟩ <;> rw [h]
    · exact pSeq_nil (pLit_miss '.' _ c (.inl rfl))
    · exact pSeq_nil (pLit_miss '.' _ c (.inr ⟨_, _, rfl, by decide⟩))
    · -- the dot is followed by the `p` of `post` or the `d` of `dev`
      refine pSeq_all_nil fun r hr => ?_
      have : pLit ['.'] ('.' :: (w ++ u)) c = [(w ++ u, c)] := pLit_hit ['.'] _ c
      obtain rfl := List.mem_singleton.mp (this ▸ hr)
      simp only [List.mem_cons, List.not_mem_nil, or_false] at hw
      rcases hw with rfl | rfl <;> exact pRun_none isDigit none _ c (.inr ⟨_, _, rfl, by decide⟩)
  · cases ph <;>
      exact ⟨.inr ⟨_, _, rfl, by decide⟩, fun c => pSeq_nil (pLit_miss '.' _ c (.inr ⟨_, _, rfl, by decide⟩))⟩

theorem stage_release (v : V) (fuel : Nat) (hf : (joinNums v.first v.rest ++ v.t1).length ≤ fuel) (c : Caps) :
    Hd (gRelease fuel) (joinNums v.first v.rest ++ v.t1) c (v.t1, (Cap.release, joinNums v.first v.rest) :: c) := by
  rw [joinNums_eq] at hf ⊢
  refine Hd.dotted .release isDigit (pLit ['.']) (by decide) (pLit_hit ['.']) v.t1 (t1_stops v).1 (t1_stops v).2
    (D v.first) (v.rest.map D) (fun u hu => ?_) fuel hf c
  obtain ⟨m, _, rfl⟩ := List.mem_map.mp (show u ∈ (v.first :: v.rest).map D from hu)
  exact ⟨D_ne m, D_digits m⟩

theorem stage_epoch (v : V) (body : List Char) (hb : ∀ x ∈ body, x ≠ '!') (c : Caps) :
    Hd gEpoch (v.epochText ++ body) c (body, v.epochCaps ++ c) := by
  unfold V.epochText V.epochCaps
  by_cases he : v.epoch = 0
  · -- wherever the run of digits ends, no `!` follows
    rw [if_pos he, he, List.nil_append]
    refine Hd.optNone (pSeq_all_nil fun r hr => ?_)
    obtain ⟨k, _, rfl⟩ := List.mem_map.mp hr
    refine pLit_miss '!' (body.drop k) _ ?_
    cases hdk : body.drop k with
    | nil => exact .inl rfl
    | cons x u => exact .inr ⟨x, u, rfl, by simpa using hb x (List.mem_of_mem_drop (i := k) (by rw [hdk]; simp))⟩
  · have hne : (v.epoch != 0) = true := by simpa using he
    rw [if_neg he, hne, List.append_assoc]
    exact Hd.optSome (Hd.seq (Hd.run isDigit (some .epoch) (D v.epoch) _ c (D_digits _) (D_ne _) (.inr ⟨'!', body, rfl, by decide⟩))
      (Hd.of_eq (pLit_hit ['!'] body _)))

end Scalibr.Semantic
