/-
C07 — the readers the driver uses for the published-rule oracle invert `render` (CRAN, RubyGems,
Debian/Ubuntu): every well-formed canonical version is read back from its text, so the verdict the
driver prints for a canonical pair is `specCmp` of exactly the versions the agreement theorems
speak about.
-/
import Scalibr.Proofs.Semantic.SpecRubyGems
import Scalibr.Proofs.Semantic.SpecCran
import Scalibr.Proofs.Semantic.SpecDebian
namespace Scalibr.Semantic

/-! ## CRAN -/

theorem cran_rest_stops : ∀ rest : List (Bool × Nat), Stops isDigit (CranSpec.renderRest rest)
  | [] => .inl rfl
  | (false, _) :: _ => .inr ⟨'.', _, rfl, by decide⟩
  | (true, _) :: _ => .inr ⟨'-', _, rfl, by decide⟩

theorem cran_readRest : ∀ (rest : List (Bool × Nat)) (fuel : Nat), (CranSpec.renderRest rest).length < fuel →
    CranSpec.readRest fuel (CranSpec.renderRest rest) = some rest
  | _, 0, h => absurd h (Nat.not_lt_zero _)
  | [], _ + 1, _ => rfl
  | (s, n) :: ps, fuel + 1, h => by
    obtain ⟨tw, dw⟩ := span_D n (cran_rest_stops ps)
    have hlen : (CranSpec.renderRest ps).length < fuel := by
      simp only [CranSpec.renderRest, List.length_cons, List.length_append] at h; omega
    cases s <;>
      simp [CranSpec.renderRest, CranSpec.readRest, tw, dw, readNum_D CranSpec.readNum (fun _ => rfl), cran_readRest ps fuel hlen]

theorem cran_specParse_render (v : CranSpec.V) : CranSpec.specParse (CranSpec.render v) = some v := by
  obtain ⟨tw, dw⟩ := span_D v.first (cran_rest_stops v.rest)
  rw [CranSpec.specParse, CranSpec.render, tw, dw, readNum_D CranSpec.readNum (fun _ => rfl),
    cran_readRest v.rest _ (by simp only [List.length_append]; omega)]

/-! ## RubyGems -/

open RubySpec in
theorem ruby_readRuns_seg (s : Seg) (hw : s.wf = true) (fuel : Nat) : readRuns (fuel + 2) s.render = some [s] := by
  cases s with
  | num n =>
    obtain ⟨d, ds, hD, hd⟩ := D_cons n
    obtain ⟨tw, dw⟩ := span_all isDigit (D n) (D_digits n)
    show readRuns (fuel + 2) (D n) = _
    rw [hD, readRuns]
    simp only [hd, if_true]
    rw [← hD, tw, dw, D_canon]
    simp [readRuns, D_val]
  | str t =>
    obtain ⟨c, cs, rfl, hl⟩ := letters_cons hw
    obtain ⟨tw, dw⟩ := span_all isLetter (c :: cs) hl
    simp only [Seg.render, readRuns, letter_not_digit c (hl c (by simp)), Bool.false_eq_true, if_false, hl c (by simp), if_true, tw, dw]

open RubySpec in
theorem ruby_readParts : ∀ (segs : List Seg), (∀ s ∈ segs, s.wf = true) → readParts (segs.map Seg.render) = some segs
  | [], _ => rfl
  | s :: rest, hw => by
    have hs := hw s (by simp)
    obtain ⟨c, cs, e⟩ := List.exists_cons_of_ne_nil (render_kind s hs).1
    have := ruby_readRuns_seg s hs cs.length
    rw [e] at this
    simp [readParts, e, this, ruby_readParts rest fun x hx => hw x (by simp [hx])]

open RubySpec in
theorem rubygems_specParse_render (v : V) (hw : v.wf = true) : RubySpec.specParse (render v) = some v := by
  obtain ⟨hsegs, hne⟩ := ruby_wf_segs hw
  rw [RubySpec.specParse, ruby_splitOn_render v hsegs hne, ruby_readParts v.segs hsegs]
  obtain ⟨segs⟩ := v
  cases segs with
  | nil => exact absurd rfl hne
  | cons s rest =>
    cases s with
    | num n => rfl
    | str t => simp [V.wf] at hw

/-! ## Debian / Ubuntu -/

open DebSpec in
theorem deb_readPart (h : Bool) : ∀ (segs : List Seg) (first : Bool), partWf h first segs = true →
    ∀ fuel, (renderPart segs).length < fuel → readPart h fuel (renderPart segs) = some segs
  | _, _, _, 0, hf => absurd hf (Nat.not_lt_zero _)
  | [], _, _, _ + 1, _ => rfl
  | s :: rest, first, hw, fuel + 1, hf => by
    obtain ⟨hr, hall, hnone, t1, d1, t2, d2, hne, hlen⟩ := debPart_span h s rest first hw
    simp only [readPart, hne, Bool.false_eq_true, if_false, show (fun c => !isDigit c) = notDigit from rfl, t1, d1, t2, d2, hall,
      Bool.not_true, deb_readPart h rest false hr fuel (by omega)]
    obtain ⟨nd, num⟩ := s
    cases num with
    | none => simp [Seg.digits, hnone rfl]
    | some n => simp [Seg.digits, isEmpty_D, D_val]

open DebSpec in
theorem debian_specParse_render (v : V) (hw : v.wf = true) : DebSpec.specParse (render v) = some v := by
  obtain ⟨_, c1, c2, c3, c4⟩ := deb_cuts v hw
  have hw' := hw
  simp only [V.wf, Bool.and_eq_true, Bool.not_eq_true'] at hw'
  obtain ⟨⟨hune, hup⟩, hrev⟩ := hw'
  have hnum : ∀ n, DebSpec.readNum (D n) = some n := readNum_D DebSpec.readNum (fun _ => rfl)
  unfold DebSpec.specParse
  rw [c1]
  obtain ⟨epoch, up, rev⟩ := v
  cases rev with
  | some r =>
    simp only [Bool.and_eq_true, Bool.not_eq_true'] at hrev
    have hu := deb_readPart true up true (by simpa using hup) ((renderPart up).length + 1) (by omega)
    have hr := deb_readPart false r true hrev.2 ((renderPart r).length + 1) (by omega)
    have hl := c3 r rfl
    by_cases he : epoch = 0
    · subst he; simp [c2 rfl, hl, hu, hr, hune, hrev.1]
    · simp [he, hnum, hl, hu, hr, hune, hrev.1]
  | none =>
    obtain ⟨hl, hb⟩ := c4 rfl
    have hl' : cutLast '-' (renderPart up) = none := hb ▸ hl
    have hu := deb_readPart false up true (by simpa using hup) ((renderPart up).length + 1) (by omega)
    by_cases he : epoch = 0
    · subst he; simp [c2 rfl, hb, hl', hu, hune]
    · simp [he, hnum, hb, hl', hu, hune]

end Scalibr.Semantic
