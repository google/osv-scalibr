/-
C07 — the Go-shaped model functions (with `goIndex` / `goSlice` / `goFetch`, whose `none` is a
run-time panic) coincide with their index-free reformulations. These equalities are the content of
the no-crash theorems `C07_<f>_total` for semver, NuGet, CRAN, RubyGems, Red Hat, Packagist and
Debian: every index / slice the Go code performs is in range, on every input.
-/
import Scalibr.Proofs.Semantic.Lex
import Scalibr.Proofs.Semantic.Text
import Scalibr.Model.Semantic.Parse
namespace Scalibr.Semantic

/-! ## the generic loops -/

theorem goFetch_eq {α : Type} (l : List α) (i : Nat) (d : α) : goFetch l i d = some (l.getD i d) := by
  unfold goFetch goIndex
  by_cases h : l.length ≤ i
  · simp [h, List.getD]
  · simp [h, List.getD, List.getElem?_eq_getElem (Nat.lt_of_not_le h)]

theorem thenGo_some (o r : Ordering) : thenGo o (some r) = some (o.then r) := by
  cases o <;> simp [thenGo, Ordering.then]

theorem unc_drop {α : Type} (d : α) (l : List α) (i : Nat) : unc d (l.drop i) = (l.getD i d, l.drop (i + 1)) := by
  by_cases h : i < l.length
  · rw [List.drop_eq_getElem_cons h]; simp [unc, List.getD, List.getElem?_eq_getElem h]
  · rw [List.drop_eq_nil_of_le (by omega), List.drop_eq_nil_of_le (by omega)]
    simp [unc, List.getD, List.getElem?_eq_none (Nat.le_of_not_lt h)]

theorem padLoop_eq {α : Type} (cmp : α → α → Option Ordering) (c : α → α → Ordering)
    (hc : ∀ x y, cmp x y = some (c x y)) (d : α) (a b : List α) :
    ∀ k i, k + i = max a.length b.length → padLoop cmp d a b k i = some (cmpPad c d (a.drop i) (b.drop i))
  | 0, i, hi => by
    simp [padLoop, List.drop_eq_nil_of_le (by omega : a.length ≤ i), List.drop_eq_nil_of_le (by omega : b.length ≤ i), cmpPad, cmpPadL]
  | k + 1, i, hi => by
    simp only [padLoop, goFetch_eq, Option.bind_some, hc, padLoop_eq cmp c hc d a b k (i + 1) (by omega), thenGo_some]
    rw [cmpPad_step (a.drop i) (b.drop i) fun ha hb => by
      rw [List.drop_eq_nil_iff] at ha hb; omega, unc_drop, unc_drop]

/-- the padded loop never indexes out of range -/
theorem cmpPadGo_eq {α : Type} (cmp : α → α → Option Ordering) (c : α → α → Ordering)
    (hc : ∀ x y, cmp x y = some (c x y)) (d : α) (a b : List α) :
    cmpPadGo cmp d a b = some (cmpPad c d a b) := by
  simpa [cmpPadGo] using padLoop_eq cmp c hc d a b (max a.length b.length) 0 (by omega)

/-- the first non-zero comparison of the common part -/
def cmpZip {α : Type} (cmp : α → α → Ordering) : List α → List α → Ordering
  | x :: as, y :: bs => (cmp x y).then (cmpZip cmp as bs)
  | _, _ => .eq

theorem lexLoop_zip {α : Type} (cmp : α → α → Ordering) (a b : List α) :
    ∀ k i, k + i = min a.length b.length → lexLoop cmp a b k i = some (cmpZip cmp (a.drop i) (b.drop i))
  | 0, i, hi => by
    by_cases ha : i < a.length
    · rw [List.drop_eq_nil_of_le (by omega : b.length ≤ i)]
      cases a.drop i <;> simp [lexLoop, cmpZip]
    · rw [List.drop_eq_nil_of_le (Nat.le_of_not_lt ha)]; simp [lexLoop, cmpZip]
  | k + 1, i, hi => by
    have ha : i < a.length := by omega
    have hb : i < b.length := by omega
    simp only [lexLoop, goIndex, List.getElem?_eq_getElem ha, List.getElem?_eq_getElem hb, Option.bind_some,
      lexLoop_zip cmp a b k (i + 1) (by omega), thenGo_some]
    rw [List.drop_eq_getElem_cons ha, List.drop_eq_getElem_cons hb]
    simp only [cmpZip]

/-- "compare the common part, then the lengths" -/
theorem cmpLex_zip {α : Type} (cmp : α → α → Ordering) :
    ∀ a b : List α, cmpLex cmp a b = (cmpZip cmp a b).then (ncmp a.length b.length)
  | [], [] => rfl
  | [], _ :: _ => (ncmp_lt.mpr (Nat.succ_pos _)).symm
  | _ :: _, [] => (ncmp_gt.mpr (Nat.succ_pos _)).symm
  | _ :: xs, _ :: ys => by
    simp only [cmpLex, cmpZip, cmpLex_zip cmp xs ys, List.length_cons, Ordering.then_assoc,
      ncmp_mono (· + 1) (fun _ _ h => Nat.succ_lt_succ h)]

/-- the common-prefix loop never indexes out of range -/
theorem cmpLexGo_eq {α : Type} (cmp : α → α → Ordering) (a b : List α) :
    cmpLexGo cmp a b = some (cmpLex cmp a b) := by
  simp [cmpLexGo, lexLoop_zip cmp a b _ 0 (Nat.add_zero _), cmpLex_zip]

theorem goSlice_eq {α : Type} (l : List α) (lo hi : Int) (a b : Nat) (hlo : lo = a) (hhi : hi = b)
    (h1 : a ≤ b) (h2 : b ≤ l.length) : goSlice l lo hi = some ((l.take b).drop a) := by
  subst hlo hhi
  have c : (0 : Int) ≤ (a : Int) ∧ (a : Int) ≤ (b : Int) ∧ (b : Int) ≤ (l.length : Int) := by omega
  simp [goSlice, c]

theorem goSlice_take {α : Type} (l : List α) (n : Nat) (h : n ≤ l.length) : goSlice l 0 n = some (l.take n) :=
  goSlice_eq l 0 n 0 n rfl rfl (Nat.zero_le _) h

theorem goSlice_drop {α : Type} (l : List α) (n : Nat) (h : n ≤ l.length) : goSlice l n l.length = some (l.drop n) := by
  rw [goSlice_eq l n l.length n l.length rfl rfl h (Nat.le_refl _), List.take_length]

/-! ## semver-like, NuGet, CRAN -/

/-- the slices of `fetchComponentsAndBuild` are behind its guard -/
theorem parseSemverGo_eq (m : Nat) (s : List Char) : parseSemverGo m s = some (parseSemver m s) := by
  unfold parseSemverGo parseSemver
  simp only []
  by_cases h : (parseSemverLike s).comps.length ≤ m
  · simp [h]
  · have h' : m ≤ (parseSemverLike s).comps.length := by omega
    simp [h, goSlice_take _ m h', goSlice_drop _ m h']

theorem buildCore_stripDash (s : List Char) : buildCore s = stripDash ((splitOn '+' s).headD []) := by
  unfold buildCore stripDash
  rfl

/-- `strings.Split` returns at least one part: `parts[0]` exists -/
theorem buildCoreGo_eq (s : List Char) : buildCoreGo s = some (buildCore s) := by
  unfold buildCoreGo goIndex
  rw [buildCore_stripDash]
  cases h : splitOn '+' s with
  | nil => exact absurd h (splitOn_ne_nil '+' s)
  | cons x xs => simp

theorem cmpBuildGo_eq (a b : List Char) : cmpBuildGo a b = some (cmpBuild a b) := by
  unfold cmpBuildGo cmpBuild cmpBuildComps
  simp only [buildCoreGo_eq, Option.bind_some, cmpLexGo_eq]
  split
  · rfl
  · split <;> rfl

theorem compsCmpGo_eq (a b : List Int) : compsCmpGo a b = some (compsCmp a b) :=
  cmpPadGo_eq _ icmp (fun _ _ => rfl) 0 a b

theorem cmpSemverGo_eq (v w : SemV) : cmpSemverGo v w = some (cmpSemver v w) := by
  simp [cmpSemverGo, cmpSemver, compsCmpGo_eq, cmpBuildGo_eq, thenGo_some]

theorem cmpNuGetGo_eq (v w : SemV) : cmpNuGetGo v w = some (cmpNuGet v w) := by
  simp [cmpNuGetGo, cmpNuGet, compsCmpGo_eq, cmpBuildGo_eq, thenGo_some]

theorem cmpCranGo_eq (v w : List Int) : cmpCranGo v w = some (cmpCran v w) := by
  simp [cmpCranGo, cmpCran, compsCmpGo_eq]

@[simp] theorem semverFam_parse (s : List Char) : semverFam.parse s = .ok (parseSemver 3 s) := by
  simp [semverFam, parseSemverGo_eq, PRes.ofGo]
@[simp] theorem semverFam_cmp (v w : SemV) : semverFam.cmp v w = .ord (cmpSemver v w) := by
  simp [semverFam, cmpSemverGo_eq, CRes.ofGo]
@[simp] theorem nugetFam_parse (s : List Char) : nugetFam.parse s = .ok (parseSemver 4 s) := by
  simp [nugetFam, parseSemverGo_eq, PRes.ofGo]
@[simp] theorem nugetFam_cmp (v w : SemV) : nugetFam.cmp v w = .ord (cmpNuGet v w) := by
  simp [nugetFam, cmpNuGetGo_eq, CRes.ofGo]
@[simp] theorem cranFam_parse (s : List Char) : cranFam.parse s = parseCran s := rfl
@[simp] theorem cranFam_cmp (v w : List Int) : cranFam.cmp v w = .ord (cmpCran v w) := by
  simp [cranFam, cmpCranGo_eq, CRes.ofGo]

/-! ## RubyGems -/

theorem removeZeros_snoc (l : List (List Char)) (x : List Char) :
    removeZeros (l ++ [x]) = if x = ['0'] then removeZeros l else l ++ [x] := by
  unfold removeZeros
  simp only [List.reverse_append, List.reverse_cons, List.reverse_nil, List.nil_append, List.cons_append, List.dropWhile_cons]
  by_cases h : x = ['0']
  · simp [h]
  · simp [h]

theorem removeZeros_prefix (l : List (List Char)) : removeZeros l = l.take (removeZeros l).length := by
  have h : l = removeZeros l ++ (l.reverse.takeWhile (· = ['0'])).reverse := by
    have e := congrArg List.reverse (List.takeWhile_append_dropWhile (p := fun x => decide (x = ['0'])) (l := l.reverse))
    rw [List.reverse_append, List.reverse_reverse] at e
    exact e.symm
  generalize removeZeros l = r at h ⊢
  rw [h]; simp

theorem removeZeros_length_le (l : List (List Char)) : (removeZeros l).length ≤ l.length := by
  rw [removeZeros_prefix]; simp only [List.length_take]; omega

/-- the loop of `removeZeros` stays inside the slice: started at `n - 1` it indexes positions `< n` only -/
theorem rzLoop_eq (segs : List (List Char)) :
    ∀ n, n ≤ segs.length → ∃ j : Int, rzLoop segs (n + 1) ((n : Int) - 1) = some j ∧
      max j 0 = ((removeZeros (segs.take n)).length : Int) := by
  intro n
  induction n with
  | zero =>
    intro _
    refine ⟨-1, ?_, ?_⟩
    · simp [rzLoop]
    · simp only [List.take_zero, removeZeros, List.reverse_nil, List.dropWhile_nil, List.length_nil]; omega
  | succ n ih =>
    intro hn
    have hlt : n < segs.length := by omega
    obtain ⟨j, hj, hm⟩ := ih (by omega)
    have h0 : (0 : Int) ≤ ((n + 1 : Nat) : Int) - 1 := by omega
    have hi : (((n + 1 : Nat) : Int) - 1).toNat = n := by omega
    rw [List.take_succ_eq_append_getElem hlt, removeZeros_snoc]
    unfold rzLoop
    simp only [h0, if_true, hi, goIndex, List.getElem?_eq_getElem hlt, Option.bind_some]
    by_cases hz : segs[n] = ['0']
    · simp only [hz, ne_eq, not_true_eq_false, if_false, if_true]
      have e : ((n + 1 : Nat) : Int) - 1 - 1 = (n : Int) - 1 := by omega
      rw [e]
      exact ⟨j, hj, hm⟩
    · simp only [hz, ne_eq, not_false_eq_true, if_true, if_false]
      refine ⟨_, rfl, ?_⟩
      simp only [List.length_append, List.length_take, List.length_cons, List.length_nil]
      omega

/-- `segs[i]` and `segs[:max(i, 0)]` of `removeZeros` are in range -/
theorem removeZerosGo_eq (segs : List (List Char)) : removeZerosGo segs = some (removeZeros segs) := by
  unfold removeZerosGo
  obtain ⟨j, hj, hm⟩ := rzLoop_eq segs segs.length (Nat.le_refl _)
  rw [List.take_length] at hm
  rw [hj, Option.bind_some, hm, goSlice_take _ _ (removeZeros_length_le segs)]
  rw [← removeZeros_prefix]

theorem rubySegsGo_eq (s : List Char) : rubySegsGo s = some (rubySegs s) := by
  simp [rubySegsGo, rubySegs, removeZerosGo_eq]

theorem cmpRubyGo_eq (a b : List (List Char)) : cmpRubyGo a b = some (cmpRuby a b) :=
  cmpPadGo_eq _ rubyElem (fun _ _ => rfl) ['0'] a b

@[simp] theorem rubygemsFam_parse (s : List Char) : rubygemsFam.parse s = .ok (rubySegs s) := by
  simp [rubygemsFam, rubySegsGo_eq, PRes.ofGo]
@[simp] theorem rubygemsFam_cmp (v w : List (List Char)) : rubygemsFam.cmp v w = .ord (cmpRuby v w) := by
  simp [rubygemsFam, cmpRubyGo_eq, CRes.ofGo]

end Scalibr.Semantic
