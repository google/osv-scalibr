/-
C07 — Debian / Ubuntu. `compareDebianVersions` walks both strings at once; it equals the padded
lexicographic comparison of the two strings' own token lists (non-digit prefix as weights, digit
prefix as a number), which makes it a total preorder comparator by the algebra of `Lex.lean`.
-/
import Scalibr.Proofs.Semantic.GoShape
import Scalibr.Proofs.Semantic.Decimal
namespace Scalibr.Semantic

def notDigit (c : Char) : Bool := !isDigit c

/-- one (non-digit prefix, digit prefix) pair and what is left -/
def debElemOf (a : List Char) : List Nat × Int :=
  ((a.takeWhile notDigit).map debWeigh, (digitsToNat ((a.dropWhile notDigit).takeWhile isDigit) : Int))

def debRestOf (a : List Char) : List Char := (a.dropWhile notDigit).dropWhile isDigit

/-- the token list of one string -/
def debToks : Nat → List Char → List (List Nat × Int) := toksF List.isEmpty debElemOf debRestOf

/-- non-digit parts by padded weights (a missing character weighs 2), then the numbers -/
def debElem : List Nat × Int → List Nat × Int → Ordering :=
  thenCmp (cmpOn (·.1) (cmpPad ncmp 2)) (cmpOn (·.2) icmp)

theorem debElem_isCmp : IsCmp debElem :=
  thenCmp_isCmp (cmpOn_isCmp _ (cmpPad_isCmp 2 ncmp_isCmp)) (cmpOn_isCmp _ icmp_isCmp)

def debPad : List Nat × Int := ([], 0)

theorem deb_done (s : List Char) (h : s.isEmpty = true) : debElemOf s = debPad ∧ (debRestOf s).isEmpty = true := by
  rw [List.isEmpty_iff.mp h]; exact ⟨rfl, rfl⟩

theorem cmpDebNonDigit_eq (ap bp : List Char) :
    cmpDebNonDigit ap bp = cmpPad ncmp 2 (ap.map debWeigh) (bp.map debWeigh) := by
  unfold cmpDebNonDigit
  split
  · rename_i h; subst h; exact (cmpPad_refl 2 ncmp_isCmp.toSym _).symm
  · rfl

theorem debDigitPrefix_eq (s : List Char) :
    debDigitPrefix s = some ((digitsToNat (s.takeWhile isDigit) : Int), s.dropWhile isDigit) := by
  unfold debDigitPrefix
  simp only
  cases hds : s.takeWhile isDigit with
  | nil => simp [digitsToNat, dropWhile_of_takeWhile_nil isDigit s hds]
  | cons c cs =>
    have hall : (c :: cs).all isDigit = true := by rw [← hds]; exact List.all_takeWhile
    rw [toBig_digits_eq hall (List.cons_ne_nil c cs)]
    rfl

theorem ordThen_ordThen (x y : Ordering) (k : Unit → CRes) :
    ordThen x (fun _ => ordThen y k) = ordThen (x.then y) k := by
  cases x <;> cases y <;> rfl

theorem ordThen_ord (x y : Ordering) : ordThen x (fun _ => .ord y) = .ord (x.then y) := by
  cases x <;> rfl

/-- one iteration of the loop, in terms of the two strings' own first tokens -/
theorem cmpDebStr_succ (fuel : Nat) (a b : List Char) :
    cmpDebStr (fuel + 1) a b =
      ordThen (debElem (debElemOf a) (debElemOf b)) (fun _ => cmpDebStr fuel (debRestOf a) (debRestOf b)) := by
  cases hne : a.isEmpty && b.isEmpty with
  | true =>
    rw [Bool.and_eq_true, List.isEmpty_iff, List.isEmpty_iff] at hne
    rw [hne.1, hne.2]
    cases fuel <;> rfl
  | false =>
    simp only [cmpDebStr, hne, Bool.false_eq_true, if_false, cmpDebNonDigit_eq, debDigitPrefix_eq]
    rw [ordThen_ordThen]
    rfl

/-- the simultaneous loop = padded comparison of the token lists (any fuel) -/
theorem cmpDebStr_eq : ∀ (fuel : Nat) (a b : List Char),
    cmpDebStr fuel a b = .ord (cmpPad debElem debPad (debToks fuel a) (debToks fuel b))
  | 0, _, _ => rfl
  | n + 1, a, b => by
    rw [cmpDebStr_succ, cmpDebStr_eq n, debToks, cmpPad_toksF (debElem_isCmp.refl _) deb_done, ordThen_ord]

theorem debRestOf_length (a : List Char) (h : a.isEmpty = false) : (debRestOf a).length < a.length := by
  cases a with
  | nil => exact absurd h (by simp)
  | cons c cs =>
    unfold debRestOf
    have h1 := length_dropWhile_le isDigit ((c :: cs).dropWhile notDigit)
    have h2 := length_dropWhile_le notDigit cs
    have h3 := length_dropWhile_le isDigit cs
    by_cases hc : isDigit c = true
    · simp only [List.dropWhile_cons, notDigit, hc, Bool.not_true, Bool.false_eq_true, if_false, if_true, List.length_cons]
      omega
    · simp only [List.dropWhile_cons, notDigit, hc, Bool.not_false, if_true, List.length_cons] at h1 ⊢
      omega

/-- any fuel above the length yields the same token list -/
theorem debToks_fuel (n m : Nat) (a : List Char) (hn : a.length < n) (hm : a.length < m) : debToks n a = debToks m a :=
  toksF_fuel List.length debRestOf_length n m a hn hm

/-- the tokens of a string -/
def debKey (a : List Char) : List (List Nat × Int) := debToks (a.length + 1) a

theorem cmpDebStr_key (a b : List Char) :
    cmpDebStr (debFuel a b) a b = .ord (cmpPad debElem debPad (debKey a) (debKey b)) := by
  rw [cmpDebStr_eq]
  unfold debKey debFuel
  rw [debToks_fuel (a.length + b.length + 1) (a.length + 1) a (by omega) (by omega),
    debToks_fuel (a.length + b.length + 1) (b.length + 1) b (by omega) (by omega)]

/-- `debianVersion.compare` as a total function: epoch, then upstream tokens, then revision tokens -/
def cmpDebT (v w : DebV) : Ordering :=
  (icmp v.epoch w.epoch).then ((cmpPad debElem debPad (debKey v.upstream) (debKey w.upstream)).then
    (cmpPad debElem debPad (debKey v.revision) (debKey w.revision)))

theorem cmpDeb_eq (v w : DebV) : cmpDeb v w = .ord (cmpDebT v w) := by
  unfold cmpDeb cmpDebT
  rw [cmpDebStr_key, cmpDebStr_key]
  cases icmp v.epoch w.epoch <;> simp [ordThen, Ordering.then]
  cases cmpPad debElem debPad (debKey v.upstream) (debKey w.upstream) <;> simp [CRes.andThen]

theorem cmpDebT_isCmp : IsCmp cmpDebT :=
  (thenCmp_isCmp (cmpOn_isCmp DebV.epoch icmp_isCmp)
    (thenCmp_isCmp (cmpOn_isCmp (fun v : DebV => debKey v.upstream) (cmpPad_isCmp debPad debElem_isCmp))
      (cmpOn_isCmp (fun v : DebV => debKey v.revision) (cmpPad_isCmp debPad debElem_isCmp)))).congr (fun _ _ => rfl)

theorem parseDeb_nopanic (s : List Char) : parseDeb s ≠ .panic := by
  unfold parseDeb
  simp only
  repeat' split
  all_goals simp

/-! ## the Go-shaped functions: every index and slice is in range -/

/-- the index the two prefix splitters slice at is the length of the prefix, hence in range; the
splitters return early exactly when the prefix is empty -/
theorem idx_split (p : Char → Bool) (s : List Char) :
    let i := indexFunc p s
    let i' := if i = -1 then (s.length : Int) else i
    ((i = 0 || s.isEmpty) = true ↔ (s.takeWhile fun c => !p c) = []) ∧
      goSlice s 0 i' = some (s.takeWhile fun c => !p c) ∧ goSlice s i' s.length = some (s.dropWhile fun c => !p c) := by
  have hle := (List.takeWhile_sublist (fun c => !p c) (l := s)).length_le
  have hnil : (s.takeWhile fun c => !p c) = [] ↔ (s.takeWhile fun c => !p c).length = 0 := List.length_eq_zero_iff.symm
  have hemp : s.isEmpty = true ↔ s.length = 0 := by rw [List.isEmpty_iff, List.length_eq_zero_iff]
  simp only [indexFunc, Bool.or_eq_true, hnil, hemp]
  by_cases hn : (s.takeWhile fun c => !p c).length < s.length
  · simp only [hn, if_true]
    have hne : ¬ (((s.takeWhile fun c => !p c).length : Int) = -1) := by omega
    simp only [hne, if_false, decide_eq_true_eq]
    refine ⟨by omega, ?_, ?_⟩
    · rw [goSlice_eq s 0 _ 0 _ rfl rfl (Nat.zero_le _) hle, List.drop_zero, take_takeWhile]
    · rw [goSlice_eq s _ _ _ s.length rfl rfl hle (Nat.le_refl _), List.take_length, drop_takeWhile]
  · simp only [hn, if_false, if_true, decide_eq_true_eq]
    have he : (s.takeWhile fun c => !p c).length = s.length := by omega
    refine ⟨by omega, ?_, ?_⟩
    · rw [goSlice_eq s 0 _ 0 s.length rfl rfl (Nat.zero_le _) (Nat.le_refl _), List.drop_zero, ← he, take_takeWhile]
    · rw [goSlice_eq s _ _ s.length s.length rfl rfl (Nat.le_refl _) (Nat.le_refl _), List.take_length, ← drop_takeWhile, he]

theorem debNonDigitPrefixGo_eq (s : List Char) :
    debNonDigitPrefixGo s = some (s.takeWhile (fun c => !isDigit c), s.dropWhile (fun c => !isDigit c)) := by
  obtain ⟨h0, h1, h2⟩ := idx_split isDigit s
  unfold debNonDigitPrefixGo
  simp only []
  by_cases hz : (indexFunc isDigit s = 0 || s.isEmpty) = true
  · rw [if_pos hz, h0.mp hz, dropWhile_of_takeWhile_nil _ s (h0.mp hz)]
  · simp only [hz, Bool.false_eq_true, if_false, h1, h2, Option.bind_some]

theorem debDigitPrefixGo_eq (s : List Char) : debDigitPrefixGo s = some (debDigitPrefix s) := by
  obtain ⟨h0, h1, h2⟩ := idx_split (fun c => !isDigit c) s
  simp only [Bool.not_not] at h0 h1 h2
  unfold debDigitPrefixGo debDigitPrefix
  simp only []
  by_cases hz : (indexFunc (fun c => !isDigit c) s = 0 || s.isEmpty) = true
  · simp [hz, h0.mp hz]
  · have hne : (s.takeWhile isDigit).isEmpty = false := by
      rw [← Bool.not_eq_true, List.isEmpty_iff, ← h0]; exact hz
    simp only [hz, Bool.false_eq_true, if_false, h1, h2, Option.bind_some, hne]
    cases toBig (s.takeWhile isDigit) <;> rfl

/-- `weighDebianChar` on a string -/
def debWeighS (x : List Char) : Nat :=
  if x = ['~'] then 1
  else
    match x with
    | [] => 2
    | c :: _ =>
      let n := firstByte c
      if n < 65 || (n > 90 && n < 97) || n > 122 then n + 122 else n

/-- `char[0]` is behind the `char == ""` test -/
theorem debWeighGo_eq (x : List Char) : debWeighGo x = some (debWeighS x) := by
  unfold debWeighGo debWeighS
  by_cases h : x = ['~']
  · simp [h]
  · cases x with
    | nil => simp
    | cons c r => simp [h, goIndex]

theorem debWeighS_single (c : Char) : debWeighS [c] = debWeigh c := by
  unfold debWeighS debWeigh
  by_cases h : c = '~'
  · simp [h]
  · simp [h]

theorem cmpDebNonDigitGo_eq (ap bp : List Char) : cmpDebNonDigitGo ap bp = some (cmpDebNonDigit ap bp) := by
  unfold cmpDebNonDigitGo cmpDebNonDigit
  by_cases h : ap = bp
  · simp [h]
  · simp only [h, if_false]
    rw [cmpPadGo_eq debWeighCmpGo (cmpOn debWeighS ncmp) (fun x y => by simp [debWeighCmpGo, debWeighGo_eq, cmpOn])]
    have e : (2 : Nat) = debWeighS [] := rfl
    have m : ∀ l : List Char, l.map debWeigh = (l.map fun c => [c]).map debWeighS := by
      intro l; simp [List.map_map, Function.comp_def, debWeighS_single]
    rw [e, m ap, m bp, cmpPad_map]

theorem ordAndThenGo (d : Ordering) (k : CRes) : (CRes.ord d).andThenGo (some k) = some (ordThen d fun _ => k) := by
  cases d <;> rfl

theorem andThenGo_some (r k : CRes) : r.andThenGo (some k) = some (r.andThen fun _ => k) := by
  cases r with
  | ord o => cases o <;> rfl
  | err => rfl
  | panic => rfl

theorem cmpDebStrGo_eq : ∀ (f : Nat) (a b : List Char), cmpDebStrGo f a b = some (cmpDebStr f a b) := by
  intro f
  induction f with
  | zero => intro a b; rfl
  | succ f ih =>
    intro a b
    simp only [cmpDebStrGo, cmpDebStr, debNonDigitPrefixGo_eq, cmpDebNonDigitGo_eq, debDigitPrefixGo_eq, Option.bind_some, ih]
    split
    · rfl
    · cases debDigitPrefix (a.dropWhile fun c => !isDigit c) with
      | none => exact ordAndThenGo _ _
      | some xa =>
        cases debDigitPrefix (b.dropWhile fun c => !isDigit c) with
        | none => exact ordAndThenGo _ _
        | some yb =>
          simp only [ordAndThenGo]

theorem cmpDebGo_eq (v w : DebV) : cmpDebGo v w = some (cmpDeb v w) := by
  simp only [cmpDebGo, cmpDeb, cmpDebStrGo_eq, Option.bind_some, andThenGo_some]
  congr 1
  cases icmp v.epoch w.epoch <;> rfl

/-! `splitAround` -/

theorem cutAt_eq (c : Char) : ∀ s : List Char,
    cutAt c s = if (s.takeWhile fun x => !decide (x = c)).length < s.length
      then some (s.take (s.takeWhile fun x => !decide (x = c)).length, s.drop ((s.takeWhile fun x => !decide (x = c)).length + 1))
      else none := by
  intro s
  induction s with
  | nil => simp [cutAt]
  | cons x xs ih =>
    by_cases h : x = c
    · simp [cutAt, h]
    · simp only [cutAt, h, if_false, ih, List.takeWhile_cons, decide_false, Bool.not_false, if_true, List.length_cons,
        Nat.add_lt_add_iff_right, List.take_succ_cons, List.drop_succ_cons]
      by_cases hl : (xs.takeWhile fun x => !decide (x = c)).length < xs.length <;> simp [hl]

theorem contains_iff_idx (c : Char) : ∀ s : List Char,
    s.contains c = decide ((s.takeWhile fun x => !decide (x = c)).length < s.length) := by
  intro s
  induction s with
  | nil => simp
  | cons x xs ih =>
    by_cases h : x = c
    · simp [h]
    · have h' : ¬ c = x := fun e => h e.symm
      simp only [List.contains_cons, ih, List.takeWhile_cons, h, decide_false, Bool.not_false, if_true, List.length_cons,
        Nat.add_lt_add_iff_right]
      simp [h']

/-- `splitAround` at the first occurrence is guarded by `strings.Contains`: with an occurrence its
slices are in range and it cuts like `cutAt`; without one `cutAt` finds nothing -/
theorem splitAroundGo_fwd (s : List Char) (c : Char) :
    (s.contains c = true → ∃ a b, cutAt c s = some (a, b) ∧ splitAroundGo s c false = some (a, b)) ∧
    (s.contains c = false → cutAt c s = none) := by
  rw [contains_iff_idx, cutAt_eq]
  constructor
  · intro h
    have hlt := of_decide_eq_true h
    refine ⟨_, _, if_pos hlt, ?_⟩
    unfold splitAroundGo indexFunc
    simp only [Bool.false_eq_true, if_false, hlt, if_true]
    have hne : ¬ (((s.takeWhile fun x => !decide (x = c)).length : Int) = -1) := by omega
    simp only [hne, if_false]
    rw [goSlice_eq s 0 _ 0 _ rfl rfl (Nat.zero_le _) (by omega),
      goSlice_eq s _ _ ((s.takeWhile fun x => !decide (x = c)).length + 1) s.length (by omega) rfl (by omega) (Nat.le_refl _)]
    simp
  · intro h; exact if_neg (of_decide_eq_false h)

theorem splitAroundGo_rev (s : List Char) (c : Char) :
    (s.contains c = true → ∃ a b, cutLast c s = some (a, b) ∧ splitAroundGo s c true = some (a, b)) ∧
    (s.contains c = false → cutLast c s = none) := by
  have hr : s.contains c = s.reverse.contains c := by
    rw [Bool.eq_iff_iff, List.contains_iff_mem, List.contains_iff_mem, List.mem_reverse]
  rw [hr, contains_iff_idx, List.length_reverse]
  unfold cutLast
  rw [cutAt_eq, List.length_reverse]
  constructor
  · intro h
    have hlt := of_decide_eq_true h
    refine ⟨_, _, by rw [if_pos hlt], ?_⟩
    unfold splitAroundGo lastIndexOf
    have hp : (fun x : Char => decide (x ≠ c)) = fun x => !decide (x = c) := by
      funext x; simp
    simp only [if_true, hp, hlt]
    have hne : ¬ ((s.length : Int) - 1 - ((s.reverse.takeWhile fun x => !decide (x = c)).length : Int) = -1) := by omega
    simp only [hne, if_false]
    rw [goSlice_eq s 0 _ 0 (s.length - ((s.reverse.takeWhile fun x => !decide (x = c)).length + 1)) rfl (by omega) (Nat.zero_le _) (by omega),
      goSlice_eq s _ _ (s.length - (s.reverse.takeWhile fun x => !decide (x = c)).length) s.length (by omega) rfl (by omega) (Nat.le_refl _)]
    simp only [Option.bind_some, List.drop_zero, List.take_length, List.drop_reverse, List.take_reverse, List.reverse_reverse]
  · intro h; rw [if_neg (of_decide_eq_false h)]

/-- `parseDebianVersion`: the slices of `splitAround` are in range -/
theorem parseDebGo_eq (s : List Char) : parseDebGo s = some (parseDeb s) := by
  unfold parseDebGo parseDeb
  simp only []
  generalize trimSpace s = t
  -- the revision split, for whatever the epoch split produced
  have tail : ∀ (ep : Option (Int × List Char)),
      (match ep with
        | none => some PRes.err
        | some er =>
          if er.2.contains '-' = true then (splitAroundGo er.2 '-' true).bind fun q => some (PRes.ok (⟨er.1, q.1, q.2⟩ : DebV))
          else some (PRes.ok ⟨er.1, er.2, ['0']⟩)) =
      some (match ep with
        | none => PRes.err
        | some (epoch, rest) =>
          match cutLast '-' rest with
          | some (up, rev) => PRes.ok ⟨epoch, up, rev⟩
          | none => PRes.ok ⟨epoch, rest, ['0']⟩) := by
    intro ep
    cases ep with
    | none => rfl
    | some er =>
      obtain ⟨epoch, rest⟩ := er
      obtain ⟨f1, f2⟩ := splitAroundGo_rev rest '-'
      cases hc : rest.contains '-' with
      | true =>
        obtain ⟨a, b, h1, h2⟩ := f1 hc
        simp only [hc, if_true, h1, h2, Option.bind_some]
      | false => simp only [hc, Bool.false_eq_true, if_false, f2 hc]
  obtain ⟨f1, f2⟩ := splitAroundGo_fwd t ':'
  cases hc : t.contains ':' with
  | true =>
    obtain ⟨a, b, h1, h2⟩ := f1 hc
    simp only [if_true, h1, h2, Option.bind_some]
    cases toBig a with
    | none => exact tail none
    | some n => exact tail (some (n, b))
  | false =>
    simp only [Bool.false_eq_true, if_false, f2 hc, Option.bind_some]
    exact tail (some (0, t))

@[simp] theorem debianFam_parse (s : List Char) : debianFam.parse s = parseDeb s := by
  simp [debianFam, parseDebGo_eq, PRes.joinGo]
@[simp] theorem debianFam_cmp (v w : DebV) : debianFam.cmp v w = cmpDeb v w := by
  simp [debianFam, cmpDebGo_eq, CRes.joinGo]

theorem debian_laws : FamLaws debianFam (fun _ => True) cmpDebT :=
  .of_isSym (fun s => by rw [debianFam_parse]; exact parseDeb_nopanic s)
    (fun v w => (debianFam_cmp v w).trans (cmpDeb_eq v w)) cmpDebT_isCmp.toSym

end Scalibr.Semantic
