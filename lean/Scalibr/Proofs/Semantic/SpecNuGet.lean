/-
C07 — the NuGet comparison agrees with the NuGet documentation (`Spec/Semantic/NuGet.lean`) on every
canonically rendered version. The pre-release part is reduced to the semver.org lemma
(`cmpBuild_buildStr`) on the case-folded version.
-/
import Scalibr.Spec.Semantic.NuGet
import Scalibr.Proofs.Semantic.SemverSpec
namespace Scalibr.Semantic
open NuGetSpec

/-! ## the numeric parts: three or four dotted numbers -/

theorem nugetNums_eq : ∀ (n : Nat) (ms : List Nat), joinNums n ms = D n ++ dotted ms
  | _, [] => (List.append_nil _).symm
  | n, m :: ms => by rw [joinNums, nugetNums_eq m ms]; rfl

theorem nugetTail_noNum (v : V) : NoNum v.tail := noNum_tail v.pre.isEmpty v.build.isEmpty _ _

theorem parse_render_nuget (v : V) :
    parseSemver 4 (render v) = ⟨castNums (v.major :: v.nums), v.tail⟩ := by
  rw [parseSemver, render, nugetNums_eq, List.append_assoc, parseLike_nums _ _ (nugetTail_noNum v)]
  have : (castNums (v.major :: v.nums)).length ≤ 4 := by
    simp only [castNums, List.length_map, V.nums, List.length_cons]
    cases v.revision <;> simp
  simp [this]

theorem nums_cmp (a b : V) :
    cmpPad ncmp 0 (a.major :: a.nums) (b.major :: b.nums) =
      (ncmp a.major b.major).then ((ncmp a.minor b.minor).then ((ncmp a.patch b.patch).then
        (ncmp (a.revision.getD 0) (b.revision.getD 0)))) := by
  simp only [V.nums]
  cases a.revision <;> cases b.revision <;>
    simp [cmpPad, cmpPadL, cmpPadR, Option.toList, ncmp_isCmp.refl]

/-! ## case folding -/

theorem toNat_ofNat_small (n : Nat) (h : n < 200) : (Char.ofNat n).toNat = n := by
  have hv : n.isValidChar := Or.inl (by omega)
  unfold Char.ofNat
  rw [dif_pos hv]
  simp [Char.ofNatAux, Char.toNat]

theorem lowerAscii_class (c : Char) :
    isDigit (lowerAscii c) = isDigit c ∧ Scalibr.Semantic.identChar (lowerAscii c) = NuGetSpec.identChar c := by
  unfold lowerAscii
  by_cases hu : isUpper c = true
  · rw [if_pos hu]
    have hn : (Char.ofNat (c.toNat + 32)).toNat = c.toNat + 32 := by
      simp only [isUpper, Bool.and_eq_true, decide_eq_true_eq] at hu
      exact toNat_ofNat_small _ (by omega)
    simp only [isUpper, Bool.and_eq_true, decide_eq_true_eq] at hu
    constructor
    · rw [Bool.eq_iff_iff]; simp only [isDigit, hn, Bool.and_eq_true, decide_eq_true_eq]; omega
    · rw [Bool.eq_iff_iff]
      simp only [Scalibr.Semantic.identChar, NuGetSpec.identChar, isDigit, isLetter, isLower, isUpper, hn, Bool.or_eq_true,
        Bool.and_eq_true, decide_eq_true_eq]
      omega
  · rw [if_neg hu]; exact ⟨rfl, rfl⟩

/-- the case-folded label as a semver.org identifier -/
def foldLabel : Label → Ident
  | .num n => .num n
  | .alnum s => .alnum (lower s)

/-- the case-folded version as a semver.org version (revision dropped: only the tail matters) -/
def foldSem (v : V) : SemVer := ⟨v.major, v.minor, v.patch, v.pre.map foldLabel, lower v.build⟩

theorem foldLabel_wf (l : Label) : (foldLabel l).wf = l.wf := by
  cases l with
  | num n => rfl
  | alnum s => simp [foldLabel, Ident.wf, Label.wf, lower, List.all_map, List.any_map, Function.comp_def, lowerAscii_class]

theorem foldSem_wf (v : V) (hw : v.wf = true) : (foldSem v).wf = true := by
  simp only [V.wf, SemVer.wf, foldSem, lower, Bool.and_eq_true, List.all_map, List.all_eq_true, Function.comp_def,
    foldLabel_wf, Bool.or_eq_true, decide_eq_true_eq] at hw ⊢
  refine ⟨hw.1, fun c hc => ?_⟩
  rcases hw.2 c hc with h | rfl
  · exact .inl ((lowerAscii_class c).2.trans h)
  · exact .inr rfl

theorem lowerAscii_digit (c : Char) (h : isDigit c = true) : lowerAscii c = c := by
  have := digit_not_letter c h
  simp only [isLetter, Bool.or_eq_false_iff] at this
  simp [lowerAscii, this.2]

theorem foldLabel_render (l : Label) : lower l.render = (foldLabel l).render := by
  cases l with
  | num n => exact (List.map_congr_left fun c hc => lowerAscii_digit c (D_digits n c hc)).trans (List.map_id _)
  | alnum s => rfl

theorem nugetPre_eq (p : List Label) : NuGetSpec.renderPre p = dotJoin (p.map Label.render) :=
  eq_dotJoin Label.render NuGetSpec.renderPre rfl (fun _ => rfl) (fun _ _ _ => rfl) p

theorem lower_renderPre (p : List Label) : lower (NuGetSpec.renderPre p) = Scalibr.Semantic.renderPre (p.map foldLabel) := by
  rw [nugetPre_eq, renderPre_eq, lower, map_dotJoin _ (by decide), List.map_map, List.map_map]
  exact congrArg dotJoin (List.map_congr_left fun l _ => foldLabel_render l)

theorem identChar_ascii (c : Char) (h : NuGetSpec.identChar c = true) : c.toNat < 128 := by
  simp only [NuGetSpec.identChar, isDigit, isLetter, isLower, isUpper, Bool.or_eq_true, Bool.and_eq_true, decide_eq_true_eq] at h
  rcases h with (h | h) | rfl
  · omega
  · omega
  · decide

theorem nugetTail_ascii (v : V) (hw : v.wf = true) : ∀ c ∈ v.tail, c.toNat < 128 := by
  simp only [V.wf, Bool.and_eq_true, List.all_eq_true, Bool.or_eq_true, decide_eq_true_eq] at hw
  have hl : ∀ l ∈ v.pre, ∀ c ∈ l.render, c.toNat < 128 := by
    intro l hl c hc
    cases l with
    | num n => exact identChar_ascii c (by simp [NuGetSpec.identChar, D_digits n c hc])
    | alnum s =>
      have := hw.1 _ hl
      simp only [Label.wf, Bool.and_eq_true, List.all_eq_true] at this
      exact identChar_ascii c (this.1.2 c hc)
  intro c hc
  rw [V.tail, List.mem_append] at hc
  rcases hc with hc | hc <;> split at hc
  · cases hc
  · rcases List.mem_cons.mp hc with rfl | hc
    · decide
    · rw [nugetPre_eq] at hc
      exact forall_mem_dotJoin (P := fun c => c.toNat < 128) (by decide) (by simpa using hl) c hc
  · cases hc
  · rcases List.mem_cons.mp hc with rfl | hc
    · decide
    · rcases hw.2 c hc with h | rfl
      · exact identChar_ascii c h
      · decide

theorem lower_tail (v : V) (hw : v.wf = true) : lowerStr v.tail = buildStr (foldSem v) := by
  have : lowerStr v.tail = lower v.tail :=
    List.map_congr_left fun c hc => goToLower_ascii c (nugetTail_ascii v hw c hc)
  rw [this]
  simp only [V.tail, buildStr, preStr, foldSem, lower, List.map_append, apply_ite (List.map lowerAscii), List.map_nil, List.map_cons,
    List.isEmpty_map]
  rw [show lowerAscii '-' = '-' from rfl, show lowerAscii '+' = '+' from rfl, ← lower_renderPre]
  rfl

/-- semver.org's rule on the case-folded identifiers is NuGet's case-insensitive rule -/
theorem preCmp_fold : ∀ p q : List Label,
    Scalibr.Semantic.preCmp (p.map foldLabel) (q.map foldLabel) = NuGetSpec.preCmp p q
  | [], [] => rfl
  | [], _ :: _ => rfl
  | _ :: _, [] => rfl
  | i :: p, j :: q => by
    simp only [List.map_cons, Scalibr.Semantic.preCmp, NuGetSpec.preCmp, preCmp_fold p q]
    cases i <;> cases j <;> rfl

theorem preRule_fold (a b : V) : Scalibr.Semantic.preRule (foldSem a).pre (foldSem b).pre = NuGetSpec.preRule a.pre b.pre := by
  show Scalibr.Semantic.preRule (a.pre.map foldLabel) (b.pre.map foldLabel) = _
  cases a.pre with
  | nil => cases b.pre <;> rfl
  | cons i p =>
    cases b.pre with
    | nil => rfl
    | cons j q => exact preCmp_fold (i :: p) (j :: q)

/-- the NuGet documentation's ordering on every canonically rendered version -/
theorem nuget_spec (a b : V) (ha : a.wf = true) (hb : b.wf = true) :
    compareStr .nuget (render a) (render b) = .ofOrd (NuGetSpec.specCmp a b) := by
  show nugetFam.compareStr (render a) (render b) = _
  rw [nuget_laws.compare_ok (nugetFam_parse _) (nugetFam_parse _), parse_render_nuget, parse_render_nuget]
  simp only [cmpNuGet, NuGetSpec.specCmp, compsCmp_cast, nums_cmp, lower_tail a ha, lower_tail b hb,
    cmpBuild_buildStr _ _ (foldSem_wf a ha) (foldSem_wf b hb), preRule_fold, Ordering.then_assoc]

end Scalibr.Semantic
