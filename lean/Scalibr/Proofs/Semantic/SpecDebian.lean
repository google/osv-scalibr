/-
C07 — the Debian/Ubuntu comparison agrees with deb-version(7) (`Spec/Semantic/Debian.lean`) on
every canonically rendered version.
-/
import Scalibr.Spec.Semantic.Debian
import Scalibr.Proofs.Semantic.Debian
import Scalibr.Proofs.Semantic.Render
namespace Scalibr.Semantic
open DebSpec

/-! ## characters -/

/-- the four shapes of an allowed non-digit character -/
theorem ndChar_cases (h : Bool) (c : Char) (hc : ndChar h c = true) :
    isLetter c = true ∨ c = '.' ∨ c = '+' ∨ c = '~' ∨ (h = true ∧ c = '-') := by
  simpa only [ndChar, Bool.or_eq_true, Bool.and_eq_true, decide_eq_true_eq, or_assoc] using hc

theorem ndChar_mono (h : Bool) (c : Char) (hc : ndChar h c = true) : ndChar true c = true := by
  rcases ndChar_cases h c hc with h1 | rfl | rfl | rfl | ⟨_, rfl⟩
  · simp [ndChar, h1]
  all_goals decide

theorem ndChar_props (h : Bool) (c : Char) (hc : ndChar h c = true) :
    isDigit c = false ∧ c ≠ ':' ∧ isSpace c = false ∧ (h = false → c ≠ '-') := by
  rcases ndChar_cases h c hc with h1 | rfl | rfl | rfl | ⟨h0, rfl⟩
  · have hr := letter_range c h1
    refine ⟨letter_not_digit c h1, ne_of_class h1 (by decide), ?_, fun _ => ne_of_class h1 (by decide)⟩
    simp only [isSpace, Bool.or_eq_false_iff, Bool.and_eq_false_iff, decide_eq_false_iff_not]
    omega
  iterate 3 exact ⟨by decide, by decide, by decide, fun _ => by decide⟩
  exact ⟨by decide, by decide, by decide, fun hh => by rw [h0] at hh; cases hh⟩

theorem partChar_props {h : Bool} {c : Char} (hc : isDigit c = true ∨ ndChar h c = true) :
    c ≠ ':' ∧ isSpace c = false ∧ (h = false → c ≠ '-') :=
  hc.elim (fun d => ⟨(digit_props c d).1, (digit_props c d).2.2, fun _ => (digit_props c d).2.1⟩) fun n => (ndChar_props h c n).2

/-! ## the implementation's weights order positions like deb-version's `order` -/

/-- weight of one position of a non-digit run in the implementation; a missing character weighs 2 -/
def posWeight : Option Char → Nat
  | none => 2
  | some c => debWeigh c

def posOk (x : Option Char) : Prop := x = none ∨ ∃ c, x = some c ∧ ndChar true c = true

/-- weight and documented rank of a position: tilde and end (1, 2 ↦ −1, 0), letters (their code),
other characters (code + 122 ↦ code + 256) — the same order in both scales -/
theorem debPos_scale (x : Option Char) (hx : posOk x) :
    (1 ≤ posWeight x ∧ posWeight x ≤ 2 ∧ order x = posWeight x - 2) ∨
    (65 ≤ posWeight x ∧ posWeight x ≤ 122 ∧ order x = posWeight x) ∨
    (123 ≤ posWeight x ∧ order x = posWeight x + 134) := by
  rcases hx with rfl | ⟨c, rfl, hc⟩
  · decide
  · rcases ndChar_cases true c hc with h1 | rfl | rfl | rfl | ⟨_, rfl⟩
    · have hr := letter_range c h1
      have hne : c ≠ '~' := ne_of_class h1 (by decide)
      have hfb : firstByte c = c.toNat := if_pos (by omega)
      have hw : posWeight (some c) = c.toNat := by
        rw [posWeight, debWeigh, if_neg hne]
        simp only [hfb]
        rw [if_neg]
        simp only [Bool.or_eq_true, Bool.and_eq_true, decide_eq_true_eq]
        omega
      have ho : order (some c) = c.toNat := by simp [order, hne, h1]
      rw [hw, ho]
      exact .inr (.inl ⟨by omega, by omega, rfl⟩)
    all_goals decide

theorem pos_agree (x y : Option Char) (hx : posOk x) (hy : posOk y) :
    ncmp (posWeight x) (posWeight y) = icmp (order x) (order y) := by
  have sx := debPos_scale x hx
  have sy := debPos_scale y hy
  rcases Nat.lt_trichotomy (posWeight x) (posWeight y) with h | h | h
  · rw [ncmp_lt.mpr h, icmp_lt.mpr (by omega)]
  · rw [ncmp_eq.mpr h, icmp_eq.mpr (by omega)]
  · rw [ncmp_gt.mpr h, icmp_gt.mpr (by omega)]

/-- the non-digit parts compare as the manual page says -/
theorem nd_agree (a b : List Char) (ha : ∀ c ∈ a, ndChar true c = true) (hb : ∀ c ∈ b, ndChar true c = true) :
    cmpPad ncmp 2 (a.map debWeigh) (b.map debWeigh) = ndCmp a b :=
  cmpPad_slots posWeight (Q := posOk) (.inl rfl) pos_agree a b (fun c hc => .inr ⟨c, rfl, ha c hc⟩) fun c hc => .inr ⟨c, rfl, hb c hc⟩

/-! ## a rendered part tokenises into its segments -/

/-- what the implementation's tokeniser extracts for one segment -/
def segKey (s : Seg) : List Nat × Int := (s.nd.map debWeigh, (s.value : Int))

theorem debDigits_val (s : Seg) : (∀ c ∈ s.digits, isDigit c = true) ∧ digitsToNat s.digits = s.value := by
  unfold Seg.digits Seg.value
  cases s.num with
  | none => exact ⟨by simp, rfl⟩
  | some n => exact ⟨D_digits n, D_val n⟩

theorem partWf_head (h : Bool) (segs : List Seg) (hw : partWf h false segs = true) : Stops isDigit (renderPart segs) := by
  cases segs with
  | nil => exact .inl rfl
  | cons s rest =>
    simp only [partWf, Bool.false_or, Bool.and_eq_true, Bool.not_eq_true', List.all_eq_true] at hw
    cases hnd : s.nd with
    | nil => simp [hnd] at hw
    | cons c t =>
      exact .inr ⟨c, t ++ s.digits ++ renderPart rest, by simp [renderPart, Seg.render, hnd],
        (ndChar_props h c (hw.1.1 c (by simp [hnd]))).1⟩

/-- how the text of a part is cut at its first segment: the non-digit run, the digits, the rest -/
theorem debPart_span (h : Bool) (s : Seg) (rest : List Seg) (first : Bool) (hw : partWf h first (s :: rest) = true) :
    partWf h false rest = true ∧ s.nd.all (ndChar h) = true ∧ (s.num = none → rest = []) ∧
    (renderPart (s :: rest)).takeWhile notDigit = s.nd ∧
    (renderPart (s :: rest)).dropWhile notDigit = s.digits ++ renderPart rest ∧
    (s.digits ++ renderPart rest).takeWhile isDigit = s.digits ∧
    (s.digits ++ renderPart rest).dropWhile isDigit = renderPart rest ∧
    (renderPart (s :: rest)).isEmpty = false ∧ (renderPart rest).length < (renderPart (s :: rest)).length := by
  simp only [partWf, Bool.and_eq_true] at hw
  obtain ⟨⟨hall, hfirst⟩, hnum⟩ := hw
  have hrest : partWf h false rest = true ∧ (s.num = none → rest = []) ∧ (s.nd ++ s.digits).isEmpty = false := by
    unfold Seg.digits
    cases hn : s.num with
    | some n => rw [hn] at hnum; exact ⟨hnum, nofun, by cases s.nd <;> simp [isEmpty_D]⟩
    | none =>
      simp only [hn, Bool.and_eq_true, List.isEmpty_iff, Bool.not_eq_true'] at hnum
      exact ⟨by rw [hnum.1]; rfl, fun _ => hnum.1, by simpa using hnum.2⟩
  have hstop : Stops notDigit (s.digits ++ renderPart rest) := by
    unfold Seg.digits
    cases hn : s.num with
    | some n => exact stops_D notDigit (fun c hc => by simp [notDigit, hc]) n _
    | none => rw [hrest.2.1 hn]; exact .inl rfl
  have hnd : ∀ c ∈ s.nd, notDigit c = true := fun c hc => by
    simp [notDigit, (ndChar_props h c (List.all_eq_true.mp hall c hc)).1]
  have e : renderPart (s :: rest) = s.nd ++ (s.digits ++ renderPart rest) := by simp [renderPart, Seg.render]
  obtain ⟨t1, d1⟩ := takeWhile_append_stop notDigit s.nd _ hnd hstop
  obtain ⟨t2, d2⟩ := takeWhile_append_stop isDigit s.digits _ (debDigits_val s).1 (partWf_head h rest hrest.1)
  have hlen : (renderPart rest).length < (renderPart (s :: rest)).length := by
    have := List.length_pos_iff.mpr (List.isEmpty_eq_false_iff.mp hrest.2.2)
    rw [e, ← List.append_assoc, List.length_append]; omega
  exact ⟨hrest.1, hall, hrest.2.1, e ▸ t1, e ▸ d1, t2, d2,
    List.isEmpty_eq_false_iff.mpr (List.ne_nil_of_length_pos (by omega)), hlen⟩

theorem debKey_cons (a : List Char) (h : a.isEmpty = false) : debKey a = debElemOf a :: debKey (debRestOf a) := by
  unfold debKey
  rw [debToks, toksF, if_neg (by simp [h])]
  exact congrArg (debElemOf a :: ·) (debToks_fuel a.length _ _ (debRestOf_length a h) (Nat.lt_succ_self _))

theorem debKey_render (h : Bool) : ∀ (segs : List Seg) (first : Bool), partWf h first segs = true →
    debKey (renderPart segs) = segs.map segKey
  | [], _, _ => rfl
  | s :: rest, first, hw => by
    obtain ⟨hr, _, _, t1, d1, t2, d2, hne, _⟩ := debPart_span h s rest first hw
    rw [debKey_cons _ hne, debElemOf, debRestOf, t1, d1, t2, d2, (debDigits_val s).2, debKey_render h rest false hr]
    rfl

theorem partWf_chars (h : Bool) : ∀ (segs : List Seg) (first : Bool), partWf h first segs = true →
    (∀ s ∈ segs, ∀ c ∈ s.nd, ndChar true c = true) ∧
    (∀ c ∈ renderPart segs, isDigit c = true ∨ ndChar h c = true)
  | [], _, _ => by simp [renderPart]
  | s :: rest, first, hw => by
    obtain ⟨hr, hall, _⟩ := debPart_span h s rest first hw
    obtain ⟨ih1, ih2⟩ := partWf_chars h rest false hr
    have hall := List.all_eq_true.mp hall
    constructor
    · intro t ht c hc
      rcases List.mem_cons.mp ht with rfl | ht
      · exact ndChar_mono h c (hall c hc)
      · exact ih1 t ht c hc
    · intro c hc
      simp only [renderPart, Seg.render, List.mem_append] at hc
      rcases hc with (hc | hc) | hc
      · exact .inr (hall c hc)
      · exact .inl ((debDigits_val s).1 c hc)
      · exact ih2 c hc

/-- the implementation's padded token comparison of two rendered parts is `partCmp` -/
theorem part_agree (a b : List Seg) (ha : ∀ s ∈ a, ∀ c ∈ s.nd, ndChar true c = true)
    (hb : ∀ s ∈ b, ∀ c ∈ s.nd, ndChar true c = true) :
    cmpPad debElem debPad (a.map segKey) (b.map segKey) = partCmp a b :=
  cmpPad_image segKey ⟨[], none⟩ (Q := fun s => ∀ c ∈ s.nd, ndChar true c = true) (by simp)
    (fun s t hs ht => by simp only [debElem, thenCmp, cmpOn, segKey, segCmp, nd_agree s.nd t.nd hs ht, icmp_cast]) a b ha hb

/-! ## parsing the canonical text -/

/-- the body `upstream[-revision]` of a canonical version -/
def bodyOf (v : V) : List Char := renderPart v.upstream ++ v.revTail

theorem deb_cuts (v : V) (hw : v.wf = true) :
    (∀ c ∈ render v, isSpace c = false) ∧
    (cutAt ':' (render v) = if v.epoch = 0 then none else some (D v.epoch, bodyOf v)) ∧
    (v.epoch = 0 → render v = bodyOf v) ∧
    (∀ r, v.revision = some r → cutLast '-' (bodyOf v) = some (renderPart v.upstream, renderPart r)) ∧
    (v.revision = none → cutLast '-' (bodyOf v) = none ∧ bodyOf v = renderPart v.upstream) := by
  obtain ⟨epoch, up, rev⟩ := v
  simp only [V.wf, Bool.and_eq_true, Bool.not_eq_true'] at hw
  obtain ⟨⟨_, hup⟩, hrev⟩ := hw
  have hupc := fun c hc => partChar_props ((partWf_chars _ up true hup).2 c hc)
  have hrevc : ∀ r, rev = some r → ∀ c ∈ renderPart r, c ≠ ':' ∧ isSpace c = false ∧ c ≠ '-' := by
    rintro r rfl c hc
    simp only [Bool.and_eq_true] at hrev
    have := partChar_props ((partWf_chars false r true hrev.2).2 c hc)
    exact ⟨this.1, this.2.1, this.2.2 rfl⟩
  have hbody : ∀ c ∈ bodyOf ⟨epoch, up, rev⟩, c ≠ ':' ∧ isSpace c = false := by
    intro c hc
    rcases List.mem_append.mp hc with hc | hc
    · exact ⟨(hupc c hc).1, (hupc c hc).2.1⟩
    · cases rev with
      | none => cases hc
      | some r =>
        rcases List.mem_cons.mp hc with rfl | hc
        · exact ⟨by decide, by decide⟩
        · exact ⟨(hrevc r rfl c hc).1, (hrevc r rfl c hc).2.1⟩
  have hrender : render ⟨epoch, up, rev⟩ = (if epoch = 0 then [] else D epoch ++ [':']) ++ bodyOf ⟨epoch, up, rev⟩ := rfl
  refine ⟨?_, hrender ▸ cutAt_epoch epoch _ fun c hc => (hbody c hc).1, fun he => by rw [hrender, if_pos (show epoch = 0 from he)]; rfl, ?_, ?_⟩
  · intro c hc
    rw [hrender] at hc
    rcases List.mem_append.mp hc with hc | hc
    · split at hc
      · cases hc
      · rcases List.mem_append.mp hc with hc | hc
        · exact (digit_props c (D_digits epoch c hc)).2.2
        · rw [List.mem_singleton.mp hc]; decide
    · exact (hbody c hc).2
  · rintro r rfl
    exact cutLast_append_sep '-' _ _ fun c hc => (hrevc r rfl c hc).2.2
  · rintro rfl
    have hbody' : bodyOf ⟨epoch, up, none⟩ = renderPart up := List.append_nil _
    exact ⟨hbody' ▸ cutLast_none '-' _ fun c hc => (hupc c hc).2.2 rfl, hbody'⟩

theorem parseDeb_render (v : V) (hw : v.wf = true) :
    parseDeb (render v) = .ok ⟨(v.epoch : Int), renderPart v.upstream, renderPart v.rev⟩ := by
  obtain ⟨hns, hcut, h0, hsome, hnone⟩ := deb_cuts v hw
  obtain ⟨epoch, up, rev⟩ := v
  unfold parseDeb
  simp only [trimSpace_id _ hns, hcut]
  cases rev with
  | some r =>
    by_cases he : epoch = 0
    · subst he; simp [h0 rfl, hsome r rfl, V.rev]
    · simp [he, toBig_D, hsome r rfl, V.rev]
  | none =>
    have hzero : renderPart (V.rev ⟨epoch, up, none⟩) = ['0'] := rfl
    by_cases he : epoch = 0
    · subst he; simp [h0 rfl, (hnone rfl).1, hzero]; exact (hnone rfl).2
    · simp [he, toBig_D, (hnone rfl).1, hzero]; exact (hnone rfl).2

theorem deb_wf_parts {v : V} (hv : v.wf = true) :
    partWf v.revision.isSome true v.upstream = true ∧ partWf false true v.rev = true := by
  simp only [V.wf, Bool.and_eq_true] at hv
  refine ⟨hv.1.2, ?_⟩
  cases hr : v.revision with
  | some r => rw [hr] at hv; simp only [Bool.and_eq_true] at hv; simpa [V.rev, hr] using hv.2.2
  | none => simp [V.rev, hr, partWf]

/-- deb-version(7) on every canonically rendered version -/
theorem debian_spec (a b : V) (ha : a.wf = true) (hb : b.wf = true) :
    compareStr .debian (render a) (render b) = .ofOrd (DebSpec.specCmp a b) := by
  show debianFam.compareStr (render a) (render b) = _
  rw [debian_laws.compare_ok ((debianFam_parse _).trans (parseDeb_render a ha)) ((debianFam_parse _).trans (parseDeb_render b hb))]
  obtain ⟨au, ar⟩ := deb_wf_parts ha
  obtain ⟨bu, br⟩ := deb_wf_parts hb
  simp only [cmpDebT, DebSpec.specCmp, icmp_cast]
  rw [debKey_render _ _ _ au, debKey_render _ _ _ bu, debKey_render _ _ _ ar, debKey_render _ _ _ br,
    part_agree _ _ (partWf_chars _ _ _ au).1 (partWf_chars _ _ _ bu).1,
    part_agree _ _ (partWf_chars _ _ _ ar).1 (partWf_chars _ _ _ br).1]

end Scalibr.Semantic
