/-
C07 — the Red Hat comparison agrees with rpm's documented version comparison
(`Spec/Semantic/RedHat.lean`) on every canonically rendered version.
-/
import Scalibr.Spec.Semantic.RedHat
import Scalibr.Proofs.Semantic.RedHat
import Scalibr.Proofs.Semantic.Render
namespace Scalibr.Semantic
open RpmSpec

/-! ## tokens -/

/-- the implementation's token for a token of the specification -/
def convTok : Tok → RTok
  | .tilde => .tilde
  | .caret => .caret
  | .num n => .num (stripD n)
  | .alpha s => .alpha s

def convPos : Option Tok → RTok
  | none => .fin
  | some t => convTok t

theorem pos_agree_rpm (x y : Option Tok) : rtokCmp (convPos x) (convPos y) = posCmp x y := by
  have num : ∀ a b, (ncmp (stripD a).length (stripD b).length).then (strCmp (stripD a) (stripD b)) = ncmp a b := fun a b => by
    rw [dec_cmp _ _ (stripD_props a).1 (stripD_props b).1, (stripD_props a).2, (stripD_props b).2]
  rcases x with _ | _ | _ | a | a <;> rcases y with _ | _ | _ | b | b <;>
    simp [rtokCmp, posCmp, convPos, convTok, rkey, rkeyCmp_mk, rank, sameKind, ncmp_isCmp.refl, num] <;> rfl

theorem label_agree (a b : List Tok) :
    cmpPad rtokCmp RTok.fin (a.map convTok) (b.map convTok) = labelCmp a b :=
  cmpPad_slots convPos (Q := fun _ => True) trivial (fun x y _ _ => pos_agree_rpm x y) a b (fun _ _ => trivial) fun _ _ => trivial

/-! ## a rendered label tokenises into its tokens -/

theorem tok_text (t : Tok) (hw : t.wf = true) :
    (∃ c r, t.text = c :: r ∧ rhTrimmed c = false) ∧ ∀ c ∈ t.text, c ≠ ':' ∧ c ≠ '-' := by
  cases t with
  | tilde => exact ⟨⟨'~', [], rfl, by decide⟩, by simp [Tok.text]⟩
  | caret => exact ⟨⟨'^', [], rfl, by decide⟩, by simp [Tok.text]⟩
  | num n =>
    obtain ⟨d, ds, hD, hd⟩ := D_cons n
    exact ⟨⟨d, ds, hD, by simp [rhTrimmed, hd]⟩,
      fun c hc => ⟨(digit_props c (D_digits n c hc)).1, (digit_props c (D_digits n c hc)).2.1⟩⟩
  | alpha s =>
    obtain ⟨c, cs, rfl, hl⟩ := letters_cons hw
    exact ⟨⟨c, cs, rfl, by simp [rhTrimmed, hl c (by simp)]⟩,
      fun x hx => ⟨ne_of_class (hl x hx) (by decide), ne_of_class (hl x hx) (by decide)⟩⟩

/-- the text behind a digit run does not go on with a digit, the text behind a letter run not with a letter -/
def StopsTok (t : Tok) (R : List Char) : Prop :=
  match t with
  | .num _ => Stops isDigit R
  | .alpha _ => Stops isLetter R
  | _ => True

/-- what follows a token in the canonical text stops the token's own run -/
theorem after_tok (t : Tok) (rest : List Tok) (hw : ∀ x ∈ rest, x.wf = true) : StopsTok t (renderToks (some t) rest) := by
  cases rest with
  | nil => cases t <;> first | trivial | exact .inl rfl
  | cons u us =>
    have hu := hw u (by simp)
    cases t with
    | tilde => trivial
    | caret => trivial
    | num n =>
      cases u with
      | tilde => exact .inr ⟨'~', _, rfl, by decide⟩
      | caret => exact .inr ⟨'^', _, rfl, by decide⟩
      | num m => exact .inr ⟨'.', _, rfl, by decide⟩
      | alpha s =>
        obtain ⟨c, cs, rfl, hl⟩ := letters_cons hu
        exact .inr ⟨c, _, rfl, letter_not_digit c (hl c (by simp))⟩
    | alpha s =>
      cases u with
      | tilde => exact .inr ⟨'~', _, rfl, by decide⟩
      | caret => exact .inr ⟨'^', _, rfl, by decide⟩
      | alpha s' => exact .inr ⟨'.', _, rfl, by decide⟩
      | num m =>
        obtain ⟨d, ds, hD, hd⟩ := D_cons m
        refine .inr ⟨d, ds ++ renderToks (some (.num m)) us, ?_, digit_not_letter d hd⟩
        show [] ++ (D m ++ _) = _
        rw [hD]; rfl

theorem rhHead_tok (t : Tok) (hw : t.wf = true) (R : List Char) (hR : StopsTok t R) : rhHead (t.text ++ R) = (convTok t, R) := by
  cases t with
  | tilde => rfl
  | caret => rfl
  | num n =>
    obtain ⟨d, ds, hD, hd⟩ := D_cons n
    obtain ⟨tw, dw⟩ := span_D n hR
    show rhHead (D n ++ R) = _
    have hform : D n ++ R = d :: (ds ++ R) := by rw [hD]; rfl
    rw [hform, rhHead]
    simp only [ne_of_class hd (by decide : isDigit '~' = false), ne_of_class hd (by decide : isDigit '^' = false), if_false, hd, if_true]
    rw [← hform, tw, dw]
    rfl
  | alpha s =>
    obtain ⟨c, cs, rfl, hl⟩ := letters_cons hw
    have hc := hl c (by simp)
    obtain ⟨tw, dw⟩ := takeWhile_append_stop isLetter (c :: cs) R hl hR
    show rhHead (c :: (cs ++ R)) = _
    rw [rhHead]
    simp only [ne_of_class hc (by decide : isLetter '~' = false), ne_of_class hc (by decide : isLetter '^' = false), if_false,
      letter_not_digit c hc, Bool.false_eq_true]
    rw [show c :: (cs ++ R) = (c :: cs) ++ R from rfl, tw, dw]
    rfl

theorem rhToks_render : ∀ (toks : List Tok) (prev : Option Tok), (∀ t ∈ toks, t.wf = true) →
    ∀ fuel, (renderToks prev toks).length < fuel → rhToks fuel (renderToks prev toks) = toks.map convTok
  | [], _, _, fuel, _ => rhToks_nil fuel
  | _ :: _, _, _, 0, hf => absurd hf (Nat.not_lt_zero _)
  | t :: rest, prev, hw, fuel + 1, hf => by
    have ht := hw t (by simp)
    have hrest : ∀ x ∈ rest, x.wf = true := fun x hx => hw x (by simp [hx])
    obtain ⟨⟨c, r, hc, hk⟩, _⟩ := tok_text t ht
    have hne : (t.text ++ renderToks (some t) rest).isEmpty = false := by rw [hc]; rfl
    have hdrop : ((if needSep prev t then ['.'] else []) ++ (t.text ++ renderToks (some t) rest)).dropWhile rhTrimmed =
        t.text ++ renderToks (some t) rest := by
      have : (t.text ++ renderToks (some t) rest).dropWhile rhTrimmed = t.text ++ renderToks (some t) rest := by
        rw [hc]; simp [hk]
      cases needSep prev t <;> exact this
    have hlen : (renderToks (some t) rest).length < fuel := by
      simp only [renderToks, hc, List.length_append, List.length_cons] at hf; omega
    simp only [renderToks, rhToks_succ, hdrop, hne, Bool.false_eq_true, if_false, rhHead_tok t ht _ (after_tok t rest hrest), List.map,
      rhToks_render rest (some t) hrest fuel hlen]

theorem rhKey_render (toks : List Tok) (hw : ∀ t ∈ toks, t.wf = true) :
    rhKey (renderToks none toks) = toks.map convTok :=
  rhToks_render toks none hw _ (Nat.lt_succ_self _)

theorem rhKey_dash (x : List Char) : rhKey ('-' :: x) = rhKey x := by
  unfold rhKey
  have : rhToks (('-' :: x).length + 1) ('-' :: x) = rhToks (x.length + 1 + 1) x := by
    simp only [List.length_cons, rhToks_succ, show ('-' :: x).dropWhile rhTrimmed = x.dropWhile rhTrimmed from rfl]
  rw [this]
  exact rhToks_fuel _ _ x (by omega) (by omega)

/-! ## the three parts -/

theorem renderToks_ne (toks : List Tok) (hw : ∀ t ∈ toks, t.wf = true) (hne : toks ≠ []) : renderToks none toks ≠ [] := by
  cases toks with
  | nil => exact absurd rfl hne
  | cons t rest =>
    obtain ⟨⟨c, r, hc, _⟩, _⟩ := tok_text t (hw t (by simp))
    exact fun e => by simp [renderToks, needSep, hc] at e

theorem comp_label (a b : List Tok) (ha : ∀ t ∈ a, t.wf = true) (hb : ∀ t ∈ b, t.wf = true) (na : a ≠ []) (nb : b ≠ []) :
    cmpRHComp (renderToks none a) (renderToks none b) = labelCmp a b := by
  rw [cmpRHComp_eq]
  unfold cmpRHCompT thenCmp cmpOn
  simp only [rhKey_render a ha, rhKey_render b hb, label_agree, List.isEmpty_eq_false_iff.mpr (renderToks_ne a ha na),
    List.isEmpty_eq_false_iff.mpr (renderToks_ne b hb nb)]
  rfl

theorem comp_epoch (a b : Nat) : cmpRHComp (D a) (D b) = ncmp a b := by
  have := comp_label [.num a] [.num b] (by simp [Tok.wf]) (by simp [Tok.wf]) (by simp) (by simp)
  simp only [renderToks, needSep, Bool.false_eq_true, if_false, List.nil_append, Tok.text, List.append_nil] at this
  rw [show D a = Nat.toDigits 10 a from rfl, show D b = Nat.toDigits 10 b from rfl, this]
  simp [labelCmp, cmpPad, cmpPadL, posCmp, rank, sameKind, ncmp_isCmp.refl]

theorem rpm_wf_version {v : V} (hv : v.wf = true) : (∀ t ∈ v.version, t.wf = true) ∧ v.version ≠ [] := by
  simp only [V.wf, Bool.and_eq_true, Bool.not_eq_true', List.all_eq_true] at hv
  exact ⟨hv.1.2, List.isEmpty_eq_false_iff.mp hv.1.1⟩

theorem rpm_wf_release {v : V} (hv : v.wf = true) {r : List Tok} (hr : v.release = some r) : (∀ t ∈ r, t.wf = true) ∧ r ≠ [] := by
  simp only [V.wf, hr, Bool.and_eq_true, Bool.not_eq_true', List.all_eq_true] at hv
  exact ⟨hv.2.2, List.isEmpty_eq_false_iff.mp hv.2.1⟩

/-- the release text the implementation keeps (`"-" + release`, or the empty string) -/
theorem comp_release (a b : V) (ha : a.wf = true) (hb : b.wf = true) :
    cmpRHComp a.relText b.relText = relCmp a.release b.release := by
  unfold V.relText
  cases hra : a.release with
  | none => cases hrb : b.release <;> rfl
  | some r =>
    cases hrb : b.release with
    | none => rfl
    | some r' =>
      obtain ⟨w1, n1⟩ := rpm_wf_release ha hra
      obtain ⟨w2, n2⟩ := rpm_wf_release hb hrb
      simp only [relCmp]
      rw [← comp_label r r' w1 w2 n1 n2, cmpRHComp_eq, cmpRHComp_eq]
      unfold cmpRHCompT thenCmp cmpOn
      simp only [rhKey_dash, List.isEmpty_eq_false_iff.mpr (renderToks_ne r w1 n1), List.isEmpty_eq_false_iff.mpr (renderToks_ne r' w2 n2)]
      rfl

/-! ## parsing the canonical text -/

theorem renderToks_chars : ∀ (toks : List Tok) (prev : Option Tok), (∀ t ∈ toks, t.wf = true) →
    ∀ c ∈ renderToks prev toks, c ≠ ':' ∧ c ≠ '-'
  | [], _, _, _, hc => by cases hc
  | t :: rest, prev, hw, c, hc => by
    simp only [renderToks, List.mem_append] at hc
    rcases hc with hc | hc | hc
    · split at hc
      · rw [List.mem_singleton.mp hc]; exact ⟨by decide, by decide⟩
      · cases hc
    · exact (tok_text t (hw t (by simp))).2 c hc
    · exact renderToks_chars rest (some t) (fun x hx => hw x (by simp [hx])) c hc

theorem parseRH_render (v : V) (hw : v.wf = true) :
    parseRH (render v) = ⟨D v.epoch, renderToks none v.version, v.relText⟩ := by
  have hvc := renderToks_chars v.version none (rpm_wf_version hw).1
  have hbody : ∀ c ∈ renderToks none v.version ++ v.relText, c ≠ ':' := by
    intro c hc
    rcases List.mem_append.mp hc with hc | hc
    · exact (hvc c hc).1
    · unfold V.relText at hc
      cases hr : v.release with
      | none => rw [hr] at hc; cases hc
      | some r =>
        rw [hr] at hc
        rcases List.mem_cons.mp hc with rfl | hc
        · decide
        · exact (renderToks_chars r none (rpm_wf_release hw hr).1 c hc).1
  have hcutv : cutAt '-' (renderToks none v.version ++ v.relText) =
      v.release.map fun r => (renderToks none v.version, renderToks none r) := by
    unfold V.relText
    cases v.release with
    | none => rw [List.append_nil]; exact cutAt_none '-' _ fun c hc => (hvc c hc).2
    | some r => exact cutAt_append_sep '-' _ _ fun c hc => (hvc c hc).2
  unfold parseRH render
  rw [cutAt_epoch v.epoch _ hbody]
  by_cases he : v.epoch = 0
  · simp only [he, if_true, List.nil_append, cutAt, hcutv]
    cases hr : v.release <;> simp [V.relText, hr, D]
  · simp only [he, if_false, cutAt_none '-' (D v.epoch) (D_no v.epoch '-' (by decide)), hcutv, isEmpty_D]
    cases hr : v.release <;> simp [V.relText, hr]

/-- rpm's documented version comparison on every canonically rendered version -/
theorem redhat_spec (a b : V) (ha : a.wf = true) (hb : b.wf = true) :
    compareStr .redhat (render a) (render b) = .ofOrd (RpmSpec.specCmp a b) := by
  obtain ⟨aw, an⟩ := rpm_wf_version ha
  obtain ⟨bw, bn⟩ := rpm_wf_version hb
  show redhatFam.compareStr (render a) (render b) = _
  rw [redhat_laws.compare_ok (redhatFam_parse _) (redhatFam_parse _), parseRH_render a ha, parseRH_render b hb, cmpRH,
    comp_epoch, comp_label _ _ aw bw an bn, comp_release a b ha hb]
  rfl

end Scalibr.Semantic
