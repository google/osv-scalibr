/-
C07 — Maven, part 4: transitivity on canonical token lists
    first number, then '.'-prefixed numbers (no trailing zero), then only '-'-prefixed tokens
(what `N(.N)*(-qualifier | -N)*` strings parse to). On this class `compare` is the lexicographic
product of  first number / padded dot-numbers / padded dash tokens,  each a total preorder.
The cycle of the known finding needs a '.'-prefixed qualifier (`1.foo`), which is outside the class.
-/
import Scalibr.Proofs.Semantic.MavenParse
namespace Scalibr.Semantic

/-! ## tokens of the class -/

/-- a real (non-padding) dash token: a non-empty non-numeric qualifier, or a number -/
def DTok.ok : DTok → Prop
  | .endd => False
  | .q s => toBig s = none ∧ s ≠ []
  | .n _ => True

def nullDot : MTok := ⟨['.'], intToChars 0, true⟩

/-- key of a qualifier: its rank, and its text when the rank does not tell it apart -/
def qkey (s : List Char) : Nat × List Char × Int := (keywordIdx s, if keywordIdx s = 7 then s else [], 0)

/-- the padding token is the empty qualifier; numbers come after all qualifiers -/
def dkey : DTok → Nat × List Char × Int
  | .endd => qkey []
  | .q s => qkey s
  | .n v => (8, [], v)

def dkeyCmp : Nat × List Char × Int → Nat × List Char × Int → Ordering :=
  thenCmp (cmpOn (·.1) ncmp) (thenCmp (cmpOn (·.2.1) strCmp) (cmpOn (·.2.2) icmp))

theorem dkeyCmp_isCmp : IsCmp dkeyCmp :=
  thenCmp_isCmp (cmpOn_isCmp _ ncmp_isCmp) (thenCmp_isCmp (cmpOn_isCmp _ strCmp_isCmp) (cmpOn_isCmp _ icmp_isCmp))

def dCmp (a b : DTok) : Ordering := dkeyCmp (dkey a) (dkey b)

theorem dCmp_isCmp : IsCmp dCmp := cmpOn_isCmp dkey dkeyCmp_isCmp

theorem dkeyCmp_mk (a1 : Nat) (a2 : List Char) (a3 : Int) (b1 : Nat) (b2 : List Char) (b3 : Int) :
    dkeyCmp (a1, a2, a3) (b1, b2, b3) = (ncmp a1 b1).then ((strCmp a2 b2).then (icmp a3 b3)) := rfl

/-! ## two qualifiers -/

/-- the order of two qualifiers as a comparator: rank, unknown ones by their text -/
def qCmp (s t : List Char) : Ordering :=
  (ncmp (keywordIdx s) (keywordIdx t)).then (strCmp (if keywordIdx s = 7 then s else []) (if keywordIdx t = 7 then t else []))

theorem dkeyCmp_qkey (s t : List Char) : dkeyCmp (qkey s) (qkey t) = qCmp s t := by
  rw [qkey, qkey, dkeyCmp_mk, icmp_isCmp.refl, Ordering.then_eq]; rfl

theorem qCmp_eq_iff (s t : List Char) : qCmp s t = .eq ↔ s = t := by
  constructor
  · intro h
    obtain ⟨h1, h2⟩ := Ordering.then_eq_eq.mp h
    have hk := ncmp_eq.mp h1
    by_cases h7 : keywordIdx s = 7
    · rw [if_pos h7, if_pos (hk ▸ h7)] at h2
      exact (strCmp_eq_iff s t).mp h2
    · exact keywordIdx_inj s t hk h7
  · intro h; subst h
    rw [qCmp, ncmp_isCmp.refl, strCmp_isCmp.refl]; rfl

theorem kwLess_eq (s t : List Char) : kwLess s t = decide (qCmp s t = .lt) := by
  unfold kwLess qCmp
  by_cases h7 : keywordIdx s = 7 ∧ keywordIdx t = 7
  · simp only [h7.1, h7.2, decide_true, Bool.and_self, if_true, ncmp_isCmp.refl, eqThen]
  · have h7' : ¬ ((decide (keywordIdx s = 7) && decide (keywordIdx t = 7)) = true) := by simpa using h7
    rw [if_neg h7', decide_eq_decide, Ordering.then_eq_lt, ncmp_lt, ncmp_eq]
    constructor
    · exact Or.inl
    · rintro (h | ⟨h, h'⟩)
      · exact h
      · -- equal ranks below 7: both texts are dropped, nothing is left to be smaller
        have hs : ¬ keywordIdx s = 7 := fun e => h7 ⟨e, h ▸ e⟩
        rw [if_neg hs, if_neg (h ▸ hs)] at h'
        cases h'

/-! ## facts about single tokens -/

theorem toBig_kSp : toBig kSp = none := by decide

theorem itc_ne_sp (a : Int) : intToChars a ≠ kSp := by
  intro h
  have := toBig_intToChars a
  rw [h, toBig_kSp] at this
  exact absurd this (by simp)

theorem keywordIdx_nil : keywordIdx [] = 5 := by decide

/-- same prefix, both numeric: numeric comparison whatever the null flags -/
theorem tokLess_num (p : List Char) (a b : Int) (n1 n2 : Bool) :
    tokLess ⟨p, intToChars a, n1⟩ ⟨p, intToChars b, n2⟩ = some (decide (a < b)) := by
  simp [tokLess, toBig_intToChars]

theorem equal_num (p : List Char) (a b : Int) (n1 n2 : Bool) :
    (⟨p, intToChars a, n1⟩ : MTok).equal ⟨p, intToChars b, n2⟩ = decide (a = b) := by
  unfold MTok.equal
  by_cases h : a = b
  · subst h; simp
  · have : intToChars a ≠ intToChars b := fun e => h (intToChars_inj e)
    simp [h, this]

theorem nullTok_dot (a : Int) : nullTok (dotTok a) = some nullDot := by
  simp [nullTok, dotTok, nullDot, itc_ne_sp, intToChars_zero]

theorem nullTok_dash (d : DTok) : nullTok d.tok = some DTok.endd.tok := by
  cases d <;> simp [nullTok, DTok.tok]

theorem icmp_lt_iff (a b : Int) : decide (icmp a b = .lt) = decide (a < b) := by
  rw [decide_eq_decide]; exact icmp_lt

theorem icmp_eq_iff (a b : Int) : decide (icmp a b = .eq) = decide (a = b) := by
  rw [decide_eq_decide]; exact icmp_eq

/-! ## two dash tokens -/

/-- two qualifiers (the empty one standing for the padding) -/
theorem dash_qq (s t : List Char) (b c : Bool) (hs : toBig s = none) (ht : toBig t = none) :
    (⟨['-'], s, b⟩ : MTok).equal ⟨['-'], t, c⟩ = decide (dkeyCmp (qkey s) (qkey t) = .eq) ∧
    tokLess ⟨['-'], s, b⟩ ⟨['-'], t, c⟩ = some (decide (dkeyCmp (qkey s) (qkey t) = .lt)) := by
  rw [dkeyCmp_qkey, ← kwLess_eq, tokLess_same ⟨['-'], s, b⟩ ⟨['-'], t, c⟩ rfl]
  simp only [MTok.equal, hs, ht, decide_true, Bool.true_and, Option.isSome_none, Bool.false_and, Bool.false_eq_true, if_false,
    qCmp_eq_iff, and_self]

/-- a number and a qualifier: the number is the greater one -/
theorem dash_nq (v : Int) (t : List Char) (c : Bool) (ht : toBig t = none) :
    ((⟨['-'], intToChars v, false⟩ : MTok).equal ⟨['-'], t, c⟩ = false ∧ (⟨['-'], t, c⟩ : MTok).equal ⟨['-'], intToChars v, false⟩ = false) ∧
    (tokLess ⟨['-'], intToChars v, false⟩ ⟨['-'], t, c⟩ = some false ∧ tokLess ⟨['-'], t, c⟩ ⟨['-'], intToChars v, false⟩ = some true) ∧
    dkeyCmp (8, [], v) (qkey t) = .gt ∧ dkeyCmp (qkey t) (8, [], v) = .lt := by
  have hne : intToChars v ≠ t := fun e => by rw [← e, toBig_intToChars] at ht; cases ht
  have hle := keywordIdx_le t
  refine ⟨by simp [MTok.equal, hne, Ne.symm hne], ?_, ?_, ?_⟩
  · rw [tokLess_same ⟨['-'], intToChars v, false⟩ ⟨['-'], t, c⟩ rfl, tokLess_same ⟨['-'], t, c⟩ ⟨['-'], intToChars v, false⟩ rfl]
    simp [toBig_intToChars, ht]
  · rw [qkey, dkeyCmp_mk, ncmp_gt.mpr (by omega)]; rfl
  · rw [qkey, dkeyCmp_mk, ncmp_lt.mpr (by omega)]; rfl

/-- dash tokens (padding included on at most one side): `equal` and `lessThan` are `dCmp` -/
theorem dash_pair (x y : DTok) (hx : x.ok ∨ x = .endd) (hy : y.ok ∨ y = .endd) (hne : ¬ (x = .endd ∧ y = .endd)) :
    x.tok.equal y.tok = decide (dCmp x y = .eq) ∧
    (x.tok.equal y.tok = false → tokLess x.tok y.tok = some (decide (dCmp x y = .lt))) := by
  have ok_q : ∀ s, ((DTok.q s).ok ∨ DTok.q s = .endd) → toBig s = none := fun s h => (h.resolve_right (by simp)).1
  cases x with
  | endd =>
    cases y with
    | endd => exact absurd ⟨rfl, rfl⟩ hne
    | q t => exact ⟨(dash_qq [] t true false toBig_nil (ok_q t hy)).1, fun _ => (dash_qq [] t true false toBig_nil (ok_q t hy)).2⟩
    | n w =>
      obtain ⟨⟨_, e⟩, ⟨_, l⟩, _, c⟩ := dash_nq w [] true toBig_nil
      exact ⟨by simp [DTok.tok, dCmp, dkey, e, c], fun _ => by simp [DTok.tok, dCmp, dkey, l, c]⟩
  | q s =>
    cases y with
    | endd => exact ⟨(dash_qq s [] false true (ok_q s hx) toBig_nil).1, fun _ => (dash_qq s [] false true (ok_q s hx) toBig_nil).2⟩
    | q t => exact ⟨(dash_qq s t false false (ok_q s hx) (ok_q t hy)).1, fun _ => (dash_qq s t false false (ok_q s hx) (ok_q t hy)).2⟩
    | n w =>
      obtain ⟨⟨_, e⟩, ⟨_, l⟩, _, c⟩ := dash_nq w s false (ok_q s hx)
      exact ⟨by simp [DTok.tok, dCmp, dkey, e, c], fun _ => by simp [DTok.tok, dCmp, dkey, l, c]⟩
  | n v =>
    cases y with
    | endd =>
      obtain ⟨⟨e, _⟩, ⟨l, _⟩, c, _⟩ := dash_nq v [] true toBig_nil
      exact ⟨by simp [DTok.tok, dCmp, dkey, e, c], fun _ => by simp [DTok.tok, dCmp, dkey, l, c]⟩
    | q t =>
      obtain ⟨⟨e, _⟩, ⟨l, _⟩, c, _⟩ := dash_nq v t false (ok_q t hy)
      exact ⟨by simp [DTok.tok, dCmp, dkey, e, c], fun _ => by simp [DTok.tok, dCmp, dkey, l, c]⟩
    | n w =>
      simp only [DTok.tok, dCmp, dkey, dkeyCmp_mk, equal_num, tokLess_num, ncmp_isCmp.refl, strCmp_isCmp.refl, eqThen,
        icmp_eq_iff, icmp_lt_iff, implies_true, and_self]

/-! ## one position of `lessThan` / `equal` -/

theorem mvn_step {x y : MTok} {as bs : List MTok} {c K : Ordering}
    (he : x.equal y = decide (c = .eq)) (hl : x.equal y = false → tokLess x y = some (decide (c = .lt)))
    (hK : mvnLess as bs = some (decide (K = .lt)) ∧ mvnEqual as bs = decide (K = .eq)) :
    mvnLess (x :: as) (y :: bs) = some (decide (c.then K = .lt)) ∧
    mvnEqual (x :: as) (y :: bs) = decide (c.then K = .eq) := by
  simp only [mvnLess, mvnEqual]
  cases c with
  | eq => rw [show x.equal y = true by simpa using he]; simpa using hK
  | lt =>
    have h0 : x.equal y = false := by simpa using he
    simp [h0, hl h0]
  | gt =>
    have h0 : x.equal y = false := by simpa using he
    simp [h0, hl h0]

theorem cmpMvnT_of {v w : List MTok} {X : Ordering}
    (h : mvnLess v w = some (decide (X = .lt)) ∧ mvnEqual v w = decide (X = .eq)) : cmpMvnT v w = X := by
  unfold cmpMvnT
  rw [h.1, h.2]
  cases X <;> simp

/-! ## lists of dash tokens: uniform padding -/

theorem dash_ne_endd (x : DTok) (hx : x.ok) : x.tok.equal DTok.endd.tok = false ∧ DTok.endd.tok.equal x.tok = false := by
  cases x with
  | endd => exact absurd hx (by simp [DTok.ok])
  | q s =>
    have : s ≠ [] := hx.2
    simp [DTok.tok, MTok.equal, this, Ne.symm this]
  | n v => simp [DTok.tok, MTok.equal, itc_ne_nil v, Ne.symm (itc_ne_nil v)]

theorem dCmp_endd_ne (x : DTok) (hx : x.ok) : dCmp x .endd ≠ .eq ∧ dCmp .endd x ≠ .eq := by
  have h1 := (dash_pair x .endd (Or.inl hx) (Or.inr rfl) (by intro ⟨a, _⟩; subst a; exact hx)).1
  have h2 := (dash_pair .endd x (Or.inr rfl) (Or.inl hx) (by intro ⟨_, b⟩; subst b; exact hx)).1
  rw [(dash_ne_endd x hx).1] at h1
  rw [(dash_ne_endd x hx).2] at h2
  constructor
  · intro e; rw [e] at h1; simp at h1
  · intro e; rw [e] at h2; simp at h2

theorem decide_then_lt (o k : Ordering) (h : o ≠ .eq) : decide (o.then k = .lt) = decide (o = .lt) := by
  rw [then_eq_left _ h]

theorem dash_lists : ∀ (xs ys : List DTok), (∀ x ∈ xs, x.ok) → (∀ y ∈ ys, y.ok) →
    mvnLess (xs.map DTok.tok) (ys.map DTok.tok) = some (decide (cmpPad dCmp .endd xs ys = .lt)) ∧
    mvnEqual (xs.map DTok.tok) (ys.map DTok.tok) = decide (cmpPad dCmp .endd xs ys = .eq) := by
  intro xs; induction xs with
  | nil =>
    intro ys _ hy
    induction ys with
    | nil => simp [mvnLess, mvnLessL, mvnEqual, cmpPad, cmpPadL]
    | cons y ys' _ =>
      have hyo := hy y (by simp)
      have hp := dash_pair .endd y (Or.inr rfl) (Or.inl hyo) (by intro ⟨_, b⟩; subst b; exact hyo)
      have hne := (dash_ne_endd y hyo).2
      have hd := (dCmp_endd_ne y hyo).2
      simp only [List.map, mvnLess, mvnLessL, nullTok_dash, hne, Bool.false_eq_true, if_false, mvnEqual, cmpPad, cmpPadL]
      rw [hp.2 hne]
      simp only [then_eq_left _ hd]
      simp [hd]
  | cons x xs' ih =>
    intro ys hx hy
    have hxo := hx x (by simp)
    cases ys with
    | nil =>
      have hp := dash_pair x .endd (Or.inl hxo) (Or.inr rfl) (by intro ⟨a, _⟩; subst a; exact hxo)
      have hne := (dash_ne_endd x hxo).1
      have hd := (dCmp_endd_ne x hxo).1
      simp only [List.map, mvnLess, nullTok_dash, hne, Bool.false_eq_true, if_false, mvnEqual, cmpPad_nil_right, cmpPadR]
      rw [hp.2 hne]
      simp only [then_eq_left _ hd]
      simp [hd]
    | cons y ys' =>
      have hyo := hy y (by simp)
      have hp := dash_pair x y (Or.inl hxo) (Or.inl hyo) (by intro ⟨a, _⟩; subst a; exact hxo)
      exact mvn_step hp.1 hp.2 (ih ys' (fun z hz => hx z (by simp [hz])) (fun z hz => hy z (by simp [hz])))

/-! ## the dot-number phase -/

/-- non-negative, no trailing zero -/
def NumsOk (as : List Int) : Prop := (∀ a ∈ as, 0 ≤ a) ∧ (∀ l, as.getLast? = some l → l ≠ 0)

theorem NumsOk.tail {a : Int} {as : List Int} (h : NumsOk (a :: as)) : NumsOk as := by
  refine ⟨fun b hb => h.1 b (by simp [hb]), ?_⟩
  intro l hl
  cases as with
  | nil => simp at hl
  | cons b bs => exact h.2 l (by simpa [List.getLast?_cons_cons] using hl)

theorem NumsOk.head_zero_tail_ne {as : List Int} (h : NumsOk (0 :: as)) : as ≠ [] := by
  intro e; subst e
  exact h.2 0 rfl rfl

theorem nullDot_equal_dot (b : Int) : nullDot.equal (dotTok b) = decide (0 = b) := equal_num ['.'] 0 b true false
theorem dot_equal_nullDot (a : Int) : (dotTok a).equal nullDot = decide (a = 0) := equal_num ['.'] a 0 false true
theorem dot_equal_dot (a b : Int) : (dotTok a).equal (dotTok b) = decide (a = b) := equal_num ['.'] a b false false
theorem tokLess_nullDot_dot (b : Int) : tokLess nullDot (dotTok b) = some (decide (0 < b)) := tokLess_num ['.'] 0 b true false
theorem tokLess_dot_nullDot (a : Int) : tokLess (dotTok a) nullDot = some (decide (a < 0)) := tokLess_num ['.'] a 0 false true
theorem tokLess_dot_dot (a b : Int) : tokLess (dotTok a) (dotTok b) = some (decide (a < b)) := tokLess_num ['.'] a b false false

theorem qualOrder_dot (a : Int) : qualOrder (dotTok a) = some 3 := by
  simp [qualOrder, dotTok, toBig_intToChars]

theorem qualOrder_dash (x : DTok) (hx : x.ok) : qualOrder x.tok = some 1 ∨ qualOrder x.tok = some 2 := by
  cases x with
  | endd => exact absurd hx (by simp [DTok.ok])
  | q s => left; simp [qualOrder, DTok.tok, hx.1]
  | n v => right; simp [qualOrder, DTok.tok, toBig_intToChars]

theorem dash_dot (x : DTok) (hx : x.ok) (b : Int) :
    x.tok.equal (dotTok b) = false ∧ (dotTok b).equal x.tok = false ∧
    tokLess x.tok (dotTok b) = some true ∧ tokLess (dotTok b) x.tok = some false := by
  have hpre : x.tok.pre = ['-'] := by cases x <;> rfl
  have hq := qualOrder_dash x hx
  have h1 : ¬ (x.tok.pre = (dotTok b).pre) := by rw [hpre]; simp [dotTok]
  have h2 : ¬ ((dotTok b).pre = x.tok.pre) := by rw [hpre]; simp [dotTok]
  refine ⟨by simp [MTok.equal, h1], by simp [MTok.equal, h2], ?_, ?_⟩
  · unfold tokLess
    rw [if_neg h1, qualOrder_dot]
    rcases hq with hq | hq <;> rw [hq] <;> rfl
  · unfold tokLess
    rw [if_neg h2, qualOrder_dot]
    rcases hq with hq | hq <;> rw [hq] <;> rfl

/-- one side is exhausted, the other still has dot-numbers: it is the smaller one, for `lessThan`
and for the padded comparison of the numbers alike -/
theorem dots_vs_end : ∀ (bs : List Int), NumsOk bs → bs ≠ [] → ∀ rest : List MTok,
    (mvnLessL (bs.map dotTok ++ rest) = some true ∧ mvnLess (bs.map dotTok ++ rest) [] = some false) ∧
    cmpPadL icmp 0 bs = .lt ∧ cmpPadR icmp 0 bs = .gt := by
  intro bs; induction bs with
  | nil => intro _ h; exact absurd rfl h
  | cons b bs' ih =>
    intro hb _ rest
    simp only [List.map, List.cons_append, mvnLessL, mvnLess, nullTok_dot, nullDot_equal_dot, dot_equal_nullDot,
      tokLess_nullDot_dot, tokLess_dot_nullDot, cmpPadL, cmpPadR]
    by_cases h0 : b = 0
    · subst h0
      simpa [icmp_isCmp.refl] using ih hb.tail hb.head_zero_tail_ne rest
    · have hpos : 0 < b := by have := hb.1 b (by simp); omega
      simp [h0, Ne.symm h0, hpos, Int.lt_asymm hpos, icmp_lt.mpr hpos, icmp_gt.mpr hpos, Ordering.then]

/-- dot-numbers then dash tokens, on both sides -/
theorem phase_lemma : ∀ (as bs : List Int) (xs ys : List DTok), NumsOk as → NumsOk bs →
    (∀ x ∈ xs, x.ok) → (∀ y ∈ ys, y.ok) →
    mvnLess (as.map dotTok ++ xs.map DTok.tok) (bs.map dotTok ++ ys.map DTok.tok) =
      some (decide ((cmpPad icmp 0 as bs).then (cmpPad dCmp .endd xs ys) = .lt)) ∧
    mvnEqual (as.map dotTok ++ xs.map DTok.tok) (bs.map dotTok ++ ys.map DTok.tok) =
      decide ((cmpPad icmp 0 as bs).then (cmpPad dCmp .endd xs ys) = .eq)
  | [], [], xs, ys, _, _, hx, hy => by
    simp only [List.map, List.nil_append, cmpPad, cmpPadL, eqThen]
    exact dash_lists xs ys hx hy
  | [], b :: bs', xs, ys, _, hb, hx, hy => by
    obtain ⟨⟨hL, _⟩, hK, _⟩ := dots_vs_end (b :: bs') hb (by simp) (ys.map DTok.tok)
    rw [cmpPad_nil_left, hK]
    cases xs with
    | nil => exact ⟨by simpa [mvnLess] using hL, by simp [mvnEqual]⟩
    | cons x xs' =>
      have hd := dash_dot x (hx x (by simp)) b
      simp [mvnLess, mvnEqual, hd.1, hd.2.2.1]
  | a :: as', [], xs, ys, ha, _, hx, hy => by
    obtain ⟨⟨_, hR⟩, _, hK⟩ := dots_vs_end (a :: as') ha (by simp) (xs.map DTok.tok)
    rw [cmpPad_nil_right, hK]
    cases ys with
    | nil => exact ⟨by simpa using hR, by simp [mvnEqual]⟩
    | cons y ys' =>
      have hd := dash_dot y (hy y (by simp)) a
      simp [mvnLess, mvnEqual, hd.2.1, hd.2.2.2]
  | a :: as', b :: bs', xs, ys, ha, hb, hx, hy => by
    simp only [cmpPad, Ordering.then_assoc]
    exact mvn_step (by rw [dot_equal_dot, icmp_eq_iff]) (fun _ => by rw [tokLess_dot_dot, icmp_lt_iff])
      (phase_lemma as' bs' xs ys ha.tail hb.tail hx hy)

/-! ## whole versions of the class -/

/-- the key of a canonical version: first number, dot-numbers (padded with 0), dash tokens (padded
with the end marker) -/
def canonKeyCmp (c d : Int × List Int × List DTok) : Ordering :=
  (icmp c.1 d.1).then ((cmpPad icmp 0 c.2.1 d.2.1).then (cmpPad dCmp .endd c.2.2 d.2.2))

theorem canonKeyCmp_isCmp : IsCmp canonKeyCmp :=
  (thenCmp_isCmp (cmpOn_isCmp (·.1) icmp_isCmp)
    (thenCmp_isCmp (cmpOn_isCmp (·.2.1) (cmpPad_isCmp 0 icmp_isCmp)) (cmpOn_isCmp (·.2.2) (cmpPad_isCmp DTok.endd dCmp_isCmp)))).congr
    (fun _ _ => rfl)

def CanonOk (c : Int × List Int × List DTok) : Prop := NumsOk c.2.1 ∧ ∀ x ∈ c.2.2, x.ok

theorem cmpMvnT_canon (c d : Int × List Int × List DTok) (hc : CanonOk c) (hd : CanonOk d) :
    cmpMvnT (canonToks c.1 c.2.1 c.2.2) (canonToks d.1 d.2.1 d.2.2) = canonKeyCmp c d :=
  cmpMvnT_of (mvn_step (by rw [headTok, headTok, equal_num, icmp_eq_iff])
    (fun _ => by rw [headTok, headTok, tokLess_num, icmp_lt_iff]) (phase_lemma _ _ _ _ hc.1 hd.1 hc.2 hd.2))

/-- the class as a predicate on token lists -/
def MvnCanonP (v : List MTok) : Prop := ∃ c : Int × List Int × List DTok, CanonOk c ∧ v = canonToks c.1 c.2.1 c.2.2

theorem cmpMvnT_isCmpOn : IsCmpOn MvnCanonP cmpMvnT where
  refl := fun a _ => cmpMvnT_refl a
  swap := fun a b ⟨c, hc, ea⟩ ⟨d, hd, eb⟩ => by
    subst ea eb
    rw [cmpMvnT_canon c d hc hd, cmpMvnT_canon d c hd hc]
    exact canonKeyCmp_isCmp.swap c d
  trans_le := fun a b e ⟨c, hc, ea⟩ ⟨d, hd, eb⟩ ⟨f, hf, ee⟩ => by
    subst ea eb ee
    rw [cmpMvnT_canon c d hc hd, cmpMvnT_canon d f hd hf, cmpMvnT_canon c f hc hf]
    exact canonKeyCmp_isCmp.trans_le c d f

/-! ## the decoder of `Spec.Semantic` is sound -/

theorem decDash_sound : ∀ (ts : List MTok) (ds : List DTok), decDash ts = some ds →
    ts = ds.map DTok.tok ∧ ∀ x ∈ ds, x.ok
  | [], ds, h => by cases h; exact ⟨rfl, by simp⟩
  | ⟨p, v, n⟩ :: rest, ds, h => by
    unfold decDash at h
    split at h
    · rename_i hc
      simp only [Bool.and_eq_true, decide_eq_true_eq, Bool.not_eq_true'] at hc
      obtain ⟨rfl, rfl⟩ := hc
      split at h
      · rename_i w _
        split at h
        · rename_i hv
          obtain ⟨ds', hr, rfl⟩ := Option.map_eq_some_iff.mp h
          obtain ⟨e1, e2⟩ := decDash_sound rest ds' hr
          simp only at hv
          exact ⟨by simp [DTok.tok, ← e1, hv], by simpa [DTok.ok] using e2⟩
        · cases h
      · rename_i hv
        split at h
        · rename_i hne
          obtain ⟨ds', hr, rfl⟩ := Option.map_eq_some_iff.mp h
          obtain ⟨e1, e2⟩ := decDash_sound rest ds' hr
          exact ⟨by simp [DTok.tok, ← e1], by simpa [DTok.ok, hv] using And.intro hne e2⟩
        · cases h
    · cases h

theorem decDots_sound : ∀ (ts : List MTok) (as : List Int) (ds : List DTok), decDots ts = some (as, ds) →
    ts = as.map dotTok ++ ds.map DTok.tok ∧ (∀ a ∈ as, 0 ≤ a) ∧ ∀ x ∈ ds, x.ok
  | [], as, ds, h => by cases h; exact ⟨rfl, by simp, by simp⟩
  | ⟨p, v, n⟩ :: rest, as, ds, h => by
    unfold decDots at h
    split at h
    · rename_i hp
      simp only at hp
      subst hp
      split at h
      · rename_i hn
        simp only [Bool.not_eq_true'] at hn
        subst hn
        split at h
        · rename_i w _
          split at h
          · rename_i hc
            simp only [Bool.and_eq_true, decide_eq_true_eq] at hc
            obtain ⟨q, hr, hq⟩ := Option.map_eq_some_iff.mp h
            obtain ⟨e1, e2, e3⟩ := decDots_sound rest q.1 q.2 hr
            cases hq
            exact ⟨by simp [dotTok, ← e1, hc.1], by simpa using And.intro hc.2 e2, e3⟩
          · cases h
        · cases h
      · cases h
    · obtain ⟨ds', hr, hq⟩ := Option.map_eq_some_iff.mp h
      obtain ⟨rfl, rfl⟩ := Prod.mk.inj hq
      obtain ⟨e1, e2⟩ := decDash_sound _ _ hr
      exact ⟨by simpa using e1, by simp, e2⟩

theorem mvnCanonToks_sound : ∀ (v : List MTok), mvnCanonToks v = true → MvnCanonP v
  | [], h => by simp [mvnCanonToks, decMvn] at h
  | ⟨p, w, n⟩ :: rest, h => by
    unfold mvnCanonToks at h
    split at h
    · rename_i n0 nums ds hd
      simp only [decMvn] at hd
      split at hd
      · rename_i hc
        simp only [Bool.and_eq_true, decide_eq_true_eq, Bool.not_eq_true'] at hc
        obtain ⟨rfl, rfl⟩ := hc
        split at hd
        · split at hd
          · rename_i hw
            obtain ⟨q, hr, hq⟩ := Option.map_eq_some_iff.mp hd
            cases hq
            obtain ⟨e1, e2, e3⟩ := decDots_sound rest q.1 q.2 hr
            refine ⟨(n0, q.1, q.2), ⟨⟨e2, fun l hl e0 => ?_⟩, e3⟩, by simp [canonToks, headTok, ← e1, hw]⟩
            subst e0
            simp [hl] at h
          · cases hd
        · cases hd
      · cases hd
    · cases h

end Scalibr.Semantic
