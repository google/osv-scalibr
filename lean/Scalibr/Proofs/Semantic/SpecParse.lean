/-
C07 — the reader `specParse` that the driver uses for the semver.org oracle inverts `render`:
every well-formed `SemVer` is read back from its canonical text. Together with `semver_spec` this
ties the oracle's verdict (`spec=`) to the theorem's statement.
-/
import Scalibr.Proofs.Semantic.SemverSpec
namespace Scalibr.Semantic

theorem specNum_D (n : Nat) : specNum (D n) = some n := by
  simp [specNum, isEmpty_D, D_all, D_canon, D_val]

theorem specIdent_render (i : Ident) (hw : i.wf = true) : specIdent i.render = some i := by
  have hc := List.all_eq_true.mpr (render_chars i hw)
  have hne := List.isEmpty_eq_false_iff.mpr (render_ne i hw)
  cases i with
  | num n => rw [specIdent, hne, hc]; show (if (D n).all isDigit then Option.map Ident.num (specNum (D n)) else _) = _; rw [D_all, specNum_D]; rfl
  | alnum s => rw [specIdent, hne, hc]; show (if s.all isDigit then _ else _) = _; rw [alnum_not_digits hw]; rfl

theorem specIdents_render : ∀ (p : List Ident), (∀ i ∈ p, i.wf = true) → specIdents (p.map Ident.render) = some p
  | [], _ => rfl
  | i :: p, h => by
    simp only [List.map, specIdents, specIdent_render i (h i (by simp)), specIdents_render p fun k hk => h k (by simp [hk])]

/-- reading back the canonical text -/
theorem specParse_render (x : SemVer) (hw : x.wf = true) (hb : x.buildWf = true) : specParse x.render = some x := by
  obtain ⟨a, b, c, pre, build⟩ := x
  have hpw : ∀ i ∈ pre, i.wf = true := SemVer.wf_pre hw
  have hD : ∀ t ∈ [D a, D b, D c], ∀ ch ∈ t, isDigit ch = true := by simpa using ⟨D_digits a, D_digits b, D_digits c⟩
  have hcore : ∀ ch ∈ dotJoin [D a, D b, D c], ch ≠ '-' ∧ ch ≠ '+' :=
    forall_mem_dotJoin (by decide) fun t ht ch h => digit_not_sign (hD t ht ch h)
  have hsplit : splitOn '.' (dotJoin [D a, D b, D c]) = [D a, D b, D c] :=
    splitOn_dotJoin _ (by simp) fun t ht ch h => ne_of_class (hD t ht ch h) (by decide)
  have hmain : ∀ ch ∈ dotJoin [D a, D b, D c] ++ preStr pre, ch ≠ '+' := fun ch h =>
    (List.mem_append.mp h).elim (fun h => (hcore ch h).2) (preStr_chars pre hpw ch)
  have hrender : SemVer.render ⟨a, b, c, pre, build⟩ =
      (dotJoin [D a, D b, D c] ++ preStr pre) ++ if build.isEmpty then [] else '+' :: build := by
    simp [SemVer.render, dotJoin, preStr]
  have hdash : ∀ ch ∈ dotJoin [D a, D b, D c], ch ≠ '-' := fun ch h => (hcore ch h).1
  have hids : ∀ i p, pre = i :: p → specIdents (i.render :: p.map Ident.render) = some (i :: p) :=
    fun i p e => by subst e; exact specIdents_render _ hpw
  unfold specParse
  rw [hrender, cutAt_optTail '+' _ build hmain]
  cases build with
  | nil =>
    cases pre with
    | nil => simp [preStr, cutAt_none '-' _ hdash, hsplit, specNum_D]
    | cons i p =>
      simp [preStr, cutAt_append_sep '-' _ _ hdash, hsplit, specNum_D, splitOn_renderPre _ (List.cons_ne_nil i p) hpw,
        hids i p rfl]
  | cons x xs =>
    have hbok : ((splitOn '.' (x :: xs)).all fun i => !i.isEmpty && i.all identChar) = true := by
      simpa [SemVer.buildWf] using hb
    cases pre with
    | nil => simp [preStr, cutAt_none '-' _ hdash, hsplit, specNum_D, hbok]
    | cons i p =>
      simp [preStr, cutAt_append_sep '-' _ _ hdash, hsplit, specNum_D, splitOn_renderPre _ (List.cons_ne_nil i p) hpw,
        hids i p rfl, hbok]

end Scalibr.Semantic
