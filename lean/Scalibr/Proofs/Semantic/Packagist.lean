/-
C07 — Packagist. The fuel-indexed model of `comparePackagistComponents` equals a structurally
recursive form (`cmpPkS`), which is reflexive and antisymmetric on all component lists. It is a
total preorder on lists without a `#…` component (`#` is the function's internal stand-in for "a
number": with it `1.5 = 1.# = 1.7` although `1.5 < 1.7`).
-/
import Scalibr.Proofs.Semantic.GoShape
namespace Scalibr.Semantic

/-- `comparePackagistComponents(ext, ["#"])` — how a version compares with a proper prefix of it -/
def pkExt : List (List Char) → Ordering
  | [] => .eq
  | x :: xs => if (toBig x).isSome then .gt else (cmpSpecial x ['#']).then (pkExt xs)

/-- structural form of `comparePackagistComponents` -/
def cmpPkS : List (List Char) → List (List Char) → Ordering
  | [], bs => (pkExt bs).swap
  | as, [] => pkExt as
  | x :: as, y :: bs => (pkElem x y).then (cmpPkS as bs)

theorem cmpPkS_nil_right (as : List (List Char)) : cmpPkS as [] = pkExt as := by
  cases as <;> simp [cmpPkS, pkExt, Ordering.swap]

theorem cmpSpecial_isCmp : IsCmp cmpSpecial := (cmpOn_isCmp weighPk ncmp_isCmp).congr (fun _ _ => rfl)

theorem toBig_hash : toBig ['#'] = none := by decide

theorem pkElem_hash_right (x : List Char) (h : (toBig x).isSome = false) : pkElem x ['#'] = cmpSpecial x ['#'] := by
  unfold pkElem
  cases hx : toBig x with
  | some v => simp [hx] at h
  | none => simp [toBig_hash]

/-! ## reflexivity and antisymmetry on all component lists -/

theorem pkElem_isSym : IsSym pkElem where
  refl := fun x => by
    unfold pkElem
    cases toBig x with
    | some v => exact icmp_isCmp.refl v
    | none => exact cmpSpecial_isCmp.refl x
  swap := fun x y => by
    unfold pkElem
    cases toBig x <;> cases toBig y <;> simp only
    · exact cmpSpecial_isCmp.swap _ _
    · exact cmpSpecial_isCmp.swap _ _
    · exact cmpSpecial_isCmp.swap _ _
    · exact icmp_isCmp.swap _ _

theorem cmpPkS_isSym : IsSym cmpPkS where
  refl := fun a => by
    induction a with
    | nil => simp [cmpPkS, pkExt, Ordering.swap]
    | cons x xs ih => simp [cmpPkS, pkElem_isSym.refl, ih, Ordering.then]
  swap := fun a => by
    induction a with
    | nil => intro b; rw [cmpPkS_nil_right]; simp [cmpPkS]
    | cons x xs ih =>
      intro b
      cases b with
      | nil => simp [cmpPkS]
      | cons y ys => simp only [cmpPkS]; rw [Ordering.swap_then, pkElem_isSym.swap x y, ih ys]

theorem cmpPkS_hash_right (x : List Char) (xs : List (List Char)) (hx : (toBig x).isSome = false) :
    cmpPkS (x :: xs) [['#']] = pkExt (x :: xs) := by
  simp only [cmpPkS, pkElem_hash_right x hx, cmpPkS_nil_right, pkExt, hx, Bool.false_eq_true, if_false]

/-! ## the fuel-indexed model -/

/-- enough fuel: the fuel-indexed model is the structural function (a call with an exhausted side
turns into one against `["#"]`, which costs one extra unit per remaining component) -/
theorem cmpPkF_eq : ∀ (n : Nat) (a b : List (List Char)), 2 * max a.length b.length - min a.length b.length + 1 ≤ n →
    cmpPkF n a b = cmpPkS a b
  | _ + 1, [], [], _ => rfl
  | n + 1, x :: as, y :: bs, h => by
    simp only [cmpPkF, cmpPkS, cmpPkF_eq n as bs (by simp only [List.length_cons] at h; omega)]
  | n + 1, x :: as, [], h => by
    have ih := cmpPkF_eq n (x :: as) [['#']] (by simp only [List.length_cons, List.length_nil] at h ⊢; omega)
    cases hx : (toBig x).isSome with
    | true => simp only [cmpPkF, cmpPkS, pkExt, hx, if_true]
    | false =>
      rw [show cmpPkF (n + 1) (x :: as) [] = cmpPkF n (x :: as) [['#']] by simp only [cmpPkF, hx, Bool.false_eq_true, if_false], ih,
        cmpPkS_hash_right x as hx, cmpPkS_nil_right]
  | n + 1, [], y :: bs, h => by
    have ih := cmpPkF_eq n [['#']] (y :: bs) (by simp only [List.length_cons, List.length_nil] at h ⊢; omega)
    rw [cmpPkS_isSym.swap (y :: bs) [['#']]] at ih
    cases hy : (toBig y).isSome with
    | true => simp only [cmpPkF, cmpPkS, pkExt, hy, if_true, Ordering.swap]
    | false =>
      rw [show cmpPkF (n + 1) [] (y :: bs) = cmpPkF n [['#']] (y :: bs) by simp only [cmpPkF, hy, Bool.false_eq_true, if_false], ih,
        cmpPkS_hash_right y bs hy]
      rfl

theorem cmpPk_eq (a b : List (List Char)) : cmpPk a b = cmpPkS a b :=
  cmpPkF_eq _ a b (by unfold pkFuel; omega)

/-! ## the Go-shaped function: every index and slice is in range -/

theorem cmpPkS_zip : ∀ a b : List (List Char), cmpPkS a b =
    (cmpZip pkElem a b).then (if b.length < a.length then pkExt (a.drop b.length)
      else if a.length < b.length then (pkExt (b.drop a.length)).swap else .eq) := by
  intro a
  induction a with
  | nil =>
    intro b
    cases b with
    | nil => simp [cmpPkS, cmpZip, pkExt, Ordering.swap, Ordering.then]
    | cons y ys => simp [cmpPkS, cmpZip, Ordering.then]
  | cons x xs ih =>
    intro b
    cases b with
    | nil => simp [cmpPkS, cmpZip, Ordering.then]
    | cons y ys =>
      simp only [cmpPkS, cmpZip, ih ys, List.length_cons, List.drop_succ_cons, Nat.add_lt_add_iff_right]
      cases pkElem x y <;> simp [Ordering.then]

theorem goIndex_drop {α : Type} (l : List α) (n : Nat) (x : α) (xs : List α) (h : l.drop n = x :: xs) :
    goIndex l n = some x := by
  unfold goIndex
  have hn : n < l.length := by
    apply Classical.byContradiction; intro hc
    rw [List.drop_eq_nil_of_le (Nat.le_of_not_lt hc)] at h; cases h
  rw [List.getElem?_eq_getElem hn]
  rw [List.drop_eq_getElem_cons hn] at h
  injection h with h1 _
  rw [h1]

/-- `comparePackagistComponents` never indexes or slices out of range, and one unit of fuel per
call is enough: a call against a shorter list is followed by calls against `["#"]` only, each on a
tail that is one component shorter -/
theorem cmpPkGo_eq : ∀ (f : Nat) (a b : List (List Char)), max a.length b.length - min a.length b.length + 1 ≤ f →
    cmpPkGo f a b = some (cmpPkS a b)
  | f + 1, a, b, hf => by
    -- the part of the longer list beyond the shorter one, if it is not a number: compared with `["#"]`
    have ext : ∀ (l : List (List Char)) (n : Nat), n < l.length → l.length - n ≤ f →
        ∃ x xs, l.drop n = x :: xs ∧ goIndex l n = some x ∧ goSlice l n l.length = some (x :: xs) ∧
          ((toBig x).isSome = false → cmpPkGo f (x :: xs) [['#']] = some (pkExt (x :: xs)) ∧
            cmpPkGo f [['#']] (x :: xs) = some (pkExt (x :: xs)).swap) := by
      intro l n hn hl
      cases hd : l.drop n with
      | nil => have := congrArg List.length hd; simp at this; omega
      | cons x xs =>
        have hlen : xs.length + 1 = l.length - n := by simpa using (congrArg List.length hd).symm
        refine ⟨x, xs, rfl, goIndex_drop l n x xs hd, by rw [goSlice_drop l n (by omega), hd], fun hx => ?_⟩
        rw [cmpPkGo_eq f (x :: xs) [['#']] (by simp only [List.length_cons, List.length_nil]; omega),
          cmpPkGo_eq f [['#']] (x :: xs) (by simp only [List.length_cons, List.length_nil]; omega),
          cmpPkS_isSym.swap (x :: xs) [['#']], cmpPkS_hash_right x xs hx]
        exact ⟨rfl, rfl⟩
    simp only [cmpPkGo]
    rw [lexLoop_zip pkElem a b _ 0 (by simp), cmpPkS_zip]
    simp only [List.drop_zero, Option.bind_some]
    cases hc : cmpZip pkElem a b with
    | lt => simp [Ordering.then]
    | gt => simp [Ordering.then]
    | eq =>
      simp only [eqThen, ne_eq, not_true_eq_false, if_false]
      by_cases h1 : b.length < a.length
      · obtain ⟨x, xs, hd, hi, hs, hr⟩ := ext a b.length h1 (by omega)
        simp only [h1, if_true, hi, hs, hd, Option.bind_some, pkExt]
        cases hx : (toBig x).isSome with
        | true => simp
        | false => simpa [hx, pkExt] using (hr hx).1
      · by_cases h2 : a.length < b.length
        · obtain ⟨y, ys, hd, hi, hs, hr⟩ := ext b a.length h2 (by omega)
          simp only [h1, h2, if_true, if_false, hi, hs, hd, Option.bind_some, pkExt]
          cases hy : (toBig y).isSome with
          | true => simp [Ordering.swap]
          | false => simpa [hy, pkExt] using (hr hy).2
        · simp [h1, h2]

@[simp] theorem packagistFam_parse (s : List Char) : packagistFam.parse s = .ok (parsePk s) := rfl
@[simp] theorem packagistFam_cmp (v w : List (List Char)) : packagistFam.cmp v w = .ord (cmpPkS v w) := by
  simp [packagistFam, cmpPkGoTop, cmpPkGo_eq (v.length + w.length + 2) v w (by omega), CRes.ofGo]

theorem packagist_laws : FamLaws packagistFam (fun _ => True) cmpPkS :=
  .of_isSym (fun s => by simp) packagistFam_cmp cmpPkS_isSym

/-! ## transitivity without `#` components -/

/-- (class, value): qualifiers by doubled weight, the end of the list at 7, numbers at 8 -/
def pkKey (x : List Char) : Nat × Int :=
  match toBig x with
  | some n => (8, n)
  | none => (2 * weighPk x, 0)

def pkEnd : Nat × Int := (7, 0)

def pkKeyCmp : Nat × Int → Nat × Int → Ordering := thenCmp (cmpOn (·.1) ncmp) (cmpOn (·.2) icmp)

theorem pkKeyCmp_isCmp : IsCmp pkKeyCmp := thenCmp_isCmp (cmpOn_isCmp _ ncmp_isCmp) (cmpOn_isCmp _ icmp_isCmp)

theorem pkKeyCmp_mk (a b : Nat) (x y : Int) : pkKeyCmp (a, x) (b, y) = (ncmp a b).then (icmp x y) := rfl

def noHashC (x : List Char) : Prop := hasPrefix ['#'] x = false

/-- weight 4 is the weight of the `#` prefix only -/
theorem weighPk_ne_four (x : List Char) (h : noHashC x) : weighPk x ≠ 4 := by
  unfold noHashC at h
  unfold weighPk
  simp only [h, Bool.false_eq_true, if_false]
  repeat' apply ite_ne
  all_goals decide

theorem weighPk_hash : weighPk ['#'] = 4 := by decide

/-- a qualifier (doubled weight, not the weight 4 of `#`) against the end of the list (7) or a
number (8) compares like its weight against 4, and never equal -/
theorem key_vs_hash (x : List Char) (hx : noHashC x) (k : Nat) (hk : k = 7 ∨ k = 8) :
    ncmp (2 * weighPk x) k = cmpSpecial x ['#'] ∧ ncmp k (2 * weighPk x) = cmpSpecial ['#'] x ∧
      cmpSpecial x ['#'] ≠ .eq ∧ cmpSpecial ['#'] x ≠ .eq := by
  have h4 := weighPk_ne_four x hx
  simp only [cmpSpecial, weighPk_hash]
  rcases Nat.lt_or_gt_of_ne h4 with h | h
  · rw [ncmp_lt.mpr h, ncmp_gt.mpr h, ncmp_lt.mpr (by omega), ncmp_gt.mpr (by omega)]; simp
  · rw [ncmp_gt.mpr h, ncmp_lt.mpr h, ncmp_gt.mpr (by omega), ncmp_lt.mpr (by omega)]; simp

theorem pkElem_key (x y : List Char) (hx : noHashC x) (hy : noHashC y) : pkElem x y = pkKeyCmp (pkKey x) (pkKey y) := by
  unfold pkElem pkKey
  cases tx : toBig x <;> cases ty : toBig y <;> simp only [pkKeyCmp_mk]
  · rw [ncmp_mono (2 * ·) (fun _ _ h => by omega), icmp_isCmp.refl, Ordering.then_eq]; rfl
  · obtain ⟨e, _, ne, _⟩ := key_vs_hash x hx 8 (.inr rfl)
    rw [e, then_eq_left _ ne]
  · obtain ⟨_, e, _, ne⟩ := key_vs_hash y hy 8 (.inr rfl)
    rw [e, then_eq_left _ ne]
  · rw [ncmp_isCmp.refl]; rfl

theorem pkExt_key : ∀ (xs : List (List Char)), (∀ x ∈ xs, noHashC x) →
    pkExt xs = cmpPadR pkKeyCmp pkEnd (xs.map pkKey)
  | [], _ => rfl
  | x :: xs, h => by
    simp only [pkExt, List.map, cmpPadR, ← pkExt_key xs fun z hz => h z (by simp [hz])]
    unfold pkKey pkEnd
    cases tx : toBig x with
    | some p => simp only [Option.isSome, if_true, pkKeyCmp_mk, ncmp_gt.mpr (by omega : 7 < 8)]; rfl
    | none =>
      obtain ⟨e, _, ne, _⟩ := key_vs_hash x (h x (by simp)) 7 (.inl rfl)
      simp only [Option.isSome, Bool.false_eq_true, if_false, pkKeyCmp_mk, e, then_eq_left _ ne]

theorem cmpPkS_key : ∀ (a b : List (List Char)), (∀ x ∈ a, noHashC x) → (∀ x ∈ b, noHashC x) →
    cmpPkS a b = cmpPad pkKeyCmp pkEnd (a.map pkKey) (b.map pkKey) := by
  intro a; induction a with
  | nil =>
    intro b _ hb
    simp only [cmpPkS, List.map]
    rw [pkExt_key b hb, ← cmpPad_nil_right, cmpPad_swap pkEnd pkKeyCmp_isCmp.toSym _ (b.map pkKey) [] (Nat.le_refl _)]
  | cons x xs ih =>
    intro b ha hb
    cases b with
    | nil => rw [cmpPkS_nil_right, pkExt_key _ ha]; simp only [List.map, cmpPad_nil_right]
    | cons y ys =>
      simp only [cmpPkS, List.map, cmpPad]
      rw [pkElem_key x y (ha x (by simp)) (hb y (by simp)), ih ys (fun z hz => ha z (by simp [hz])) (fun z hz => hb z (by simp [hz]))]

/-- the domain of the transitivity theorem -/
def pkNoHashP (v : List (List Char)) : Prop := pkNoHash v = true

theorem pkNoHashP_iff (v : List (List Char)) (h : pkNoHashP v) : ∀ x ∈ v, noHashC x := by
  intro x hx
  have := List.all_eq_true.mp h x hx
  simpa [noHashC] using this

theorem cmpPkS_isCmpOn : IsCmpOn pkNoHashP cmpPkS :=
  IsCmpOn.of_eq (cmpOn_isCmp (fun v : List (List Char) => v.map pkKey) (cmpPad_isCmp pkEnd pkKeyCmp_isCmp))
    (fun a b ha hb => cmpPkS_key a b (pkNoHashP_iff a ha) (pkNoHashP_iff b hb))

end Scalibr.Semantic
