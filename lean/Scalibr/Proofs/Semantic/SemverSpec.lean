/-
C07 — agreement of the semver-like comparison with semver.org §11 on canonically rendered
versions (after the repair 6209aa57 an identifier is numeric only when it consists of ASCII digits,
so `-5` is alphanumeric as semver.org says).
-/
import Scalibr.Proofs.Semantic.Simple
import Scalibr.Proofs.Semantic.Render
namespace Scalibr.Semantic

/-! ## the tokeniser on dotted numbers followed by a tail -/

/-- once the build string has begun, or while digits come, a character is only appended -/
theorem step_run : ∀ (r : List Char) (st : SLState), st.found = true ∨ r.all isDigit = true →
    r.foldl semverStep st = { st with cur := st.cur ++ r }
  | [], st, _ => by simp
  | c :: cs, st, h => by
    have : semverStep st c = { st with cur := st.cur ++ [c] } := by
      rcases h with h | h
      · simp [semverStep, h]
      · simp [semverStep, (Bool.and_eq_true_iff.mp (List.all_cons ▸ h)).1]
    rw [List.foldl_cons, this,
      step_run cs { st with cur := st.cur ++ [c] } (h.imp id fun h => (Bool.and_eq_true_iff.mp (List.all_cons ▸ h)).2)]
    simp

/-- the last step of `parseSemverLike` -/
def slFinish (st : SLState) : SemV :=
  if !st.found && !st.cur.isEmpty then ⟨st.comps ++ [(digitsToNat st.cur : Int)], []⟩ else ⟨st.comps, st.cur⟩

/-- with the digits of `n` pending, the remaining dotted numbers and the tail are read as written -/
theorem fold_nums {tail : List Char} (ht : NoNum tail) : ∀ (ms : List Nat) (n : Nat) (cs : List Int),
    slFinish ((dotted ms ++ tail).foldl semverStep ⟨cs, D n, false⟩) = ⟨cs ++ castNums (n :: ms), tail⟩
  | [], n, cs => by
    rcases ht with rfl | ⟨c, r, rfl, hd, hp⟩
    · simp [dotted, slFinish, isEmpty_D, D_val, castNums]
    · have : semverStep ⟨cs, D n, false⟩ c = ⟨cs ++ [(n : Int)], [c], true⟩ := by
        simp [semverStep, hd, hp, isEmpty_D, D_val]
      simp [dotted, this, step_run r ⟨cs ++ [(n : Int)], [c], true⟩ (.inl rfl), slFinish, castNums]
  | m :: ms, n, cs => by
    have : semverStep ⟨cs, D n, false⟩ '.' = ⟨cs ++ [(n : Int)], [], false⟩ := by
      simp [semverStep, isDigit, isEmpty_D, D_val]
    rw [dotted, List.cons_append, List.foldl_cons, this, List.append_assoc, List.foldl_append,
      step_run (D m) ⟨_, [], false⟩ (.inr (D_all m))]
    simpa [castNums] using fold_nums ht ms m (cs ++ [(n : Int)])

theorem stripV_D (n : Nat) (rest : List Char) : stripV (D n ++ rest) = D n ++ rest := by
  obtain ⟨c, cs, h, hc⟩ := D_cons n
  rw [h, List.cons_append, stripV]
  exact fun _ e => ne_of_class (d := 'v') hc (by decide) (List.cons.inj e).1

theorem parseLike_nums (n : Nat) (ms : List Nat) {tail : List Char} (ht : NoNum tail) :
    parseSemverLike (D n ++ (dotted ms ++ tail)) = ⟨castNums (n :: ms), tail⟩ := by
  show slFinish ((stripV _).foldl semverStep ⟨[], [], false⟩) = _
  rw [stripV_D, List.foldl_append, step_run (D n) _ (.inr (D_all n))]
  simpa using fold_nums ht ms n []

/-! ## semver.org versions -/

def preStr (p : List Ident) : List Char := if p.isEmpty then [] else '-' :: renderPre p

/-- what follows the three numbers -/
def buildStr (x : SemVer) : List Char := preStr x.pre ++ (if x.build.isEmpty then [] else '+' :: x.build)

theorem buildStr_noNum (x : SemVer) : NoNum (buildStr x) := noNum_tail x.pre.isEmpty x.build.isEmpty _ _

theorem parse_render (x : SemVer) :
    parseSemver 3 x.render = ⟨castNums [x.major, x.minor, x.patch], buildStr x⟩ := by
  have e : x.render = D x.major ++ (dotted [x.minor, x.patch] ++ buildStr x) := by
    simp [SemVer.render, dotted, buildStr, preStr]
  rw [parseSemver, e, parseLike_nums _ _ (buildStr_noNum x)]; rfl

/-! ## the pre-release part -/

theorem SemVer.wf_pre {x : SemVer} (h : x.wf = true) : ∀ i ∈ x.pre, i.wf = true :=
  List.all_eq_true.mp (Bool.and_eq_true_iff.mp h).1

theorem identChar_ne (c : Char) (h : identChar c = true) : c ≠ '+' ∧ c ≠ '.' :=
  ⟨ne_of_class h (by decide), ne_of_class h (by decide)⟩

theorem digit_identChar (c : Char) (h : isDigit c = true) : identChar c = true := by simp [identChar, h]

theorem render_chars (i : Ident) (hw : i.wf = true) : ∀ c ∈ i.render, identChar c = true := by
  cases i with
  | num n => exact fun c hc => digit_identChar c (D_digits n c hc)
  | alnum s =>
    simp only [Ident.wf, Bool.and_eq_true] at hw
    exact List.all_eq_true.mp hw.1.2

theorem render_ne (i : Ident) (hw : i.wf = true) : i.render ≠ [] := by
  cases i with
  | num n => exact D_ne n
  | alnum s =>
    simp only [Ident.wf, Bool.and_eq_true] at hw
    exact fun e => by rw [Ident.render] at e; simp [e] at hw

theorem renderPre_eq (p : List Ident) : renderPre p = dotJoin (p.map Ident.render) :=
  eq_dotJoin Ident.render renderPre rfl (fun _ => rfl) (fun _ _ _ => rfl) p

theorem renderPre_chars (p : List Ident) (hw : ∀ i ∈ p, i.wf = true) : ∀ c ∈ renderPre p, c ≠ '+' := by
  rw [renderPre_eq]
  exact forall_mem_dotJoin (by decide) (by simpa using fun i hi c hc => (identChar_ne c (render_chars i (hw i hi) c hc)).1)

theorem splitOn_renderPre (p : List Ident) (hne : p ≠ []) (hw : ∀ i ∈ p, i.wf = true) :
    splitOn '.' (renderPre p) = p.map Ident.render := by
  rw [renderPre_eq]
  exact splitOn_dotJoin _ (by simpa using hne) (by simpa using fun i hi c hc => (identChar_ne c (render_chars i (hw i hi) c hc)).2)

theorem renderPre_isEmpty : ∀ (p : List Ident), (∀ i ∈ p, i.wf = true) → (renderPre p).isEmpty = p.isEmpty
  | [], _ => rfl
  | i :: r, hw => by rw [renderPre_eq]; exact dotJoin_isEmpty _ (render_ne i (hw i (by simp)))

theorem preStr_chars (p : List Ident) (hw : ∀ i ∈ p, i.wf = true) : ∀ c ∈ preStr p, c ≠ '+' := by
  intro c hc
  rw [preStr] at hc
  split at hc
  · cases hc
  · rcases List.mem_cons.mp hc with rfl | hc
    · decide
    · exact renderPre_chars p hw c hc

theorem buildCore_buildStr (x : SemVer) (hw : x.wf = true) : buildCore (buildStr x) = renderPre x.pre := by
  have hP := preStr_chars x.pre (SemVer.wf_pre hw)
  have : (splitOn '+' (buildStr x)).headD [] = preStr x.pre := by
    unfold buildStr
    cases x.build with
    | nil => show (splitOn '+' (_ ++ [])).headD [] = _; rw [List.append_nil, splitOn_no_sep '+' _ hP]; rfl
    | cons b bs => show (splitOn '+' (_ ++ '+' :: b :: bs)).headD [] = _; rw [splitOn_append_sep '+' _ _ hP]; rfl
  rw [buildCore, this, preStr]
  cases x.pre <;> rfl

theorem alnum_not_digits {s : List Char} (hw : (Ident.alnum s).wf = true) : s.all isDigit = false := by
  simp only [Ident.wf, Bool.and_eq_true, Bool.not_eq_true', List.any_eq_true] at hw
  obtain ⟨_, c, hc, hcd⟩ := hw
  exact Bool.eq_false_iff.mpr fun h => by rw [List.all_eq_true.mp h c hc] at hcd; cases hcd

theorem toNumId_alnum (s : List Char) (hw : (Ident.alnum s).wf = true) : toNumId s = none := by
  simp [toNumId, alnum_not_digits hw]

theorem toNumId_D (n : Nat) : toNumId (D n) = some (n : Int) := by
  simp [toNumId, D_all, toBig_D]

theorem identCmp_render (i j : Ident) (hi : i.wf = true) (hj : j.wf = true) :
    identCmp i.render j.render = i.cmp j := by
  unfold identCmp
  cases i with
  | num a =>
    cases j with
    | num b => simp only [Ident.render, toNumId_D, Ident.cmp, icmp_cast]
    | alnum t => simp only [Ident.render, toNumId_D, toNumId_alnum t hj, Ident.cmp]
  | alnum s =>
    cases j with
    | num b => simp only [Ident.render, toNumId_D, toNumId_alnum s hi, Ident.cmp]
    | alnum t => simp only [Ident.render, toNumId_alnum s hi, toNumId_alnum t hj, Ident.cmp]

theorem preCmp_eq : ∀ p q : List Ident, preCmp p q = cmpLex Ident.cmp p q
  | [], [] => rfl
  | [], _ :: _ => rfl
  | _ :: _, [] => rfl
  | i :: p, j :: q => by rw [preCmp, cmpLex, preCmp_eq p q]

theorem cmpBuild_buildStr (x y : SemVer) (hx : x.wf = true) (hy : y.wf = true) :
    cmpBuild (buildStr x) (buildStr y) = preRule x.pre y.pre := by
  have hxw := SemVer.wf_pre hx
  have hyw := SemVer.wf_pre hy
  simp only [cmpBuild, buildCore_buildStr x hx, buildCore_buildStr y hy, renderPre_isEmpty _ hxw, renderPre_isEmpty _ hyw]
  generalize x.pre = p at hxw
  generalize y.pre = q at hyw
  cases p with
  | nil => cases q <;> rfl
  | cons i p =>
    cases q with
    | nil => rfl
    | cons j q =>
      rw [splitOn_renderPre _ (by simp) hxw, splitOn_renderPre _ (by simp) hyw]
      simp only [List.isEmpty_cons, Bool.false_and, Bool.false_eq_true, if_false, Bool.not_false, Bool.and_false, preRule,
        preCmp_eq]
      exact cmpLex_image Ident.render identCmp_render _ _ hxw hyw

/-- semver.org §11 on every canonically rendered version -/
theorem semver_spec (x y : SemVer) (hx : x.wf = true) (hy : y.wf = true) :
    compareStr .semver x.render y.render = .ofOrd (specCmp x y) := by
  show semverFam.compareStr x.render y.render = _
  rw [semver_laws.compare_ok (semverFam_parse _) (semverFam_parse _), parse_render, parse_render]
  simp only [cmpSemver, specCmp, compsCmp_cast, cmpBuild_buildStr x y hx hy, cmpPad, cmpPadL, Ordering.then_eq,
    Ordering.then_assoc]

end Scalibr.Semantic
