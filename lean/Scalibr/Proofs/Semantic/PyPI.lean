/-
C07 — PyPI: the comparison is a lexicographic product of seven keys; `comparePre` indexes
`pre.letter[0]`, which is safe because `parseLetterVersion` never returns a number without a letter.
-/
import Scalibr.Proofs.Semantic.Simple
namespace Scalibr.Semantic

/-- the invariant `parseLetterVersion` establishes for the pre-release segment -/
def PyV.wf (v : PyV) : Prop := v.pre.num.isSome = true → v.pre.letter ≠ []

/-- (phase, first letter, number): the dev-only trick sorts first, "no pre-release" last -/
def preKey (v : PyV) : Nat × Nat × Int :=
  if preTrick v then (0, 0, 0)
  else
    match v.pre.num with
    | none => (2, 0, 0)
    | some x => (1, (v.pre.letter.headD ' ').toNat, x)

def tripleCmp : Nat × Nat × Int → Nat × Nat × Int → Ordering :=
  thenCmp (cmpOn (·.1) ncmp) (thenCmp (cmpOn (·.2.1) ncmp) (cmpOn (·.2.2) icmp))

theorem tripleCmp_isCmp : IsCmp tripleCmp :=
  thenCmp_isCmp (cmpOn_isCmp _ ncmp_isCmp) (thenCmp_isCmp (cmpOn_isCmp _ ncmp_isCmp) (cmpOn_isCmp _ icmp_isCmp))

def cmpPyPreT (v w : PyV) : Ordering := cmpOn preKey tripleCmp v w

theorem cmpPyPreT_isCmp : IsCmp cmpPyPreT := cmpOn_isCmp preKey tripleCmp_isCmp

theorem preKey_cases (v : PyV) (hv : v.wf) :
    (preTrick v = true ∧ preKey v = (0, 0, 0)) ∨
    (preTrick v = false ∧ v.pre.num = none ∧ preKey v = (2, 0, 0)) ∨
    ∃ x a l, preTrick v = false ∧ v.pre.num = some x ∧ v.pre.letter = a :: l ∧ preKey v = (1, a.toNat, x) := by
  unfold preKey
  cases ht : preTrick v with
  | true => exact .inl ⟨rfl, rfl⟩
  | false =>
    right
    cases hn : v.pre.num with
    | none => exact .inl ⟨rfl, rfl, rfl⟩
    | some x =>
      cases hl : v.pre.letter with
      | nil => exact absurd hl (hv (by simp [hn]))
      | cons a l => exact .inr ⟨x, a, l, rfl, rfl, rfl, rfl⟩

theorem tripleCmp_mk (p1 p2 : Nat) (p3 : Int) (q1 q2 : Nat) (q3 : Int) :
    tripleCmp (p1, p2, p3) (q1, q2, q3) = (ncmp p1 q1).then ((ncmp p2 q2).then (icmp p3 q3)) := rfl

theorem ncmp_self (a : Nat) : ncmp a a = .eq := ncmp_isCmp.refl a

/-- `comparePre` never reaches `pre.letter[0]` on an empty letter, and orders by phase, first
letter, number -/
theorem cmpPyPre_eq (v w : PyV) (hv : v.wf) (hw : w.wf) : cmpPyPre v w = .ord (cmpPyPreT v w) := by
  unfold cmpPyPreT cmpOn cmpPyPre
  rcases preKey_cases v hv with ⟨tv, kv⟩ | ⟨tv, nv, kv⟩ | ⟨x, a, l, tv, nv, lv, kv⟩ <;>
    rcases preKey_cases w hw with ⟨tw, kw⟩ | ⟨tw, nw, kw⟩ | ⟨y, b, m, tw, nw, lw, kw⟩ <;>
    rw [kv, kw, tripleCmp_mk]
  case inr.inr.inr.inr =>
    simp only [tv, tw, nv, nw, lv, lw, Bool.false_and, Bool.false_eq_true, if_false, ncmp_self, eqThen, ← ncmp_then,
      apply_ite CRes.ord]
  all_goals simp [*, ncmp, icmp, Ordering.then]

/-- legacy versions sort below PEP 440 versions, among themselves by their joined parts -/
def legKey (v : PyV) : List Char ⊕ Unit := if v.legacy.isEmpty then .inr () else .inl v.legacy.flatten

theorem cmpPyLegacy_eq (v w : PyV) : cmpPyLegacy v w = cmpOn legKey (cmpSum strCmp unitCmp) v w := by
  unfold cmpPyLegacy cmpOn legKey
  cases hv : v.legacy.isEmpty <;> cases hw : w.legacy.isEmpty <;> simp [cmpSum, unitCmp]

theorem cmpPyLegacy_isCmp : IsCmp cmpPyLegacy :=
  (cmpOn_isCmp legKey (cmpSum_isCmp strCmp_isCmp unitCmp_isCmp)).congr cmpPyLegacy_eq

/-- "no segment" below every number / above every number -/
def optLow (o : Option Int) : Unit ⊕ Int := o.elim (.inl ()) .inr
def optHigh (o : Option Int) : Int ⊕ Unit := o.elim (.inr ()) .inl

theorem cmpPyPost_isCmp : IsCmp cmpPyPost :=
  (cmpOn_isCmp (fun v : PyV => optLow v.post.num) (cmpSum_isCmp unitCmp_isCmp icmp_isCmp)).congr (fun v w => by
    simp only [cmpPyPost, cmpOn]
    cases v.post.num <;> cases w.post.num <;> rfl)

theorem cmpPyDev_isCmp : IsCmp cmpPyDev :=
  (cmpOn_isCmp (fun v : PyV => optHigh v.dev.num) (cmpSum_isCmp icmp_isCmp unitCmp_isCmp)).congr (fun v w => by
    simp only [cmpPyDev, cmpOn]
    cases v.dev.num <;> cases w.dev.num <;> rfl)

theorem cmpPyLocal_isCmp : IsCmp cmpPyLocal := cmpLex_isCmp localElem_isCmp

/-- `pypiCompareVersion` as a total function -/
def cmpPyT (v w : PyV) : Ordering :=
  ((cmpPyLegacy v w).then ((icmp v.epoch w.epoch).then (compsCmp v.release w.release))).then
    ((cmpPyPreT v w).then ((cmpPyPost v w).then ((cmpPyDev v w).then (cmpPyLocal v.loc w.loc))))

theorem cmpPyT_isCmp : IsCmp cmpPyT :=
  (thenCmp_isCmp
    (thenCmp_isCmp cmpPyLegacy_isCmp (thenCmp_isCmp (cmpOn_isCmp PyV.epoch icmp_isCmp) (cmpOn_isCmp PyV.release compsCmp_isCmp)))
    (thenCmp_isCmp cmpPyPreT_isCmp (thenCmp_isCmp cmpPyPost_isCmp (thenCmp_isCmp cmpPyDev_isCmp (cmpOn_isCmp PyV.loc cmpPyLocal_isCmp))))).congr
    (fun _ _ => rfl)

theorem cmpPy_eq (v w : PyV) (hv : v.wf) (hw : w.wf) : cmpPy v w = .ord (cmpPyT v w) := by
  unfold cmpPy cmpPyT
  rw [cmpPyPre_eq v w hv hw]
  generalize (cmpPyLegacy v w).then ((icmp v.epoch w.epoch).then (compsCmp v.release w.release)) = o1
  generalize cmpPyPreT v w = o2
  cases o1 <;> cases o2 <;> simp [ordThen, CRes.andThen, Ordering.then]

/-! ## the parser establishes the invariant -/

theorem letterVer_wf (l n : List Char) (ln : LN) (h : letterVer l n = some ln) :
    ln.num.isSome = true → ln.letter ≠ [] := by
  unfold letterVer at h
  by_cases hl : (!l.isEmpty) = true
  · -- a letter was given: it is kept, or replaced by one of four words
    have hne : lowerStr l ≠ [] := by cases l <;> simp [lowerStr] at hl ⊢
    rw [if_pos hl] at h
    dsimp only at h
    generalize (if n.isEmpty = true then ['0'] else n) = m at h
    cases hb : toBig m <;> rw [hb] at h <;> cases h
    exact fun _ => ite_ne (List.cons_ne_nil _ _) (ite_ne (List.cons_ne_nil _ _) (ite_ne (List.cons_ne_nil _ _)
      (ite_ne (List.cons_ne_nil _ _) hne)))
  · rw [if_neg hl] at h
    by_cases hn : (!n.isEmpty) = true
    · rw [if_pos hn] at h
      cases hb : toBig n <;> rw [hb] at h <;> cases h
      exact fun _ => List.cons_ne_nil _ _
    · rw [if_neg hn] at h
      cases h
      exact fun hc => nomatch hc

theorem parsePy_ok (s : List Char) : parsePy s = .err ∨ ∃ v, parsePy s = .ok v ∧ v.wf := by
  unfold parsePy
  dsimp only
  split
  · exact .inr ⟨_, rfl, fun hc => nomatch hc⟩
  · split
    · exact .inl rfl
    · split
      · exact .inl rfl
      · split
        · exact .inl rfl
        · rename_i pre hpre
          split
          · exact .inl rfl
          · split
            · exact .inl rfl
            · exact .inr ⟨_, rfl, letterVer_wf _ _ pre hpre⟩

/-- the projections of the family are brought to `parsePy` and `cmpPy` before anything is compared
with them (left to itself, the unifier unfolds the parser instead) -/
theorem pypi_laws : FamLaws pypiFam PyV.wf cmpPyT := by
  unfold pypiFam
  constructor <;> dsimp only
  · intro s h
    rcases parsePy_ok s with e | ⟨_, e, _⟩ <;> rw [e] at h <;> cases h
  · intro s v h
    rcases parsePy_ok s with e | ⟨w, e, hw⟩ <;> rw [e] at h <;> cases h
    exact hw
  · exact cmpPy_eq
  · exact fun v _ => cmpPyT_isCmp.refl v
  · exact fun v w _ _ => cmpPyT_isCmp.swap v w

theorem pypiFam_parse (s : List Char) : pypiFam.parse s = parsePy s := by
  unfold pypiFam; dsimp only

end Scalibr.Semantic
