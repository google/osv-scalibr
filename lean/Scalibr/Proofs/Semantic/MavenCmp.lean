/-
C07 — Maven, part 2: on well-formed token lists (what `newMavenVersion` produces) `compare` never
fails, is reflexive, and `a ? b` is the exact flip of `b ? a`.
-/
import Scalibr.Proofs.Semantic.MavenTok
namespace Scalibr.Semantic

/-- what holds of the tokens after the first one -/
structure TailOk (a : List MTok) : Prop where
  sep : ∀ u ∈ a, isSepPre u.pre
  canon : ∀ u ∈ a, u.canonVal
  last : ∀ l, a.getLast? = some l → shouldTrim l = false

theorem TailOk.nil : TailOk [] := ⟨by simp, by simp, by simp⟩

theorem TailOk.tail {x : MTok} {as : List MTok} (h : TailOk (x :: as)) : TailOk as := by
  refine ⟨fun u hu => h.sep u (by simp [hu]), fun u hu => h.canon u (by simp [hu]), ?_⟩
  intro l hl
  cases as with
  | nil => simp at hl
  | cons y ys => exact h.last l (by simpa [List.getLast?_cons_cons] using hl)

/-- well-formed version: a first token without prefix, then separator-prefixed tokens -/
def MvnWF (v : List MTok) : Prop := ∃ t rest, v = t :: rest ∧ t.pre = [] ∧ t.canonVal ∧ TailOk rest

theorem MTok.equal_comm (a b : MTok) : a.equal b = b.equal a := by
  unfold MTok.equal
  by_cases h1 : a.pre = b.pre <;> by_cases h2 : a.val = b.val <;> simp [h1, h2, eq_comm]

theorem MTok.equal_refl (a : MTok) : a.equal a = true := by simp [MTok.equal]

/-- the padding token of a separator-prefixed token -/
theorem nullTok_props (t : MTok) (h : isSepPre t.pre) :
    ∃ n, nullTok t = some n ∧ n.pre = t.pre ∧ n.canonVal ∧ (shouldTrim t = false → t.equal n = false) := by
  unfold nullTok
  rcases h with h | h
  · refine ⟨⟨['-'], [], true⟩, by simp [h], by simp [h], ?_, ?_⟩
    · intro n hn; simp [toBig_nil] at hn
    · intro hs
      unfold shouldTrim at hs
      unfold MTok.equal
      simp only [Bool.or_eq_false_iff] at hs
      have : t.val ≠ [] := by
        intro e; rw [e] at hs; simp at hs
      simp [h, this]
  · by_cases hsp : t.val = kSp
    · refine ⟨⟨['.'], [], true⟩, by simp [h, hsp], by simp [h], ?_, ?_⟩
      · intro n hn; simp [toBig_nil] at hn
      · intro _
        unfold MTok.equal
        simp [h, hsp, kSp]
    · refine ⟨⟨['.'], ['0'], true⟩, by simp [h, hsp], by simp [h], ?_, ?_⟩
      · intro n hn
        simp only [toBig_zero, Option.some.injEq] at hn
        subst hn; exact intToChars_zero.symm
      · intro hs
        unfold shouldTrim at hs
        unfold MTok.equal
        simp only [Bool.or_eq_false_iff, decide_eq_false_iff_not] at hs
        simp [h, hs.1.1.1]

theorem getLast?_singleton_of_tail_nil {α} (y : α) : [y].getLast? = some y := rfl

/-- one side exhausted: the longer side decides, consistently in both directions -/
theorem mvnLess_one_sided : ∀ (b : List MTok), TailOk b → b ≠ [] →
    ∃ r, mvnLessL b = some r ∧ mvnLess b [] = some (!r) := by
  intro b; induction b with
  | nil => intro _ h; exact absurd rfl h
  | cons y bs ih =>
    intro hb _
    obtain ⟨n, hn, hpre, hcan, htrim⟩ := nullTok_props y (hb.sep y (by simp))
    simp only [mvnLessL, mvnLess, hn]
    rw [MTok.equal_comm n y]
    cases he : y.equal n with
    | true =>
      simp only [if_true]
      have hbs : bs ≠ [] := by
        intro e; subst e
        have := hb.last y rfl
        rw [htrim this] at he; exact absurd he (by simp)
      obtain ⟨r, h1, h2⟩ := ih hb.tail hbs
      exact ⟨r, h1, h2⟩
    | false =>
      simp only [Bool.false_eq_true, if_false]
      have hne : n.equal y = false := by rw [MTok.equal_comm]; exact he
      exact tokLess_trichotomy n y hne hcan (hb.canon y (by simp)) (Or.inl hpre)

theorem mvnLess_nil_left (b : List MTok) : mvnLess [] b = mvnLessL b := by simp [mvnLess]

/-- one position: equal tokens pass the question on to the rests, different ones decide it -/
theorem mvnLess_cons {x y : MTok} {as bs : List MTok} (hx : x.canonVal) (hy : y.canonVal)
    (hp : x.pre = y.pre ∨ (isSepPre x.pre ∧ isSepPre y.pre))
    (rest : mvnEqual as bs = false → ∃ r, mvnLess as bs = some r ∧ mvnLess bs as = some (!r))
    (hne : mvnEqual (x :: as) (y :: bs) = false) :
    ∃ r, mvnLess (x :: as) (y :: bs) = some r ∧ mvnLess (y :: bs) (x :: as) = some (!r) := by
  simp only [mvnLess]
  rw [MTok.equal_comm y x]
  cases he : x.equal y with
  | true => simpa using rest (by simpa [mvnEqual, he] using hne)
  | false => simpa using tokLess_trichotomy x y he hx hy hp

/-- two different well-formed tails are strictly ordered, consistently in both directions -/
theorem mvnLess_tails : ∀ (a b : List MTok), TailOk a → TailOk b → mvnEqual a b = false →
    ∃ r, mvnLess a b = some r ∧ mvnLess b a = some (!r)
  | [], [], _, _, hne => by simp [mvnEqual] at hne
  | [], y :: bs, _, hb, _ => by
    rw [mvnLess_nil_left]
    exact mvnLess_one_sided (y :: bs) hb (by simp)
  | x :: as, [], ha, _, _ => by
    obtain ⟨r, h1, h2⟩ := mvnLess_one_sided (x :: as) ha (by simp)
    rw [mvnLess_nil_left]
    exact ⟨!r, h2, by simpa using h1⟩
  | x :: as, y :: bs, ha, hb, hne =>
    mvnLess_cons (ha.canon x (by simp)) (hb.canon y (by simp)) (Or.inr ⟨ha.sep x (by simp), hb.sep y (by simp)⟩)
      (mvnLess_tails as bs ha.tail hb.tail) hne

theorem mvnLess_wf (v w : List MTok) (hv : MvnWF v) (hw : MvnWF w) (hne : mvnEqual v w = false) :
    ∃ r, mvnLess v w = some r ∧ mvnLess w v = some (!r) := by
  obtain ⟨t, as, rfl, tp, tc, ta⟩ := hv
  obtain ⟨u, bs, rfl, up, uc, ub⟩ := hw
  exact mvnLess_cons tc uc (Or.inl (tp.trans up.symm)) (mvnLess_tails as bs ta ub) hne

theorem mvnEqual_refl : ∀ v : List MTok, mvnEqual v v = true := by
  intro v; induction v with
  | nil => rfl
  | cons x xs ih => simp [mvnEqual, MTok.equal_refl, ih]

theorem mvnEqual_comm : ∀ v w : List MTok, mvnEqual v w = mvnEqual w v := by
  intro v; induction v with
  | nil => intro w; cases w <;> rfl
  | cons x xs ih =>
    intro w; cases w with
    | nil => rfl
    | cons y ys => simp [mvnEqual, MTok.equal_comm x y, ih ys]

/-- `mavenVersion.compare` as a total function -/
def cmpMvnT (v w : List MTok) : Ordering :=
  if mvnEqual v w then .eq else if mvnLess v w = some true then .lt else .gt

theorem cmpMvn_eq (v w : List MTok) (hv : MvnWF v) (hw : MvnWF w) : cmpMvn v w = .ord (cmpMvnT v w) := by
  unfold cmpMvn cmpMvnT
  cases he : mvnEqual v w with
  | true => simp
  | false =>
    obtain ⟨r, h1, _⟩ := mvnLess_wf v w hv hw he
    cases r <;> simp [h1]

theorem cmpMvnT_refl (v : List MTok) : cmpMvnT v v = .eq := by simp [cmpMvnT, mvnEqual_refl]

theorem cmpMvnT_swap (v w : List MTok) (hv : MvnWF v) (hw : MvnWF w) : cmpMvnT w v = (cmpMvnT v w).swap := by
  unfold cmpMvnT
  rw [mvnEqual_comm w v]
  cases he : mvnEqual v w with
  | true => simp [Ordering.swap]
  | false =>
    obtain ⟨r, h1, h2⟩ := mvnLess_wf v w hv hw he
    cases r <;> simp [h1, h2, Ordering.swap]

end Scalibr.Semantic
