/-
C07 — the model of `version-alpine.go` agrees with the documented Alpine suffix rule
(`Spec/Semantic/Alpine.lean`) on every pair of well-formed versions that differ in their suffixes only.
-/
import Scalibr.Spec.Semantic.Alpine
import Scalibr.Proofs.Semantic.Alpine
import Scalibr.Proofs.Semantic.Fuel
import Scalibr.Proofs.Semantic.Render
namespace Scalibr.Semantic
open ApkSpec

/-! ## the text after the numbers -/

/-- empty, or starting with one of `_`, `~`, `-` -/
def Sep (rest : List Char) : Prop := rest = [] ∨ ∃ c t, rest = c :: t ∧ (c = '_' ∨ c = '~' ∨ c = '-')

theorem Sep.props {rest : List Char} (h : Sep rest) :
    NoNum rest ∧ Stops isDigit rest ∧ alpLetterOf rest = [] ∧ Stops (· = 'r') rest := by
  rcases h with rfl | ⟨c, t, rfl, rfl | rfl | rfl⟩
  · exact ⟨.inl rfl, .inl rfl, rfl, .inl rfl⟩
  all_goals exact ⟨.inr ⟨_, _, rfl, by decide, by decide⟩, .inr ⟨_, _, rfl, by decide⟩, rfl, .inr ⟨_, _, rfl, by decide⟩⟩

theorem sep_rev : ∀ r : Option Nat, Sep (renderRev r)
  | none => .inl rfl
  | some _ => .inr ⟨'-', _, rfl, .inr (.inr rfl)⟩

theorem sep_tail (v : V) : Sep v.tail := by
  unfold V.tail renderHash
  cases v.hash with
  | nil => exact sep_rev _
  | cons _ _ => exact .inr ⟨'~', _, rfl, .inr (.inl rfl)⟩

def sufDigits (s : Suf) : List Char := match s.num with | some n => D n | none => []

theorem sufRender_eq (s : Suf) : s.render = '_' :: (s.kind.name ++ sufDigits s) := by
  unfold Suf.render sufDigits; cases s.num <;> rfl

theorem sep_sufs (ss : List Suf) (tail : List Char) (ht : Sep tail) : Sep (renderSufs ss ++ tail) := by
  cases ss with
  | nil => exact ht
  | cons s rest => exact .inr ⟨'_', (s.kind.name ++ sufDigits s) ++ (renderSufs rest ++ tail), by simp [renderSufs, sufRender_eq], .inl rfl⟩

/-! ## number components -/

def NumsWf (nums : List (List Char)) : Prop := ∀ d ∈ nums, d ≠ [] ∧ d.all isDigit = true

theorem apk_joinDots_eq : ∀ l : List (List Char), ApkSpec.joinDots l = dotJoin l
  | [] => rfl
  | [_] => rfl
  | t :: u :: r => by rw [ApkSpec.joinDots, dotJoin, apk_joinDots_eq (u :: r)]

/-- the expression for the numbers matches exactly the dotted digit runs -/
theorem alpNumPrefix_render {rest : List Char} (hr : NoNum rest) : ∀ (nums : List (List Char)), nums ≠ [] → NumsWf nums →
    ∀ fuel, (dotJoin nums ++ rest).length < fuel → alpNumPrefix fuel (dotJoin nums ++ rest) = dotJoin nums
  | [], h, _, _, _ => absurd rfl h
  | _ :: _, _, _, 0, hf => absurd hf (Nat.not_lt_zero _)
  | [d], _, hw, fuel + 1, _ => by
    obtain ⟨e1, e2⟩ := takeWhile_append_stop isDigit d rest (List.all_eq_true.mp (hw d (by simp)).2) hr.stops
    rw [dotJoin, alpNumPrefix]
    simp only [e1, e2, List.isEmpty_eq_false_iff.mpr (hw d (by simp)).1, Bool.false_eq_true, if_false]
    rcases hr with rfl | ⟨c, t, rfl, _, h2⟩
    · rfl
    · split
      · rename_i r heq; exact absurd (List.cons.inj heq).1 h2
      · rfl
  | d :: u :: more, _, hw, fuel + 1, hf => by
    obtain ⟨e1, e2⟩ := takeWhile_append_stop isDigit d ('.' :: (dotJoin (u :: more) ++ rest))
      (List.all_eq_true.mp (hw d (by simp)).2) (.inr ⟨'.', _, rfl, by decide⟩)
    simp only [dotJoin, List.append_assoc, List.cons_append] at hf ⊢
    rw [alpNumPrefix]
    simp only [e1, e2, List.isEmpty_eq_false_iff.mpr (hw d (by simp)).1, Bool.false_eq_true, if_false]
    rw [alpNumPrefix_render hr (u :: more) (by simp) (fun x hx => hw x (by simp [hx])) fuel (by simp at hf ⊢; omega)]
    simp

theorem alpComps_some : ∀ (nums : List (List Char)), NumsWf nums → ∀ i, ∃ cs, alpComps i nums = some cs
  | [], _, _ => ⟨[], rfl⟩
  | d :: more, hw, i => by
    have hv := toBig_digits_eq (hw d (by simp)).2 (hw d (by simp)).1
    obtain ⟨cs, hcs⟩ := alpComps_some more (fun x hx => hw x (by simp [hx])) (i + 1)
    exact ⟨⟨d, (digitsToNat d : Int), i⟩ :: cs, by simp [alpComps, hv, hcs]⟩

/-- the numeric part is recognised and handed over as SOME component list that depends on the digit
runs only -/
theorem parseAlp_nums (nums : List (List Char)) (hn : nums ≠ []) (hw : NumsWf nums) :
    ∃ cs, ∀ rest, NoNum rest →
      parseAlp (ApkSpec.joinDots nums ++ rest) = parseAlpRest (ApkSpec.joinDots nums ++ rest) cs rest := by
  obtain ⟨cs, hcs⟩ := alpComps_some nums hw 0
  refine ⟨cs, fun rest hr => ?_⟩
  obtain ⟨d, more, rfl⟩ := List.exists_cons_of_ne_nil hn
  have hsplit : splitOn '.' (dotJoin (d :: more)) = d :: more :=
    splitOn_dotJoin _ hn fun t ht c hc => ne_of_class (List.all_eq_true.mp (hw t ht).2 c hc) (by decide)
  rw [apk_joinDots_eq, parseAlp]
  simp only [alpNumPrefix_render hr _ hn hw _ (Nat.lt_succ_self _), dotJoin_isEmpty more (hw d (by simp)).1, Bool.false_eq_true,
    if_false, hsplit, hcs, stripPrefix_append]

/-! ## suffixes -/

/-- what the suffix expression reports for one suffix: whole match, name, digits -/
def sufMatch (s : Suf) : List Char × List Char × List Char :=
  (s.render, s.kind.name, match s.num with | some n => D n | none => [])

theorem sufMatch_eq (s : Suf) : sufMatch s = (s.render, s.kind.name, sufDigits s) := rfl

theorem sufDigits_all (s : Suf) : ∀ x ∈ sufDigits s, isDigit x = true := by
  unfold sufDigits
  cases s.num with
  | none => exact fun _ hx => nomatch hx
  | some n => exact D_digits n

/-- the first name of the expression's alternation that matches is the suffix's own name -/
theorem find_name (k : Kind) (X : List Char) (hX : Stops (· = 'r') X) :
    sufNames.find? (fun n => hasPrefix n (k.name ++ X)) = some k.name := by
  cases k
  case p =>
    rcases hX with rfl | ⟨c, t, rfl, hc⟩
    · decide
    · have hc : c ≠ 'r' := by simpa using hc
      have hr : ('r' == c) = false := by simp only [beq_eq_false_iff_ne, ne_eq]; exact fun e => hc e.symm
      simp [sufNames, List.find?, hasPrefix, Kind.name, List.isPrefixOf, hr]
  all_goals rfl

theorem findSufs_none : ∀ (t : List Char), (∀ c ∈ t, c ≠ '_') → ∀ fuel, findSufs fuel t = []
  | _, _, 0 => rfl
  | [], _, _ + 1 => rfl
  | c :: r, h, f + 1 => by
    rw [findSufs_cons_ne f c r (h c (by simp))]; exact findSufs_none r (fun x hx => h x (by simp [hx])) f

theorem findSufs_render : ∀ (ss : List Suf) (tail : List Char), Sep tail → (∀ c ∈ tail, c ≠ '_') →
    ∀ fuel, (renderSufs ss ++ tail).length < fuel → findSufs fuel (renderSufs ss ++ tail) = ss.map sufMatch
  | [], tail, _, hn, fuel, _ => findSufs_none tail hn fuel
  | _ :: _, _, _, _, 0, hf => absurd hf (Nat.not_lt_zero _)
  | s :: more, tail, ht, hn, f + 1, hf => by
    have hsep := (sep_sufs more tail ht).props
    simp only [renderSufs, sufRender_eq, List.cons_append, List.append_assoc] at hf ⊢
    have hX : Stops (· = 'r') (sufDigits s ++ (renderSufs more ++ tail)) := by
      cases hd : sufDigits s with
      | nil => exact hsep.2.2.2
      | cons x xs => exact .inr ⟨x, _, rfl, by simpa using ne_of_class (sufDigits_all s x (by simp [hd])) (by decide : isDigit 'r' = false)⟩
    obtain ⟨e1, e2⟩ := takeWhile_append_stop isDigit (sufDigits s) (renderSufs more ++ tail) (sufDigits_all s) hsep.2.1
    simp only [findSufs, find_name s.kind _ hX, List.drop_left, e1, List.map_cons, sufMatch_eq, sufRender_eq,
      findSufs_render more tail ht hn f (by simp at hf ⊢; omega)]
    rfl

def convSuf (s : Suf) : ASuf := ⟨sufWeight s.kind.name, (s.value : Int)⟩

theorem toBig_sufDigits (s : Suf) : toBig (if (sufDigits s).isEmpty then ['0'] else sufDigits s) = some (s.value : Int) := by
  unfold sufDigits Suf.value
  cases s.num with
  | none => decide
  | some n => simp only [isEmpty_D, Bool.false_eq_true, if_false, Option.getD_some]; exact toBig_D n

theorem alpSufFold_render : ∀ (ss : List Suf) (tail : List Char) (acc : List ASuf),
    (ss.map sufMatch).foldl alpSufStep (some (renderSufs ss ++ tail, acc)) = some (tail, acc ++ ss.map convSuf)
  | [], tail, acc => by simp [renderSufs]
  | s :: more, tail, acc => by
    have : alpSufStep (some (s.render ++ (renderSufs more ++ tail), acc)) (sufMatch s) = some (renderSufs more ++ tail, acc ++ [convSuf s]) := by
      show alpSufStep _ (s.render, s.kind.name, sufDigits s) = _
      simp only [alpSufStep, toBig_sufDigits, stripPrefix_append, convSuf]
    simp only [List.map_cons, List.foldl_cons, renderSufs, List.append_assoc, this, alpSufFold_render more tail]
    simp

/-! ## hash and revision -/

theorem tail_no_us (v : V) (hh : v.hash.all ApkSpec.isHex = true) : ∀ c ∈ v.tail, c ≠ '_' := by
  have hrev : ∀ x ∈ renderRev v.rev, x ≠ '_' := by
    intro x hx
    cases hr : v.rev with
    | none => rw [hr] at hx; cases hx
    | some n =>
      rw [hr, renderRev, List.mem_cons, List.mem_cons] at hx
      rcases hx with rfl | rfl | hx
      · decide
      · decide
      · exact ne_of_class (D_digits n x hx) (by decide)
  intro c hc
  rw [V.tail, renderHash, List.mem_append] at hc
  rcases hc with hc | hc
  · split at hc
    · cases hc
    · rcases List.mem_cons.mp hc with rfl | hc
      · decide
      · exact ne_of_class (List.all_eq_true.mp hh c hc) (by decide)
  · exact hrev c hc

theorem alpHashOf_tail (v : V) (hh : v.hash.all ApkSpec.isHex = true) : alpHashOf v.tail = renderHash v.hash := by
  unfold V.tail renderHash
  cases hv : v.hash with
  | nil => cases v.rev <;> rfl
  | cons x xs =>
    have hstop : Stops isHexLower (renderRev v.rev) := by
      cases v.rev with
      | none => exact .inl rfl
      | some n => exact .inr ⟨'-', _, rfl, by decide⟩
    obtain ⟨e1, _⟩ := takeWhile_append_stop isHexLower v.hash (renderRev v.rev) (List.all_eq_true.mp hh) hstop
    rw [hv] at e1
    show alpHashOf ('~' :: ((x :: xs) ++ renderRev v.rev)) = _
    simp only [alpHashOf, e1, List.isEmpty_cons, Bool.false_eq_true, if_false]

def revVal (r : Option Nat) : Int := ((r.getD 0 : Nat) : Int)

/-- everything after the number components of a rendered version is read as written -/
theorem parseAlpRest_render (v : V) (hl : ∀ c, v.letter = some c → isLower c = true) (hh : v.hash.all ApkSpec.isHex = true)
    (s : List Char) (cs : List ANum) :
    parseAlpRest s cs (renderLetter v.letter ++ (renderSufs v.sufs ++ v.tail)) =
      .ok ⟨s, false, [], cs, renderLetter v.letter, v.sufs.map convSuf, revVal v.rev⟩ := by
  have hlet : alpLetterOf (renderLetter v.letter ++ (renderSufs v.sufs ++ v.tail)) = renderLetter v.letter := by
    cases hL : v.letter with
    | none => exact (sep_sufs v.sufs v.tail (sep_tail v)).props.2.2.1
    | some c => simp [renderLetter, alpLetterOf, hl c hL]
  have htail : stripPrefix (renderHash v.hash) v.tail = renderRev v.rev := stripPrefix_append _ _
  unfold parseAlpRest
  simp only [hlet, stripPrefix_append]
  rw [findSufs_render v.sufs v.tail (sep_tail v) (tail_no_us v hh) _ (Nat.lt_succ_self _), alpSufFold,
    alpSufFold_render v.sufs v.tail []]
  simp only [List.nil_append, alpHashOf_tail v hh, htail]
  cases v.rev with
  | none => rfl
  | some n =>
    simp only [renderRev, List.isEmpty_cons, Bool.false_eq_true, if_false, (span_all isDigit (D n) (D_digits n)).1, isEmpty_D,
      toBig_D, List.drop_length, revVal, Option.getD_some]

/-! ## the comparison -/

def convSlot : Option Suf → ASuf
  | none => padASuf
  | some s => convSuf s

theorem sufWeight_rank (k : Kind) : sufWeight k.name = k.rank := by cases k <;> decide

theorem slot_agree (x y : Option Suf) : cmpASuf (convSlot x) (convSlot y) = slotCmp x y := by
  have key : ∀ z : Option Suf, (convSlot z).w = (slotKey z).1 ∧ (convSlot z).n = (((slotKey z).2 : Nat) : Int)
    | none => ⟨rfl, rfl⟩
    | some s => ⟨sufWeight_rank s.kind, rfl⟩
  rw [cmpASuf_eq, thenCmp, cmpOn, cmpOn, (key x).1, (key y).1, (key x).2, (key y).2, icmp_cast, slotCmp]

theorem cmpASufs_spec (a b : List Suf) : cmpASufs (a.map convSuf) (b.map convSuf) = sufCmp a b :=
  cmpPad_slots convSlot (Q := fun _ => True) trivial (fun x y _ _ => slot_agree x y) a b (fun _ _ => trivial) fun _ _ => trivial

theorem apk_wf {v : V} (hv : v.wf = true) : v.nums ≠ [] ∧ NumsWf v.nums ∧ (∀ c, v.letter = some c → isLower c = true) ∧
    v.hash.all ApkSpec.isHex = true := by
  simp only [V.wf, Bool.and_eq_true, Bool.not_eq_true', List.all_eq_true] at hv
  obtain ⟨⟨⟨h1, h2⟩, h3⟩, h4⟩ := hv
  refine ⟨List.isEmpty_eq_false_iff.mp h1, fun d hd => ?_, fun c hc => by rw [hc] at h3; exact h3, List.all_eq_true.mpr h4⟩
  exact ⟨List.isEmpty_eq_false_iff.mp (h2 d hd).1, List.all_eq_true.mpr (h2 d hd).2⟩

theorem apk_rest_noNum (v : V) (hl : ∀ c, v.letter = some c → isLower c = true) :
    NoNum (renderLetter v.letter ++ (renderSufs v.sufs ++ v.tail)) := by
  cases hL : v.letter with
  | none => exact (sep_sufs v.sufs v.tail (sep_tail v)).props.1
  | some c => exact .inr ⟨c, _, rfl, lower_not_digit c (hl c hL), ne_of_class (hl c hL) (by decide)⟩

/-- The documented Alpine suffix order, on every pair of well-formed versions that agree on digits,
letter, hash and revision -/
theorem alpine_suffix_spec (a b : V) (ha : a.wf = true) (hb : b.wf = true) (hs : sameBase a b = true) :
    compareStr .alpine (render a) (render b) = .ofOrd (ApkSpec.specCmp a b) := by
  obtain ⟨an, aw, al, ah⟩ := apk_wf ha
  obtain ⟨_, _, bl, bh⟩ := apk_wf hb
  simp only [sameBase, Bool.and_eq_true, decide_eq_true_eq] at hs
  obtain ⟨⟨⟨s1, s2⟩, s3⟩, s4⟩ := hs
  obtain ⟨cs, hcs⟩ := parseAlp_nums a.nums an aw
  have pa : parseAlp (render a) = .ok ⟨render a, false, [], cs, renderLetter a.letter, a.sufs.map convSuf, revVal a.rev⟩ := by
    rw [render, hcs _ (apk_rest_noNum a al)]
    exact parseAlpRest_render a al ah _ cs
  have pb : parseAlp (render b) = .ok ⟨render b, false, [], cs, renderLetter a.letter, b.sufs.map convSuf, revVal a.rev⟩ := by
    rw [render, ← s1, hcs _ (apk_rest_noNum b bl), s2, s4]
    exact parseAlpRest_render b bl bh _ cs
  show alpineFam.compareStr (render a) (render b) = _
  rw [alpine_laws.compare_ok pa pb]
  simp only [cmpAlpT, Bool.false_and, Bool.false_eq_true, if_false, cmpAlpValid, cmpASufs_spec,
    cmpPad_refl padANum cmpANumT_isSym cs, cmpALetters_isCmp.refl, icmp_isCmp.refl, cmpARemainder_isCmp.refl, eqThen,
    Ordering.then_eq, ApkSpec.specCmp]

end Scalibr.Semantic
