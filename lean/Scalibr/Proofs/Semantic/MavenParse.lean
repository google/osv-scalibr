/-
C07 — Maven, part 3: `newMavenVersion` never indexes out of range (and the model's fuel is
enough), and its result is well-formed in the sense of `MvnWF`: the first token has no prefix, all
later ones a separator prefix, numeric values are canonical, and the last token was not trimmable.
-/
import Scalibr.Proofs.Semantic.MavenCmp
namespace Scalibr.Semantic

/-! ## the raw tokens -/

theorem normTok_canon (p piece : List Char) (isLast : Bool) : (⟨p, normTok piece isLast, false⟩ : MTok).canonVal := by
  intro m hm
  simp only at hm ⊢
  unfold normTok at hm ⊢
  simp only at hm ⊢
  split at hm
  · rename_i n hn
    rw [toBig_intToChars] at hm
    injection hm with hm; subst hm
    simp
  · rename_i hn
    rw [hn] at hm; exact absurd hm (by simp)

/-- a token after the first one: separator prefix, canonical value -/
def SepOk (u : MTok) : Prop := isSepPre u.pre ∧ u.canonVal

/-- shape of the tokens of one raw token -/
theorem piecesToToks_shape : ∀ (pieces : List (List Char)) (first : Bool) (pre : List Char), pieces ≠ [] →
    ∃ tok tl, piecesToToks first pre pieces = tok :: tl ∧ tok.pre = (if first then pre else ['-']) ∧ tok.canonVal ∧
      ∀ u ∈ tl, SepOk u
  | [], _, _, h => absurd rfl h
  | [p], first, pre, _ => ⟨_, [], rfl, rfl, normTok_canon _ _ _, by simp⟩
  | p :: q :: rest, first, pre, _ => by
    obtain ⟨tok, tl, h1, h2, h3, h4⟩ := piecesToToks_shape (q :: rest) false pre (by simp)
    refine ⟨⟨if first then pre else ['-'], normTok p false, false⟩, tok :: tl, by simp [piecesToToks, h1], rfl,
      normTok_canon _ _ _, fun u hu => ?_⟩
    rcases List.mem_cons.mp hu with rfl | hu
    · exact ⟨.inl (by simpa using h2), h3⟩
    · exact h4 u hu

theorem cutTransitions_ne_nil : ∀ s : List Char, cutTransitions s ≠ [] := by
  intro s; cases s with
  | nil => simp [cutTransitions]
  | cons c rest =>
    simp only [cutTransitions]
    split
    · simp
    · split
      · simp
      · split <;> simp

theorem fixQuirk_ne_nil : ∀ (l : List (List Char)) (carry : List Char), l ≠ [] → fixQuirk carry l ≠ []
  | [], _, h => absurd rfl h
  | [_], _, _ => by simp [fixQuirk]
  | _ :: _ :: _, _, _ => by
    simp only [fixQuirk]
    repeat' split
    all_goals simp

theorem mvnSplit_shape : ∀ (s cur pre : List Char),
    ∃ x rest, mvnSplit cur pre s = (pre, x) :: rest ∧ ∀ pr ∈ rest, isSepPre pr.1 := by
  intro s; induction s with
  | nil => intro cur pre; exact ⟨cur.reverse, [], rfl, by simp⟩
  | cons c cs ih =>
    intro cur pre
    simp only [mvnSplit]
    split
    · rename_i hc
      obtain ⟨x, rest, h1, h2⟩ := ih [] [c]
      refine ⟨cur.reverse, ([c], x) :: rest, by rw [h1], fun pr hpr => ?_⟩
      rcases List.mem_cons.mp hpr with rfl | hpr
      · simpa [isSepPre] using hc
      · exact h2 pr hpr
    · exact ih (c :: cur) pre

/-- the raw token list: first token without prefix, later ones with a separator prefix, canonical values -/
def RawOk (ts : List MTok) : Prop := ∃ t rest, ts = t :: rest ∧ t.pre = [] ∧ t.canonVal ∧ ∀ u ∈ rest, SepOk u

def groupToks (pr : List Char × List Char) : List MTok := piecesToToks true pr.1 (fixQuirk [] (cutTransitions pr.2))

theorem groupToks_shape (pr : List Char × List Char) :
    ∃ tok tl, groupToks pr = tok :: tl ∧ tok.pre = pr.1 ∧ tok.canonVal ∧ ∀ u ∈ tl, SepOk u := by
  simpa [groupToks] using piecesToToks_shape (fixQuirk [] (cutTransitions pr.2)) true pr.1 (fixQuirk_ne_nil _ _ (cutTransitions_ne_nil _))

theorem rawToks_ok (s : List Char) : RawOk (rawToks s) := by
  obtain ⟨x, rest, h1, h2⟩ := mvnSplit_shape s [] []
  have e : rawToks s = groupToks ([], x) ++ rest.flatMap groupToks := by
    unfold rawToks
    rw [h1]
    rfl
  obtain ⟨tok, tl, g1, g2, g3, g4⟩ := groupToks_shape ([], x)
  refine ⟨tok, tl ++ rest.flatMap groupToks, by rw [e, g1]; rfl, g2, g3, fun u hu => ?_⟩
  rcases List.mem_append.mp hu with hu | hu
  · exact g4 u hu
  · obtain ⟨pr, hpr, hu⟩ := List.mem_flatMap.mp hu
    obtain ⟨tok', tl', k1, k2, k3, k4⟩ := groupToks_shape pr
    rw [k1] at hu
    rcases List.mem_cons.mp hu with rfl | hu
    · exact ⟨k2 ▸ h2 pr hpr, k3⟩
    · exact k4 u hu

/-! ## the trailing-trim loop -/

theorem RawOk.erase {ts : List MTok} (h : RawOk ts) (k : Nat) (hk : 0 < k) : RawOk (ts.eraseIdx k) := by
  obtain ⟨t, rest, rfl, h1, h2, h3⟩ := h
  cases k with
  | zero => omega
  | succ k => exact ⟨t, rest.eraseIdx k, rfl, h1, h2, fun u hu => h3 u (List.mem_of_mem_eraseIdx hu)⟩

/-- the inner loop neither indexes out of range nor runs out of fuel, and ends properly: below the
first token, or on a token with prefix "-" -/
theorem walkDown_ok (ts : List MTok) : ∀ (f : Nat) (j : Int), j ≤ (ts.length : Int) - 1 → -1 ≤ j → j + 1 < f →
    ∃ j', walkDown ts f j = some j' ∧ j' ≤ j ∧ (j' < 0 ∨ ∃ t, ts[j'.toNat]? = some t ∧ t.pre = ['-']) := by
  intro f; induction f with
  | zero => intro j _ h1 h2; omega
  | succ f ih =>
    intro j hj hlo hf
    simp only [walkDown]
    by_cases h0 : j ≥ 0
    · simp only [h0, if_true]
      have hlt : j.toNat < ts.length := by omega
      rw [List.getElem?_eq_getElem hlt]
      simp only
      split
      · obtain ⟨j', e1, e2, e3⟩ := ih (j - 1) (by omega) (by omega) (by omega)
        exact ⟨j', e1, by omega, e3⟩
      · rename_i hpre
        refine ⟨j, rfl, Int.le_refl _, Or.inr ⟨ts[j.toNat], List.getElem?_eq_getElem hlt, ?_⟩⟩
        simpa using hpre
    · simp only [h0, if_false]
      exact ⟨j, rfl, Int.le_refl _, Or.inl (by omega)⟩

/-- the last token is not trimmable unless the list is a single token -/
def LastOk (ts : List MTok) : Prop := 2 ≤ ts.length → ∀ l, ts.getLast? = some l → shouldTrim l = false

theorem getLast?_eraseIdx_of_lt (ts : List MTok) (k : Nat) (hk : k + 1 < ts.length) :
    (ts.eraseIdx k).getLast? = ts.getLast? := by
  rw [List.getLast?_eq_getElem?, List.getLast?_eq_getElem?, List.getElem?_eraseIdx]
  have hl : (ts.eraseIdx k).length = ts.length - 1 := by
    rw [List.length_eraseIdx]; simp; omega
  rw [hl]
  have : ¬ (ts.length - 1 - 1 < k) := by omega
  simp only [this, if_false]
  congr 1; omega

/-- the loop: no failure, the shape is kept, and the result's last token is not trimmable -/
theorem trimLoop_ok : ∀ (fuel : Nat) (ts : List MTok) (i : Int), RawOk ts → i ≤ (ts.length : Int) - 1 → i < fuel → 0 < fuel →
    (i < (ts.length : Int) - 1 → ∀ l, ts.getLast? = some l → shouldTrim l = false) →
    ∃ out, trimLoop fuel ts i = some out ∧ RawOk out ∧ LastOk out := by
  intro fuel; induction fuel with
  | zero =>
    intro ts i hr hi hf hp hl
    omega
  | succ fuel ih =>
    intro ts i hr hi hf _ hl
    simp only [trimLoop]
    by_cases h0 : i ≤ 0
    · simp only [h0, if_true]
      refine ⟨ts, rfl, hr, ?_⟩
      intro h2 l hlast
      exact hl (by omega) l hlast
    · simp only [h0, if_false]
      have hlt : i.toNat < ts.length := by omega
      rw [List.getElem?_eq_getElem hlt]
      simp only
      split
      · -- trim this token
        have hlen : ((ts.eraseIdx i.toNat).length : Int) = ts.length - 1 := by
          rw [List.length_eraseIdx]; simp [hlt]; omega
        apply ih (ts.eraseIdx i.toNat) (i - 1) (hr.erase i.toNat (by omega)) (by omega) (by omega) (by omega)
        intro hlt' l hlast
        rw [getLast?_eraseIdx_of_lt ts i.toNat (by omega)] at hlast
        exact hl (by omega) l hlast
      · rename_i hnt
        obtain ⟨j, e1, e2, _⟩ := walkDown_ok ts (ts.length + 2) i hi (by omega) (by omega)
        rw [e1]
        simp only
        apply ih ts (j - 1) hr (by omega) (by omega) (by omega)
        intro _ l hlast
        by_cases hil : i < (ts.length : Int) - 1
        · exact hl hil l hlast
        · have hi' : i.toNat = ts.length - 1 := by omega
          rw [List.getLast?_eq_getElem?, ← hi', List.getElem?_eq_getElem hlt] at hlast
          injection hlast with hlast
          subst hlast
          simpa using hnt

theorem RawOk.length_pos {ts : List MTok} (h : RawOk ts) : 0 < ts.length := by
  obtain ⟨t, rest, rfl, _⟩ := h; simp

theorem parseMvn_ok (s : List Char) : ∃ v, parseMvn s = .ok v ∧ MvnWF v := by
  have hr := rawToks_ok s
  have hpos := hr.length_pos
  obtain ⟨out, h1, h2, h3⟩ := trimLoop_ok ((rawToks s).length + 2) (rawToks s) (((rawToks s).length : Int) - 1) hr
    (Int.le_refl _) (by omega) (by omega) (by intro h; omega)
  refine ⟨out, by simp [parseMvn, h1], ?_⟩
  obtain ⟨t, rest, rfl, p1, p2, p3⟩ := h2
  refine ⟨t, rest, rfl, p1, p2, ⟨fun u hu => (p3 u hu).1, fun u hu => (p3 u hu).2, ?_⟩⟩
  intro l hl
  cases rest with
  | nil => simp at hl
  | cons y ys =>
    apply h3 (by simp) l
    simpa [List.getLast?_cons_cons] using hl

theorem maven_laws : FamLaws mavenFam MvnWF cmpMvnT where
  parse_nopanic := fun s => by
    obtain ⟨v, h, _⟩ := parseMvn_ok s
    show parseMvn s ≠ .panic
    rw [h]; simp
  parse_wf := fun s v h => by
    obtain ⟨v', h', wf⟩ := parseMvn_ok s
    have : parseMvn s = .ok v := h
    rw [h'] at this
    injection this with this
    subst this; exact wf
  cmp_eq := cmpMvn_eq
  refl := fun v _ => cmpMvnT_refl v
  swap := fun v w hv hw => cmpMvnT_swap v w hv hw

end Scalibr.Semantic
