/-
C07 — canonical texts read back. The agreement proofs all show that a parser reads the rendered
form of a structured version as it was written; the pieces of that argument which do not depend on
the ecosystem are here: a run of digits ends where the following text stops it, what may follow
dotted numbers, the characters of a dotted join, optional parts at a separator.
-/
import Scalibr.Proofs.Semantic.Decimal
namespace Scalibr.Semantic

/-! ## runs -/

/-- a non-empty run of letters, in the words the specifications use for it -/
theorem letters_cons {s : List Char} (h : (!s.isEmpty && s.all isLetter) = true) :
    ∃ c cs, s = c :: cs ∧ ∀ x ∈ c :: cs, isLetter x = true := by
  cases s with
  | nil => simp at h
  | cons c cs => exact ⟨c, cs, rfl, List.all_eq_true.mp (Bool.and_eq_true_iff.mp h).2⟩

theorem span_all {α} (p : α → Bool) (l : List α) (hl : ∀ x ∈ l, p x = true) :
    l.takeWhile p = l ∧ l.dropWhile p = [] := by
  simpa using takeWhile_append_stop p l [] hl (.inl rfl)

theorem span_map {α β} (f : α → β) (p : β → Bool) (q : α → Bool) : ∀ l : List α, (∀ x ∈ l, p (f x) = q x) →
    (l.map f).takeWhile p = (l.takeWhile q).map f ∧ (l.map f).dropWhile p = (l.dropWhile q).map f
  | [], _ => ⟨rfl, rfl⟩
  | x :: l, h => by
    have ih := span_map f p q l fun y hy => h y (by simp [hy])
    cases hq : q x <;> simp [List.takeWhile, List.dropWhile, h x (by simp), hq, ih.1, ih.2]

theorem span_D (n : Nat) {rest : List Char} (h : Stops isDigit rest) :
    (D n ++ rest).takeWhile isDigit = D n ∧ (D n ++ rest).dropWhile isDigit = rest :=
  takeWhile_append_stop isDigit (D n) rest (D_digits n) h

/-- empty, or starting with a character that is neither a digit nor a dot: what may follow dotted numbers -/
def NoNum (rest : List Char) : Prop := rest = [] ∨ ∃ c t, rest = c :: t ∧ isDigit c = false ∧ c ≠ '.'

theorem NoNum.stops {rest : List Char} : NoNum rest → Stops isDigit rest
  | .inl e => .inl e
  | .inr ⟨c, t, e, h, _⟩ => .inr ⟨c, t, e, h⟩

/-- an optional `-…` followed by an optional `+…` (pre-release and build metadata behind the numbers) -/
theorem noNum_tail (p b : Bool) (X Y : List Char) :
    NoNum ((if p = true then [] else '-' :: X) ++ if b = true then [] else '+' :: Y) := by
  cases p
  · exact .inr ⟨'-', _, rfl, by decide, by decide⟩
  · cases b
    · exact .inr ⟨'+', _, rfl, by decide, by decide⟩
    · exact .inl rfl

/-- the four published readers of a plain number are this function -/
theorem readNum_D (f : List Char → Option Nat)
    (hf : ∀ s, f s = if s.isEmpty || !s.all isDigit then none else some (digitsToNat s)) (n : Nat) : f (D n) = some n := by
  rw [hf]; simp [isEmpty_D, D_all, D_val]

/-! ## dotted joins -/

theorem dotJoin_isEmpty {t : List Char} (ts : List (List Char)) (h : t ≠ []) : (dotJoin (t :: ts)).isEmpty = false := by
  rw [dotJoin_cons]; cases t with
  | nil => exact absurd rfl h
  | cons _ _ => rfl

theorem map_dotJoin (f : Char → Char) (hf : f '.' = '.') :
    ∀ ts : List (List Char), (dotJoin ts).map f = dotJoin (ts.map (List.map f))
  | [] => rfl
  | [_] => rfl
  | t :: u :: r => by simp only [dotJoin, List.map_append, List.map_cons, hf, map_dotJoin f hf (u :: r)]

/-! ## optional parts at a separator -/

/-- an optional `sep tail` behind a text without the separator (`-pre`, `+build`) -/
theorem cutAt_optTail (sep : Char) (P b : List Char) (hP : ∀ c ∈ P, c ≠ sep) :
    cutAt sep (P ++ if b.isEmpty then [] else sep :: b) = if b.isEmpty then none else some (P, b) := by
  cases b with
  | nil => simpa using cutAt_none sep P hP
  | cons x xs => simpa using cutAt_append_sep sep P (x :: xs) hP

/-- the optional `epoch:` in front of a body without a colon (Debian, Red Hat) -/
theorem cutAt_epoch (e : Nat) (body : List Char) (h : ∀ c ∈ body, c ≠ ':') :
    cutAt ':' ((if e = 0 then [] else D e ++ [':']) ++ body) = if e = 0 then none else some (D e, body) := by
  by_cases he : e = 0
  · simpa [he] using cutAt_none ':' body h
  · simpa [he] using cutAt_append_sep ':' (D e) body (D_no e ':' (by decide))

/-! ## positions -/

/-- the specifications compare padded lists position by position, `none` standing for a missing position; the
implementation pads its own values `g (some x)` with `g none` -/
theorem cmpPad_slots {α β} (g : Option β → α) {c : α → α → Ordering} {c' : Option β → Option β → Ordering}
    {Q : Option β → Prop} (hn : Q none) (h : ∀ x y, Q x → Q y → c (g x) (g y) = c' x y) (a b : List β)
    (ha : ∀ x ∈ a, Q (some x)) (hb : ∀ x ∈ b, Q (some x)) :
    cmpPad c (g none) (a.map fun x => g (some x)) (b.map fun x => g (some x)) = cmpPad c' none (a.map some) (b.map some) := by
  have e : ∀ l : List β, (l.map fun x => g (some x)) = (l.map some).map g := fun l => by rw [List.map_map]; rfl
  rw [e a, e b]
  exact cmpPad_image g none hn h _ _ (by simpa using ha) (by simpa using hb)

end Scalibr.Semantic
