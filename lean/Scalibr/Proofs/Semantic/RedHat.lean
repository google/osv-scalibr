/-
C07 — Red Hat. The rpmvercmp-like loop equals the padded lexicographic comparison of the two
strings' own token lists, tokens being `~`, `^`, a letter run or a digit run (leading zeros
stripped), ordered  ~  <  end of string  <  ^  <  letters  <  digits.
-/
import Scalibr.Proofs.Semantic.GoShape
import Scalibr.Proofs.Semantic.Text
namespace Scalibr.Semantic

inductive RTok
  | tilde
  | fin
  | caret
  | alpha (s : List Char)
  | num (s : List Char)
deriving Repr

/-- (class, length for digit runs, text) -/
def rkey : RTok → Nat × Nat × List Char
  | .tilde => (0, 0, [])
  | .fin => (1, 0, [])
  | .caret => (2, 0, [])
  | .alpha s => (3, 0, s)
  | .num s => (4, s.length, s)

def rkeyCmp : Nat × Nat × List Char → Nat × Nat × List Char → Ordering :=
  thenCmp (cmpOn (·.1) ncmp) (thenCmp (cmpOn (·.2.1) ncmp) (cmpOn (·.2.2) strCmp))

theorem rkeyCmp_isCmp : IsCmp rkeyCmp :=
  thenCmp_isCmp (cmpOn_isCmp _ ncmp_isCmp) (thenCmp_isCmp (cmpOn_isCmp _ ncmp_isCmp) (cmpOn_isCmp _ strCmp_isCmp))

def rtokCmp (a b : RTok) : Ordering := rkeyCmp (rkey a) (rkey b)

theorem rtokCmp_isCmp : IsCmp rtokCmp := cmpOn_isCmp rkey rkeyCmp_isCmp

theorem rkeyCmp_mk (a1 a2 : Nat) (a3 : List Char) (b1 b2 : Nat) (b3 : List Char) :
    rkeyCmp (a1, a2, a3) (b1, b2, b3) = (ncmp a1 b1).then ((ncmp a2 b2).then (strCmp a3 b3)) := rfl

/-- first token of a string from which the junk has been trimmed, and the rest -/
def rhHead (a : List Char) : RTok × List Char :=
  match a with
  | [] => (.fin, [])
  | c :: r =>
    if c = '~' then (.tilde, r)
    else if c = '^' then (.caret, r)
    else if isDigit c then (.num ((a.takeWhile isDigit).dropWhile (· = '0')), a.dropWhile isDigit)
    else (.alpha (a.takeWhile isLetter), a.dropWhile isLetter)

abbrev rhTrim (a : List Char) : List Char := a.dropWhile rhTrimmed

/-- the token list of one string -/
def rhToks : Nat → List Char → List RTok :=
  toksF (fun a => (rhTrim a).isEmpty) (fun a => (rhHead (rhTrim a)).1) (fun a => (rhHead (rhTrim a)).2)

theorem rhToks_succ (n : Nat) (a : List Char) :
    rhToks (n + 1) a = if (rhTrim a).isEmpty then [] else (rhHead (rhTrim a)).1 :: rhToks n (rhHead (rhTrim a)).2 := rfl

/-- shape of a trimmed string -/
inductive Shape : List Char → Prop
  | nil : Shape []
  | tilde (r) : Shape ('~' :: r)
  | caret (r) : Shape ('^' :: r)
  | digit (c r) : isDigit c = true → c ≠ '~' → c ≠ '^' → Shape (c :: r)
  | letter (c r) : isLetter c = true → isDigit c = false → c ≠ '~' → c ≠ '^' → Shape (c :: r)

theorem shape_trim (a : List Char) : Shape (a.dropWhile rhTrimmed) := by
  rcases head_dropWhile rhTrimmed a with h | ⟨c, r, h, hc⟩
  · rw [h]; exact .nil
  · rw [h]
    by_cases h1 : c = '~'
    · subst h1; exact .tilde r
    · by_cases h2 : c = '^'
      · subst h2; exact .caret r
      · by_cases h3 : isDigit c = true
        · exact .digit c r h3 h1 h2
        · have h3' : isDigit c = false := by simpa using h3
          have : isLetter c = true := by
            simp only [rhTrimmed, h3', h1, h2, ne_eq, not_false_eq_true, decide_true, Bool.not_false,
              Bool.and_true, Bool.not_eq_false'] at hc
            exact hc
          exact .letter c r this h3' h1 h2

theorem tilde_not_digit : isDigit '~' = false := by decide
theorem caret_not_digit : isDigit '^' = false := by decide
theorem tilde_not_letter : isLetter '~' = false := by decide
theorem caret_not_letter : isLetter '^' = false := by decide

theorem rhHead_nil : rhHead [] = (.fin, []) := rfl

theorem rhHead_fst_fin_rest (a : List Char) (h : a = []) : (rhHead a).2 = [] := by subst h; rfl

theorem rhToks_nil (n : Nat) : rhToks n [] = [] := toksF_done rfl n

theorem rh_done (a : List Char) (h : (rhTrim a).isEmpty = true) :
    (rhHead (rhTrim a)).1 = RTok.fin ∧ (rhTrim (rhHead (rhTrim a)).2).isEmpty = true := by
  rw [List.isEmpty_iff.mp h]; exact ⟨rfl, rfl⟩

theorem cmpRHLoop_nil (fuel : Nat) (a b : List Char) (ha : rhTrim a = []) (hb : rhTrim b = []) :
    cmpRHLoop fuel a b = .eq := by
  cases fuel with
  | zero => rfl
  | succ n => simp only [cmpRHLoop]; rw [show a.dropWhile rhTrimmed = [] from ha, show b.dropWhile rhTrimmed = [] from hb]; rfl

/-- one iteration of the loop in terms of the first tokens of the two trimmed strings -/
theorem cmpRHLoop_succ (fuel : Nat) (a b : List Char) :
    cmpRHLoop (fuel + 1) a b = (rtokCmp (rhHead (rhTrim a)).1 (rhHead (rhTrim b)).1).then
        (cmpRHLoop fuel (rhHead (rhTrim a)).2 (rhHead (rhTrim b)).2) := by
  have sa := shape_trim a
  have sb := shape_trim b
  simp only [cmpRHLoop, rhTrim]
  generalize a.dropWhile rhTrimmed = a' at sa ⊢
  generalize b.dropWhile rhTrimmed = b' at sb ⊢
  cases sa <;> cases sb
  case nil.nil => simp [startsWith, ncmp, rhHead, rtokCmp, rkey, rkeyCmp_mk, strCmp, cmpLex, cmpRHLoop_nil fuel [] [] rfl rfl]
  case digit.digit ca ra g1 g2 g3 c r h1 h2 h3 =>
    simp only [startsWith, g2, g3, h2, h3, decide_false, Bool.false_and, Bool.false_eq_true, if_false,
      List.isEmpty_cons, Bool.or_self, List.headD_cons, g1, if_true, rhHead, rtokCmp, rkey, rkeyCmp_mk, h1]
    rw [List.takeWhile_cons_of_pos (p := isDigit) (l := r) h1]
    simp only [List.isEmpty_cons, Bool.false_eq_true, if_false]
    rw [← List.takeWhile_cons_of_pos (p := isDigit) (l := r) h1, ncmp_then, ← Ordering.then_assoc]
    rfl
  case digit.letter ca ra g1 g2 g3 c r h1 h2 h3 h4 =>
    simp only [startsWith, g2, g3, h3, h4, decide_false, Bool.false_and, Bool.false_eq_true, if_false,
      List.isEmpty_cons, Bool.or_self, List.headD_cons, g1, if_true, rhHead, rtokCmp, rkey, rkeyCmp_mk, h2]
    rw [List.takeWhile_cons_of_neg (p := isDigit) (l := r) (by simp [h2])]
    rfl
  case letter.digit ca ra g1 g2 g3 g4 c r h1 h2 h3 =>
    simp only [startsWith, g3, g4, h2, h3, decide_false, Bool.false_and, Bool.false_eq_true, if_false,
      List.isEmpty_cons, Bool.or_self, List.headD_cons, g2, rhHead, rtokCmp, rkey, rkeyCmp_mk, h1, if_true]
    rw [List.takeWhile_cons_of_neg (p := isLetter) (l := r) (by simp [digit_not_letter c h1])]
    rfl
  case letter.letter ca ra g1 g2 g3 g4 c r h1 h2 h3 h4 =>
    simp only [startsWith, g3, g4, h3, h4, decide_false, Bool.false_and, Bool.false_eq_true, if_false,
      List.isEmpty_cons, Bool.or_self, List.headD_cons, g2, rhHead, rtokCmp, rkey, rkeyCmp_mk, h2]
    rw [List.takeWhile_cons_of_pos (p := isLetter) (l := r) h1]
    simp only [List.isEmpty_cons, Bool.false_eq_true, if_false]
    rw [← List.takeWhile_cons_of_pos (p := isLetter) (l := r) h1]
    rfl
  all_goals simp [*, startsWith, rhHead, rtokCmp, rkey, rkeyCmp_mk, ncmp, Ordering.then, strCmp, cmpLex]

theorem cmpRHLoop_eq : ∀ (fuel : Nat) (a b : List Char),
    cmpRHLoop fuel a b = cmpPad rtokCmp RTok.fin (rhToks fuel a) (rhToks fuel b)
  | 0, _, _ => rfl
  | n + 1, a, b => by
    rw [cmpRHLoop_succ, cmpRHLoop_eq n, rhToks, cmpPad_toksF (rtokCmp_isCmp.refl _) rh_done]

theorem rhHead_rest_length (a : List Char) (sh : Shape a) (h : a ≠ []) : (rhHead a).2.length < a.length := by
  cases sh with
  | nil => exact absurd rfl h
  | tilde r => simp [rhHead]
  | caret r => simp [rhHead]
  | digit c r h1 h2 h3 =>
    have := length_dropWhile_le isDigit r
    simp only [rhHead, h2, h3, if_false, h1, if_true, List.dropWhile_cons, List.length_cons]; omega
  | letter c r h1 h2 h3 h4 =>
    have := length_dropWhile_le isLetter r
    simp only [rhHead, h3, h4, if_false, h2, Bool.false_eq_true, List.dropWhile_cons, h1, if_true, List.length_cons]; omega

/-- any fuel above the length yields the same token list -/
theorem rhToks_fuel (n m : Nat) (a : List Char) (hn : a.length < n) (hm : a.length < m) : rhToks n a = rhToks m a := by
  refine toksF_fuel List.length (fun a h => ?_) n m a hn hm
  have h1 := length_dropWhile_le rhTrimmed a
  have h2 := rhHead_rest_length _ (shape_trim a) (by intro e; rw [rhTrim, e] at h; exact absurd h (by simp))
  exact Nat.lt_of_lt_of_le h2 h1

/-- the tokens of a string -/
def rhKey (a : List Char) : List RTok := rhToks (a.length + 1) a

/-- `compareRedHatComponents`: the empty string first, then the tokens -/
def cmpRHCompT : List Char → List Char → Ordering :=
  thenCmp (cmpOn (fun s : List Char => !s.isEmpty) bcmp) (cmpOn rhKey (cmpPad rtokCmp RTok.fin))

theorem cmpRHCompT_isCmp : IsCmp cmpRHCompT :=
  thenCmp_isCmp (cmpOn_isCmp _ bcmp_isCmp) (cmpOn_isCmp rhKey (cmpPad_isCmp RTok.fin rtokCmp_isCmp))

theorem cmpRHComp_eq (a b : List Char) : cmpRHComp a b = cmpRHCompT a b := by
  unfold cmpRHComp cmpRHCompT thenCmp cmpOn
  rw [cmpRHLoop_eq]
  unfold rhKey
  rw [rhToks_fuel (a.length + b.length + 2) (a.length + 1) a (by omega) (by omega),
    rhToks_fuel (a.length + b.length + 2) (b.length + 1) b (by omega) (by omega)]
  cases a <;> cases b <;> simp [bcmp, Ordering.then]

theorem cmpRH_isCmp : IsCmp cmpRH :=
  (thenCmp_isCmp (cmpOn_isCmp RHV.epoch cmpRHCompT_isCmp)
    (thenCmp_isCmp (cmpOn_isCmp RHV.version cmpRHCompT_isCmp) (cmpOn_isCmp RHV.release cmpRHCompT_isCmp))).congr
    (fun v w => by
      simp only [cmpRH, cmpRHComp_eq]
      rfl)

/-! ## the Go-shaped loop: every `a[ai]` is behind its guard -/

theorem rhTrimGo_eq : ∀ (f : Nat) (a : List Char), a.length < f → rhTrimGo f a = some (a.dropWhile rhTrimmed) := by
  intro f
  induction f with
  | zero => intro a h; omega
  | succ f ih =>
    intro a h
    cases a with
    | nil => simp [rhTrimGo]
    | cons c r =>
      simp only [rhTrimGo, List.length_cons, Nat.zero_lt_succ, if_true, goIndex, List.getElem?_cons_zero, Option.bind_some,
        List.tail_cons, List.dropWhile_cons]
      by_cases hc : rhTrimmed c = true
      · simp only [hc, if_true]; exact ih r (by simp at h; omega)
      · simp [hc]

theorem startsWithGo_eq (c : Char) (a : List Char) : startsWithGo c a = some (startsWith c a) := by
  cases a <;> simp [startsWithGo, startsWith, goIndex]

theorem cmpRHLoopGo_eq : ∀ (f : Nat) (a b : List Char), cmpRHLoopGo f a b = some (cmpRHLoop f a b) := by
  intro f
  induction f with
  | zero => intro a b; rfl
  | succ f ih =>
    intro a b
    simp only [cmpRHLoopGo, cmpRHLoop, rhTrimGo_eq _ _ (Nat.lt_succ_self _), startsWithGo_eq, Option.bind_some, ih, thenGo_some]
    generalize a.dropWhile rhTrimmed = a'
    generalize b.dropWhile rhTrimmed = b'
    cases a' with
    | nil => simp [startsWith, apply_ite some]
    | cons c r => simp [goIndex, apply_ite some]

theorem cmpRHCompGo_eq (a b : List Char) : cmpRHCompGo a b = some (cmpRHComp a b) := by
  simp [cmpRHCompGo, cmpRHComp, cmpRHLoopGo_eq, apply_ite some]

theorem cmpRHGo_eq (v w : RHV) : cmpRHGo v w = some (cmpRH v w) := by
  simp [cmpRHGo, cmpRH, cmpRHCompGo_eq, thenGo_some]

@[simp] theorem redhatFam_parse (s : List Char) : redhatFam.parse s = .ok (parseRH s) := rfl
@[simp] theorem redhatFam_cmp (v w : RHV) : redhatFam.cmp v w = .ord (cmpRH v w) := by
  simp [redhatFam, cmpRHGo_eq, CRes.ofGo]

theorem redhat_laws : FamLaws redhatFam (fun _ => True) cmpRH :=
  .of_isSym (fun s => by simp) redhatFam_cmp cmpRH_isCmp.toSym

end Scalibr.Semantic
