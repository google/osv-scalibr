/-
C07 — comparator algebra: the combinators the version comparators are built from preserve
"is a total preorder comparator" (`IsCmp`), and a family whose comparison is such a comparator on
its parsed values satisfies the string-level laws of `Spec.Semantic`.

Every lexicographic construction (`thenCmp`, `cmpLex`, `cmpPad`) gets its transitivity from one
step, `IsCmp.then_trans`: heads compared by a total preorder, tails by something already known to
be transitive when the heads tie.

Comparators elsewhere in the development have other codomains, fixed by what they model, and their
own laws: `Base/Lex.lean` (`StrictTotal`: Boolean "less", the comparators handed to `slices.SortFunc`),
`Proofs/PatchCmp.lean` (`Cmp3`: Go's `int` results of `Patch.Compare`), `Spec/VersionOrder.lean`
(`TotalPreorderOn`: an `Ordering` comparator on a given list of versions, which `Order.lean` feeds from
here). `IsCmp` / `IsCmpOn` (`Spec/Semantic.lean`) are about `Ordering`-valued comparators on all values
of a type, or on those satisfying a predicate.
-/
import Scalibr.Spec.Semantic
namespace Scalibr.Semantic

/-! ## `Ordering.then` -/

theorem eqThen (o : Ordering) : Ordering.eq.then o = o := rfl

theorem then_eq_match (o k : Ordering) : (match o with | .eq => k | o => o) = o.then k := by
  cases o <;> rfl

theorem then_eq_left {a : Ordering} (b : Ordering) (h : a ≠ .eq) : a.then b = a := by
  cases a <;> first | rfl | exact absurd rfl h

theorem swap_swap (o : Ordering) : o.swap.swap = o := by cases o <;> rfl

/-! ## consequences of `IsCmp` -/

/-- reflexive and antisymmetric in the `swap` sense (no transitivity claimed) -/
structure IsSym {α : Type} (cmp : α → α → Ordering) : Prop where
  refl : ∀ a, cmp a a = .eq
  swap : ∀ a b, cmp b a = (cmp a b).swap

theorem IsCmp.toSym {α} {cmp : α → α → Ordering} (h : IsCmp cmp) : IsSym cmp := ⟨h.refl, h.swap⟩

theorem IsSym.congr {α} {c c' : α → α → Ordering} (h : IsSym c') (e : ∀ a b, c a b = c' a b) : IsSym c where
  refl a := by rw [e]; exact h.refl a
  swap a b := by rw [e, e]; exact h.swap a b

theorem IsSym.eq_symm {α} {cmp : α → α → Ordering} (h : IsSym cmp) {a b : α} (e : cmp a b = .eq) : cmp b a = .eq := by
  rw [h.swap a b, e]; rfl

theorem IsCmp.lt_of_lt_of_le {α} {cmp : α → α → Ordering} (h : IsCmp cmp) {a b c : α}
    (h1 : cmp a b = .lt) (h2 : cmp b c ≠ .gt) : cmp a c = .lt := by
  have le := h.trans_le a b c (by simp [h1]) h2
  cases hac : cmp a c with
  | lt => rfl
  | gt => exact absurd hac le
  | eq =>
    -- `c ≤ a` and `b ≤ c` would give `b ≤ a`
    have := h.trans_le b c a h2 (by simp [h.toSym.eq_symm hac])
    rw [h.swap a b, h1] at this
    exact absurd rfl this

theorem IsCmp.flip {α} {cmp : α → α → Ordering} (h : IsCmp cmp) : IsCmp fun a b => cmp b a :=
  ⟨h.refl, fun a b => h.swap b a, fun a b c h1 h2 => h.trans_le c b a h2 h1⟩

theorem IsCmp.lt_of_le_of_lt {α} {cmp : α → α → Ordering} (h : IsCmp cmp) {a b c : α}
    (h1 : cmp a b ≠ .gt) (h2 : cmp b c = .lt) : cmp a c = .lt :=
  h.flip.lt_of_lt_of_le (a := c) (b := b) (c := a) h2 h1

theorem IsCmp.eq_trans {α} {cmp : α → α → Ordering} (h : IsCmp cmp) {a b c : α}
    (h1 : cmp a b = .eq) (h2 : cmp b c = .eq) : cmp a c = .eq := by
  have le1 := h.trans_le a b c (by simp [h1]) (by simp [h2])
  have le2 := h.trans_le c b a (by simp [h.toSym.eq_symm h2]) (by simp [h.toSym.eq_symm h1])
  rw [h.swap a c] at le2
  cases hac : cmp a c <;> simp_all [Ordering.swap]

/-- The step every lexicographic comparison shares: the heads are compared by a total preorder, and
for the tails the claim is known whenever the heads tie. -/
theorem IsCmp.then_trans {α} {cmp : α → α → Ordering} (h : IsCmp cmp) {x y z : α} {t₁ t₂ t₃ : Ordering}
    (ht : t₁ ≠ .gt → t₂ ≠ .gt → t₃ ≠ .gt)
    (h1 : (cmp x y).then t₁ ≠ .gt) (h2 : (cmp y z).then t₂ ≠ .gt) : (cmp x z).then t₃ ≠ .gt := by
  cases e1 : cmp x y with
  | gt => rw [e1] at h1; exact absurd rfl h1
  | lt =>
    have : cmp y z ≠ .gt := fun hg => by rw [hg] at h2; exact h2 rfl
    rw [h.lt_of_lt_of_le e1 this]; simp
  | eq =>
    cases e2 : cmp y z with
    | gt => rw [e2] at h2; exact absurd rfl h2
    | lt => rw [h.lt_of_le_of_lt (by simp [e1]) e2]; simp
    | eq =>
      rw [e1] at h1; rw [e2] at h2; rw [h.eq_trans e1 e2]
      exact ht h1 h2

theorem IsCmp.congr {α} {c c' : α → α → Ordering} (h : IsCmp c') (e : ∀ a b, c a b = c' a b) : IsCmp c where
  refl a := by rw [e]; exact h.refl a
  swap a b := by rw [e, e]; exact h.swap a b
  trans_le a b c' h1 h2 := by rw [e] at h1 h2 ⊢; exact h.trans_le a b c' h1 h2

theorem IsCmp.on {α} {c : α → α → Ordering} (h : IsCmp c) (P : α → Prop) : IsCmpOn P c where
  refl a _ := h.refl a
  swap a b _ _ := h.swap a b
  trans_le a b c _ _ _ := h.trans_le a b c

theorem IsCmpOn.subtype {α} {P : α → Prop} {c : α → α → Ordering} (h : IsCmpOn P c) :
    IsCmp fun a b : Subtype P => c a.1 b.1 where
  refl a := h.refl a.1 a.2
  swap a b := h.swap a.1 b.1 a.2 b.2
  trans_le a b d := h.trans_le a.1 b.1 d.1 a.2 b.2 d.2

theorem IsCmpOn.of_eq {α} {P : α → Prop} {c c' : α → α → Ordering} (h : IsCmp c')
    (e : ∀ a b, P a → P b → c a b = c' a b) : IsCmpOn P c where
  refl a ha := by rw [e a a ha ha]; exact h.refl a
  swap a b ha hb := by rw [e a b ha hb, e b a hb ha]; exact h.swap a b
  trans_le a b c' ha hb hc h1 h2 := by
    rw [e a b ha hb] at h1; rw [e b c' hb hc] at h2; rw [e a c' ha hc]; exact h.trans_le a b c' h1 h2

theorem IsCmpOn.mono {α} {P Q : α → Prop} {c : α → α → Ordering} (h : IsCmpOn P c) (hq : ∀ a, Q a → P a) : IsCmpOn Q c where
  refl := fun a ha => h.refl a (hq a ha)
  swap := fun a b ha hb => h.swap a b (hq a ha) (hq b hb)
  trans_le := fun a b c ha hb hc => h.trans_le a b c (hq a ha) (hq b hb) (hq c hc)

/-! ## base comparators -/

theorem icmp_lt {a b : Int} : icmp a b = .lt ↔ a < b := by
  unfold icmp; repeat' split
  all_goals simp; try omega
theorem icmp_eq {a b : Int} : icmp a b = .eq ↔ a = b := by
  unfold icmp; repeat' split
  all_goals simp; try omega
theorem icmp_gt {a b : Int} : icmp a b = .gt ↔ b < a := by
  unfold icmp; repeat' split
  all_goals simp; try omega

theorem icmp_isCmp : IsCmp icmp where
  refl a := icmp_eq.mpr rfl
  swap a b := by
    rcases Int.lt_trichotomy a b with h | h | h
    · rw [icmp_lt.mpr h, icmp_gt.mpr h]; rfl
    · rw [icmp_eq.mpr h, icmp_eq.mpr h.symm]; rfl
    · rw [icmp_gt.mpr h, icmp_lt.mpr h]; rfl
  trans_le a b c h1 h2 h3 := by
    rw [Ne, icmp_gt] at h1 h2
    rw [icmp_gt] at h3
    omega

/-- `big.Int.Cmp` on non-negative values is the comparison of the naturals -/
theorem icmp_cast (a b : Nat) : icmp (a : Int) (b : Int) = ncmp a b := by
  unfold icmp ncmp
  simp only [Int.ofNat_lt, Int.natCast_inj]

theorem ncmp_lt {a b : Nat} : ncmp a b = .lt ↔ a < b := by rw [← icmp_cast, icmp_lt]; omega
theorem ncmp_eq {a b : Nat} : ncmp a b = .eq ↔ a = b := by rw [← icmp_cast, icmp_eq]; omega
theorem ncmp_gt {a b : Nat} : ncmp a b = .gt ↔ b < a := by rw [← icmp_cast, icmp_gt]; omega

/-- `if a > b { return +1 }; if a < b { return -1 }; …` -/
theorem ncmp_then (a b : Nat) (k : Ordering) :
    (if a > b then .gt else if a < b then .lt else k) = (ncmp a b).then k := by
  rcases Nat.lt_trichotomy a b with h | h | h
  · rw [ncmp_lt.mpr h, if_neg (by omega), if_pos h]; rfl
  · rw [ncmp_eq.mpr h, if_neg (by omega), if_neg (by omega)]; rfl
  · rw [ncmp_gt.mpr h, if_pos h]; rfl

theorem ncmp_mono (f : Nat → Nat) (hf : ∀ a b, a < b → f a < f b) (a b : Nat) : ncmp (f a) (f b) = ncmp a b := by
  rcases Nat.lt_trichotomy a b with h | h | h
  · rw [ncmp_lt.mpr h, ncmp_lt.mpr (hf a b h)]
  · rw [h, ncmp_eq.mpr rfl, ncmp_eq.mpr rfl]
  · rw [ncmp_gt.mpr h, ncmp_gt.mpr (hf b a h)]

theorem bcmp_isCmp : IsCmp bcmp where
  refl a := by cases a <;> rfl
  swap a b := by cases a <;> cases b <;> rfl
  trans_le a b c := by cases a <;> cases b <;> cases c <;> simp [bcmp]

def unitCmp (_ _ : Unit) : Ordering := .eq
theorem unitCmp_isCmp : IsCmp unitCmp := ⟨fun _ => rfl, fun _ _ => rfl, fun _ _ _ _ _ => by simp [unitCmp]⟩

/-! ## combinators -/

def cmpOn {α β : Type} (f : β → α) (c : α → α → Ordering) : β → β → Ordering := fun a b => c (f a) (f b)

theorem cmpOn_isSym {α β : Type} (f : β → α) {c : α → α → Ordering} (h : IsSym c) : IsSym (cmpOn f c) :=
  ⟨fun a => h.refl (f a), fun a b => h.swap (f a) (f b)⟩

theorem cmpOn_isCmp {α β : Type} (f : β → α) {c : α → α → Ordering} (h : IsCmp c) : IsCmp (cmpOn f c) :=
  ⟨fun a => h.refl (f a), fun a b => h.swap (f a) (f b), fun a b c' => h.trans_le (f a) (f b) (f c')⟩

theorem ncmp_isCmp : IsCmp ncmp :=
  (cmpOn_isCmp (fun n : Nat => (n : Int)) icmp_isCmp).congr fun a b => (icmp_cast a b).symm

def thenCmp {α : Type} (c1 c2 : α → α → Ordering) : α → α → Ordering := fun a b => (c1 a b).then (c2 a b)

theorem thenCmp_isSym {α : Type} {c1 c2 : α → α → Ordering} (h1 : IsSym c1) (h2 : IsSym c2) : IsSym (thenCmp c1 c2) where
  refl a := by simp only [thenCmp, h1.refl, h2.refl]; rfl
  swap a b := by simp only [thenCmp, h1.swap a b, h2.swap a b, Ordering.swap_then]

theorem thenCmp_isCmp {α : Type} {c1 c2 : α → α → Ordering} (h1 : IsCmp c1) (h2 : IsCmp c2) : IsCmp (thenCmp c1 c2) :=
  { thenCmp_isSym h1.toSym h2.toSym with trans_le := fun a b c => h1.then_trans (h2.trans_le a b c) }

/-- disjoint union with the left summand below the right one -/
def cmpSum {α β : Type} (c1 : α → α → Ordering) (c2 : β → β → Ordering) : α ⊕ β → α ⊕ β → Ordering
  | .inl a, .inl b => c1 a b
  | .inl _, .inr _ => .lt
  | .inr _, .inl _ => .gt
  | .inr a, .inr b => c2 a b

theorem cmpSum_isCmp {α β : Type} {c1 : α → α → Ordering} {c2 : β → β → Ordering} (h1 : IsCmp c1) (h2 : IsCmp c2) :
    IsCmp (cmpSum c1 c2) where
  refl a := by cases a <;> simp [cmpSum, h1.refl, h2.refl]
  swap a b := by
    cases a <;> cases b <;> simp [cmpSum, Ordering.swap]
    · exact h1.swap _ _
    · exact h2.swap _ _
  trans_le a b c := by
    cases a <;> cases b <;> cases c <;> simp [cmpSum]
    · exact h1.trans_le _ _ _
    · exact h2.trans_le _ _ _

/-! ## lexicographic comparison, a proper prefix being smaller -/

theorem cmpLex_isSym {α} {cmp : α → α → Ordering} (hc : IsSym cmp) : IsSym (cmpLex cmp) where
  refl a := by induction a with
    | nil => rfl
    | cons x xs ih => simp [cmpLex, hc.refl, ih]
  swap a := by induction a with
    | nil => intro b; cases b <;> rfl
    | cons x xs ih =>
      intro b; cases b with
      | nil => rfl
      | cons y ys => simp only [cmpLex, hc.swap x y, ih ys, Ordering.swap_then]

theorem cmpLex_trans {α} {cmp : α → α → Ordering} (hc : IsCmp cmp) :
    ∀ a b c, cmpLex cmp a b ≠ .gt → cmpLex cmp b c ≠ .gt → cmpLex cmp a c ≠ .gt
  | [], _, [], _, _ => by simp [cmpLex]
  | [], _, _ :: _, _, _ => by simp [cmpLex]
  | _ :: _, [], _, h, _ => absurd rfl h
  | _ :: _, _ :: _, [], _, h => absurd rfl h
  | _ :: xs, _ :: ys, _ :: zs, h1, h2 => hc.then_trans (cmpLex_trans hc xs ys zs) h1 h2

theorem cmpLex_isCmp {α} {cmp : α → α → Ordering} (hc : IsCmp cmp) : IsCmp (cmpLex cmp) :=
  { cmpLex_isSym hc.toSym with trans_le := cmpLex_trans hc }

theorem strCmp_isCmp : IsCmp strCmp :=
  cmpLex_isCmp (cmpOn_isCmp (fun c : Char => c.toNat) ncmp_isCmp)

theorem cmpLex_image {α β} (f : β → α) {c : α → α → Ordering} {c' : β → β → Ordering} {Q : β → Prop}
    (h : ∀ x y, Q x → Q y → c (f x) (f y) = c' x y) :
    ∀ a b : List β, (∀ x ∈ a, Q x) → (∀ x ∈ b, Q x) → cmpLex c (a.map f) (b.map f) = cmpLex c' a b
  | [], [], _, _ => rfl
  | [], _ :: _, _, _ => rfl
  | _ :: _, [], _, _ => rfl
  | x :: xs, y :: ys, ha, hb => by
    simp only [List.map, cmpLex, h x y (ha x (by simp)) (hb y (by simp)),
      cmpLex_image f h xs ys (fun z hz => ha z (by simp [hz])) (fun z hz => hb z (by simp [hz]))]

/-! ## lexicographic comparison with right padding -/

/-- head and tail with the padding element standing in for a missing head -/
def unc {α} (d : α) : List α → α × List α
  | [] => (d, [])
  | x :: xs => (x, xs)

theorem unc_length {α} (d : α) (l : List α) : (unc d l).2.length = l.length - 1 := by cases l <;> rfl

theorem cmpPad_nil_left {α} (cmp : α → α → Ordering) (d : α) (bs : List α) :
    cmpPad cmp d [] bs = cmpPadL cmp d bs := by simp [cmpPad]

theorem cmpPad_nil_right {α} (cmp : α → α → Ordering) (d : α) (as : List α) :
    cmpPad cmp d as [] = cmpPadR cmp d as := by
  cases as <;> simp [cmpPad, cmpPadL, cmpPadR]

/-- one position of the padded loop, whatever the lengths (two exhausted lists: the padding element
compares equal to itself) -/
theorem cmpPad_step {α} {cmp : α → α → Ordering} {d : α} :
    ∀ a b : List α, (a = [] → b = [] → cmp d d = .eq) →
      cmpPad cmp d a b = (cmp (unc d a).1 (unc d b).1).then (cmpPad cmp d (unc d a).2 (unc d b).2)
  | [], [], hd => by simp [cmpPad, cmpPadL, unc, hd rfl rfl]
  | [], _ :: _, _ => by simp [cmpPad, cmpPadL, unc]
  | _ :: _, [], _ => by simp [cmpPad_nil_right, cmpPadR, unc]
  | _ :: _, _ :: _, _ => by simp [cmpPad, unc]

theorem cmpPad_refl {α} {cmp : α → α → Ordering} (d : α) (hc : IsSym cmp) : ∀ a, cmpPad cmp d a a = .eq := by
  intro a; induction a with
  | nil => simp [cmpPad, cmpPadL]
  | cons x xs ih => simp [cmpPad, hc.refl, ih]

theorem cmpPad_swap {α} {cmp : α → α → Ordering} (d : α) (hc : IsSym cmp) :
    ∀ n a b, a.length + b.length ≤ n → cmpPad cmp d b a = (cmpPad cmp d a b).swap
  | 0, a, b, h => by
    have ha : a = [] := List.eq_nil_of_length_eq_zero (by omega)
    have hb : b = [] := List.eq_nil_of_length_eq_zero (by omega)
    subst ha hb; rfl
  | n + 1, a, b, h => by
    rw [cmpPad_step b a fun _ _ => hc.refl d, cmpPad_step a b fun _ _ => hc.refl d, Ordering.swap_then, hc.swap,
      cmpPad_swap d hc n _ _ (by rw [unc_length, unc_length]; omega)]

theorem cmpPad_trans {α} {cmp : α → α → Ordering} (d : α) (hc : IsCmp cmp) :
    ∀ n a b c, a.length + b.length + c.length ≤ n →
      cmpPad cmp d a b ≠ .gt → cmpPad cmp d b c ≠ .gt → cmpPad cmp d a c ≠ .gt
  | 0, a, _, c, h, _, _ => by
    have ha : a = [] := List.eq_nil_of_length_eq_zero (by omega)
    have hc' : c = [] := List.eq_nil_of_length_eq_zero (by omega)
    subst ha hc'; simp [cmpPad, cmpPadL]
  | n + 1, a, b, c, h, h1, h2 => by
    rw [cmpPad_step _ _ fun _ _ => hc.refl d] at h1 h2 ⊢
    exact hc.then_trans (cmpPad_trans d hc n _ _ _ (by rw [unc_length, unc_length, unc_length]; omega)) h1 h2

theorem cmpPad_isSym {α} {cmp : α → α → Ordering} (d : α) (hc : IsSym cmp) : IsSym (cmpPad cmp d) where
  refl := cmpPad_refl d hc
  swap a b := cmpPad_swap d hc _ a b (Nat.le_refl _)

theorem cmpPad_isCmp {α} {cmp : α → α → Ordering} (d : α) (hc : IsCmp cmp) : IsCmp (cmpPad cmp d) :=
  { cmpPad_isSym d hc.toSym with trans_le := fun a b c => cmpPad_trans d hc _ a b c (Nat.le_refl _) }

/-- `components.Cmp` is a total preorder comparator on ALL component lists -/
theorem compsCmp_isCmp : IsCmp compsCmp := cmpPad_isCmp 0 icmp_isCmp

theorem cmpPad_image {α β} (f : β → α) {c : α → α → Ordering} {c' : β → β → Ordering} (d : β) {Q : β → Prop} (hd : Q d)
    (h : ∀ x y, Q x → Q y → c (f x) (f y) = c' x y) :
    ∀ a b : List β, (∀ x ∈ a, Q x) → (∀ x ∈ b, Q x) → cmpPad c (f d) (a.map f) (b.map f) = cmpPad c' d a b := by
  have hL : ∀ b : List β, (∀ x ∈ b, Q x) → cmpPadL c (f d) (b.map f) = cmpPadL c' d b := by
    intro b; induction b with
    | nil => intro _; rfl
    | cons y ys ih =>
      intro hb
      simp only [List.map, cmpPadL, h d y hd (hb y (by simp)), ih fun x hx => hb x (by simp [hx])]
  have hR : ∀ a : List β, (∀ x ∈ a, Q x) → cmpPadR c (f d) (a.map f) = cmpPadR c' d a := by
    intro a; induction a with
    | nil => intro _; rfl
    | cons y ys ih =>
      intro ha
      simp only [List.map, cmpPadR, h y d (ha y (by simp)) hd, ih fun x hx => ha x (by simp [hx])]
  intro a; induction a with
  | nil => intro b _ hb; simp only [List.map, cmpPad]; exact hL b hb
  | cons x xs ih =>
    intro b ha hb
    cases b with
    | nil => simp only [List.map_nil, cmpPad_nil_right]; exact hR (x :: xs) ha
    | cons y ys =>
      simp only [List.map, cmpPad, h x y (ha x (by simp)) (hb y (by simp)),
        ih ys (fun z hz => ha z (by simp [hz])) (fun z hz => hb z (by simp [hz]))]

theorem cmpPad_map {α β} (f : β → α) (c : α → α → Ordering) (d : β) (a b : List β) :
    cmpPad c (f d) (a.map f) (b.map f) = cmpPad (cmpOn f c) d a b :=
  cmpPad_image f d (Q := fun _ => True) trivial (fun _ _ _ _ => rfl) a b (fun _ _ => trivial) (fun _ _ => trivial)

/-! ## token lists

Debian and Red Hat compare two strings by walking both at once, one token of each per iteration,
an exhausted string supplying a padding token. `toksF` is the token list of ONE string; the walk is
then the padded comparison of the two token lists (`cmpPad_toksF` is its recursion equation). -/

/-- the tokens read off a state: `hd` is the next token, `tl` the state behind it, `done` says
that nothing is left; one unit of fuel per token -/
def toksF {σ τ : Type} (done : σ → Bool) (hd : σ → τ) (tl : σ → σ) : Nat → σ → List τ
  | 0, _ => []
  | n + 1, s => if done s then [] else hd s :: toksF done hd tl n (tl s)

section toks
variable {σ τ : Type} {done : σ → Bool} {hd : σ → τ} {tl : σ → σ}

theorem toksF_done {s : σ} (h : done s = true) (n : Nat) : toksF done hd tl n s = [] := by
  cases n <;> simp [toksF, h]

/-- when an exhausted state yields the padding token and stays exhausted, the padded comparison of
two token lists obeys the recursion of the simultaneous walk -/
theorem cmpPad_toksF {cmp : τ → τ → Ordering} {pad : τ} (hp : cmp pad pad = .eq)
    (hdone : ∀ s, done s = true → hd s = pad ∧ done (tl s) = true) (n : Nat) (a b : σ) :
    cmpPad cmp pad (toksF done hd tl (n + 1) a) (toksF done hd tl (n + 1) b) =
      (cmp (hd a) (hd b)).then (cmpPad cmp pad (toksF done hd tl n (tl a)) (toksF done hd tl n (tl b))) := by
  have key : ∀ s, unc pad (toksF done hd tl (n + 1) s) = (hd s, toksF done hd tl n (tl s)) := by
    intro s
    cases h : done s with
    | true => simp [toksF, h, unc, (hdone s h).1, toksF_done (hdone s h).2]
    | false => simp [toksF, h, unc]
  rw [cmpPad_step _ _ fun _ _ => hp, key, key]

theorem toksF_fuel (size : σ → Nat) (hdec : ∀ s, done s = false → size (tl s) < size s) :
    ∀ (n m : Nat) (s : σ), size s < n → size s < m → toksF done hd tl n s = toksF done hd tl m s
  | 0, _, _, h, _ => by omega
  | _, 0, _, _, h => by omega
  | n + 1, m + 1, s, hn, hm => by
    cases h : done s with
    | true => simp [toksF, h]
    | false =>
      have := hdec s h
      simp only [toksF, h, Bool.false_eq_true, if_false, toksF_fuel size hdec n m (tl s) (by omega) (by omega)]

end toks

/-! ## from a family's comparator to the string-level laws -/

/-- what has to be shown about one family: the parser does not crash and establishes `WF`; on `WF`
values the comparison is the total function `c`, which is reflexive and antisymmetric there -/
structure FamLaws (F : Family) (WF : F.V → Prop) (c : F.V → F.V → Ordering) : Prop where
  parse_nopanic : ∀ s, F.parse s ≠ .panic
  parse_wf : ∀ s v, F.parse s = .ok v → WF v
  cmp_eq : ∀ v w, WF v → WF w → F.cmp v w = .ord (c v w)
  refl : ∀ v, WF v → c v v = .eq
  swap : ∀ v w, WF v → WF w → c w v = (c v w).swap

theorem FamLaws.of_isSym {F : Family} {c : F.V → F.V → Ordering} (hp : ∀ s, F.parse s ≠ .panic)
    (hc : ∀ v w, F.cmp v w = .ord (c v w)) (h : IsSym c) : FamLaws F (fun _ => True) c :=
  ⟨hp, fun _ _ _ => trivial, fun v w _ _ => hc v w, fun v _ => h.refl v, fun v w _ _ => h.swap v w⟩

theorem ofOrd_ne_panic (o : Ordering) : Outcome.ofOrd o ≠ .panic := by cases o <;> simp [Outcome.ofOrd]
theorem ofOrd_ne_err (o : Ordering) : Outcome.ofOrd o ≠ .err := by cases o <;> simp [Outcome.ofOrd]
theorem ofOrd_swap (o : Ordering) : Outcome.ofOrd o.swap = (Outcome.ofOrd o).flip := by cases o <;> rfl
theorem ofOrd_isLe (o : Ordering) : (Outcome.ofOrd o).isLe = true ↔ o ≠ .gt := by
  cases o <;> simp [Outcome.ofOrd, Outcome.isLe]
theorem ofOrd_eq_lt (o : Ordering) : Outcome.ofOrd o = .lt ↔ o = .lt := by cases o <;> simp [Outcome.ofOrd]
theorem ofOrd_eq_eq (o : Ordering) : Outcome.ofOrd o = .eq ↔ o = .eq := by cases o <;> simp [Outcome.ofOrd]

theorem accepted_iff (F : Family) (a : List Char) : F.accepted a = true ↔ ∃ v, F.parse a = .ok v := by
  unfold Family.accepted
  cases h : F.parse a <;> simp

theorem FamLaws.compare_ok {F : Family} {WF c} (L : FamLaws F WF c) {a b : List Char} {v w : F.V}
    (ha : F.parse a = .ok v) (hb : F.parse b = .ok w) : F.compareStr a b = .ofOrd (c v w) := by
  simp [Family.compareStr, Family.cmpParsed, ha, hb, L.cmp_eq v w (L.parse_wf a v ha) (L.parse_wf b w hb), CRes.toOutcome]

theorem FamLaws.total {F : Family} {WF c} (L : FamLaws F WF c) (a b : List Char) : F.compareStr a b ≠ .panic := by
  cases ha : F.parse a with
  | panic => exact absurd ha (L.parse_nopanic a)
  | err => simp [Family.compareStr, Family.cmpParsed, ha]
  | ok v =>
    cases hb : F.parse b with
    | panic => exact absurd hb (L.parse_nopanic b)
    | err => simp [Family.compareStr, Family.cmpParsed, ha, hb]
    | ok w => rw [L.compare_ok ha hb]; exact ofOrd_ne_panic _

theorem FamLaws.reflS {F : Family} {WF c} (L : FamLaws F WF c) (a : List Char) (h : F.accepted a = true) :
    F.compareStr a a = .eq := by
  obtain ⟨v, hv⟩ := (accepted_iff F a).mp h
  rw [L.compare_ok hv hv, L.refl v (L.parse_wf a v hv)]; rfl

theorem FamLaws.antisymmS {F : Family} {WF c} (L : FamLaws F WF c) (a b : List Char)
    (ha : F.accepted a = true) (hb : F.accepted b = true) :
    F.compareStr a b ≠ .err ∧ F.compareStr a b = (F.compareStr b a).flip := by
  obtain ⟨v, hv⟩ := (accepted_iff F a).mp ha
  obtain ⟨w, hw⟩ := (accepted_iff F b).mp hb
  rw [L.compare_ok hv hw, L.compare_ok hw hv, L.swap v w (L.parse_wf a v hv) (L.parse_wf b w hw), ofOrd_swap]
  exact ⟨ofOrd_ne_err _, by cases c v w <;> rfl⟩

/-- transitivity on the strings whose parsed value satisfies `P`, given that `c` is a total preorder
comparator on `P` -/
theorem FamLaws.transS {F : Family} {WF c} (L : FamLaws F WF c) (P : F.V → Prop) (hP : IsCmpOn P c)
    (a b d : List Char) (ha : parsesTo F P a) (hb : parsesTo F P b) (hd : parsesTo F P d)
    (h1 : (F.compareStr a b).isLe = true) (h2 : (F.compareStr b d).isLe = true) :
    (F.compareStr a d).isLe = true ∧
    (F.compareStr a b = .lt ∨ F.compareStr b d = .lt → F.compareStr a d = .lt) ∧
    (F.compareStr a b = .eq → F.compareStr b d = .eq → F.compareStr a d = .eq) := by
  obtain ⟨u, hu, pu⟩ := ha
  obtain ⟨v, hv, pv⟩ := hb
  obtain ⟨w, hw, pw⟩ := hd
  rw [L.compare_ok hu hv] at h1 ⊢
  rw [L.compare_ok hv hw] at h2 ⊢
  rw [L.compare_ok hu hw]
  simp only [ofOrd_isLe, ofOrd_eq_lt, ofOrd_eq_eq] at h1 h2 ⊢
  have S := hP.subtype
  exact ⟨S.trans_le ⟨u, pu⟩ ⟨v, pv⟩ ⟨w, pw⟩ h1 h2,
    fun h => h.elim (fun e => S.lt_of_lt_of_le (a := ⟨u, pu⟩) (b := ⟨v, pv⟩) (c := ⟨w, pw⟩) e h2)
      (fun e => S.lt_of_le_of_lt (a := ⟨u, pu⟩) (b := ⟨v, pv⟩) (c := ⟨w, pw⟩) h1 e),
    fun e1 e2 => S.eq_trans (a := ⟨u, pu⟩) (b := ⟨v, pv⟩) (c := ⟨w, pw⟩) e1 e2⟩

end Scalibr.Semantic
