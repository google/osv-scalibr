/-
C07 — Alpine. Reflexivity / antisymmetry / no crash hold for every string; transitivity only on
valid versions whose later components are written without a leading zero (`alpCanon`): otherwise
`alpineNumberComponent.Cmp` switches between string and numeric comparison depending on the
partner (`index` of a padded component is 0) — the known finding.
-/
import Scalibr.Proofs.Semantic.Simple
import Scalibr.Proofs.Semantic.Decimal
namespace Scalibr.Semantic

/-- what the parser guarantees about a number component -/
def ANum.good (c : ANum) : Prop := c.orig ≠ [] ∧ c.orig.all isDigit = true ∧ c.val = (digitsToNat c.orig : Int)

def AlpV.good (v : AlpV) : Prop := ∀ c ∈ v.comps, c.good

/-- `alpineNumberComponent.Cmp` as a total function -/
def cmpANumT (a b : ANum) : Ordering :=
  if a.idx ≠ 0 && b.idx ≠ 0 && (startsWith0 a.orig || startsWith0 b.orig) then strCmp a.orig b.orig
  else icmp a.val b.val
where startsWith0 : List Char → Bool
  | x :: _ => x = '0'
  | [] => false

theorem cmpANum_eq (a b : ANum) (ha : a.orig ≠ []) (hb : b.orig ≠ []) : cmpANum a b = .ord (cmpANumT a b) := by
  unfold cmpANum cmpANumT
  cases hao : a.orig with
  | nil => exact absurd hao ha
  | cons x xs =>
    cases hbo : b.orig with
    | nil => exact absurd hbo hb
    | cons y ys =>
      by_cases h : ¬ a.idx = 0 ∧ ¬ b.idx = 0
      · by_cases hx : x = '0' <;> by_cases hy : y = '0' <;> simp [h, hx, hy, cmpANumT.startsWith0]
      · simp [h]

theorem padANum_orig : padANum.orig ≠ [] := by simp [padANum]

theorem ord_andThen (o k : Ordering) : (CRes.ord o).andThen (fun _ => .ord k) = .ord (o.then k) := by
  cases o <;> rfl

theorem cmpACompsL_eq : ∀ (b : List ANum), (∀ c ∈ b, c.orig ≠ []) →
    cmpACompsL b = .ord (cmpPadL cmpANumT padANum b)
  | [], _ => rfl
  | y :: ys, hb => by
    simp only [cmpACompsL, cmpPadL, cmpANum_eq padANum y padANum_orig (hb y (by simp)),
      cmpACompsL_eq ys fun c hc => hb c (by simp [hc]), ord_andThen]

theorem cmpACompsR_eq : ∀ (a : List ANum), (∀ c ∈ a, c.orig ≠ []) →
    cmpACompsR a = .ord (cmpPadR cmpANumT padANum a)
  | [], _ => rfl
  | x :: xs, ha => by
    simp only [cmpACompsR, cmpPadR, cmpANum_eq x padANum (ha x (by simp)) padANum_orig,
      cmpACompsR_eq xs fun c hc => ha c (by simp [hc]), ord_andThen]

theorem cmpAComps_eq : ∀ (a b : List ANum), (∀ c ∈ a, c.orig ≠ []) → (∀ c ∈ b, c.orig ≠ []) →
    cmpAComps a b = .ord (cmpPad cmpANumT padANum a b)
  | [], b, _, hb => by simp only [cmpAComps, cmpPad]; exact cmpACompsL_eq b hb
  | x :: xs, [], ha, _ => by simp only [cmpAComps, cmpPad_nil_right]; exact cmpACompsR_eq (x :: xs) ha
  | x :: xs, y :: ys, ha, hb => by
    simp only [cmpAComps, cmpPad, cmpANum_eq x y (ha x (by simp)) (hb y (by simp)),
      cmpAComps_eq xs ys (fun c hc => ha c (by simp [hc])) (fun c hc => hb c (by simp [hc])), ord_andThen]

/-- the comparison of two versions that are not both flagged invalid -/
def cmpAlpValid (v w : AlpV) : Ordering :=
  (cmpPad cmpANumT padANum v.comps w.comps).then ((cmpALetters v.letter w.letter).then ((cmpASufs v.sufs w.sufs).then
    ((icmp v.build w.build).then (cmpARemainder v.remainder w.remainder))))

/-- `alpineVersion.compare` as a total function -/
def cmpAlpT (v w : AlpV) : Ordering :=
  if v.invalid && w.invalid then strCmp v.original w.original else cmpAlpValid v w

theorem cmpAlp_eq (v w : AlpV) (hv : v.good) (hw : w.good) : cmpAlp v w = .ord (cmpAlpT v w) := by
  unfold cmpAlp cmpAlpT cmpAlpValid
  split
  · rfl
  · rw [cmpAComps_eq v.comps w.comps (fun c hc => (hv c hc).1) (fun c hc => (hw c hc).1), ord_andThen]

/-! ## reflexivity and antisymmetry (all parsed values) -/

theorem cmpANumT_isSym : IsSym cmpANumT where
  refl := fun a => by
    unfold cmpANumT; split
    · exact strCmp_isCmp.refl _
    · exact icmp_isCmp.refl _
  swap := fun a b => by
    unfold cmpANumT
    have hc : (b.idx ≠ 0 && a.idx ≠ 0 && (cmpANumT.startsWith0 b.orig || cmpANumT.startsWith0 a.orig)) =
        (a.idx ≠ 0 && b.idx ≠ 0 && (cmpANumT.startsWith0 a.orig || cmpANumT.startsWith0 b.orig)) := by
      rw [Bool.and_comm (decide (b.idx ≠ 0)), Bool.or_comm]
    rw [hc]
    split
    · exact strCmp_isCmp.swap _ _
    · exact icmp_isCmp.swap _ _

theorem cmpALetters_eq (a b : List Char) :
    cmpALetters a b = thenCmp (cmpOn (fun s : List Char => !s.isEmpty) bcmp) strCmp a b := by
  unfold cmpALetters thenCmp cmpOn
  cases a <;> cases b <;> simp [bcmp, Ordering.then, strCmp, cmpLex]

theorem cmpALetters_isCmp : IsCmp cmpALetters :=
  (thenCmp_isCmp (cmpOn_isCmp _ bcmp_isCmp) strCmp_isCmp).congr cmpALetters_eq

theorem cmpASuf_eq (a b : ASuf) : cmpASuf a b = thenCmp (cmpOn ASuf.w ncmp) (cmpOn ASuf.n icmp) a b :=
  ncmp_then a.w b.w _

theorem cmpASuf_isCmp : IsCmp cmpASuf :=
  (thenCmp_isCmp (cmpOn_isCmp _ ncmp_isCmp) (cmpOn_isCmp _ icmp_isCmp)).congr cmpASuf_eq

theorem cmpASufs_isCmp : IsCmp cmpASufs := cmpPad_isCmp _ cmpASuf_isCmp

theorem cmpARemainder_eq (a b : List Char) : cmpARemainder a b = cmpOn List.isEmpty bcmp a b := by
  unfold cmpARemainder cmpOn
  cases a <;> cases b <;> simp [bcmp]

theorem cmpARemainder_isCmp : IsCmp cmpARemainder := (cmpOn_isCmp _ bcmp_isCmp).congr cmpARemainder_eq

theorem cmpAlpValid_isSym : IsSym cmpAlpValid :=
  (thenCmp_isSym (cmpOn_isSym AlpV.comps (cmpPad_isSym padANum cmpANumT_isSym))
    (thenCmp_isSym (cmpOn_isSym AlpV.letter cmpALetters_isCmp.toSym)
      (thenCmp_isSym (cmpOn_isSym AlpV.sufs cmpASufs_isCmp.toSym)
        (thenCmp_isSym (cmpOn_isSym AlpV.build icmp_isCmp.toSym) (cmpOn_isSym AlpV.remainder cmpARemainder_isCmp.toSym))))).congr
    (fun _ _ => rfl)

theorem cmpAlpT_isSym : IsSym cmpAlpT where
  refl := fun v => by
    unfold cmpAlpT; split
    · exact strCmp_isCmp.refl _
    · exact cmpAlpValid_isSym.refl v
  swap := fun v w => by
    unfold cmpAlpT
    rw [Bool.and_comm w.invalid]
    split
    · exact strCmp_isCmp.swap _ _
    · exact cmpAlpValid_isSym.swap v w

/-! ## transitivity on valid versions with canonical later components -/

def ANum.canon (c : ANum) : Prop := aNumCanon c = true

theorem strCmp_zero_pos (y : Char) (ys : List Char) (hd : isDigit y = true) (h0 : y ≠ '0') :
    strCmp ['0'] (y :: ys) = .lt := by
  have : (48 : Nat) < y.toNat := by
    simp only [isDigit, Bool.and_eq_true, decide_eq_true_eq] at hd
    have : y.toNat ≠ 48 := fun h => h0 (char_eq_of_toNat (b := '0') h)
    omega
  simp only [strCmp, cmpLex]
  have h : ncmp ('0' : Char).toNat y.toNat = .lt := ncmp_lt.mpr (by simpa using this)
  rw [h]; rfl

theorem strCmp_pos_zero (y : Char) (ys : List Char) (hd : isDigit y = true) (h0 : y ≠ '0') :
    strCmp (y :: ys) ['0'] = .gt := by
  rw [strCmp_isCmp.swap ['0'] (y :: ys), strCmp_zero_pos y ys hd h0]; rfl

/-- on good, canonically written components the comparison is the numeric one -/
theorem cmpANumT_canon (a b : ANum) (ga : a.good) (gb : b.good) (ca : a.canon) (cb : b.canon) :
    cmpANumT a b = icmp a.val b.val := by
  unfold cmpANumT
  split
  · rename_i hc
    simp only [ne_eq, Bool.and_eq_true, decide_eq_true_eq, Bool.or_eq_true] at hc
    obtain ⟨⟨hai, hbi⟩, h0⟩ := hc
    obtain ⟨hane, had, hav⟩ := ga
    obtain ⟨hbne, hbd, hbv⟩ := gb
    -- shapes allowed by `canon` for components of index ≠ 0
    have shape : ∀ c : ANum, c.idx ≠ 0 → c.canon → c.orig ≠ [] →
        c.orig = ['0'] ∨ ∃ y ys, c.orig = y :: ys ∧ y ≠ '0' := by
      intro c hi hcan hne
      unfold ANum.canon aNumCanon at hcan
      cases ho : c.orig with
      | nil => exact absurd ho hne
      | cons y ys =>
        simp only [hi, decide_false, Bool.false_or, ho, Bool.or_eq_true, decide_eq_true_eq, ne_eq] at hcan
        rcases hcan with h | h
        · exact Or.inl h
        · exact Or.inr ⟨y, ys, rfl, h⟩
    rcases shape a hai ca hane with ha | ⟨x, xs, ha, hx⟩ <;> rcases shape b hbi cb hbne with hb | ⟨y, ys, hb, hy⟩
    · rw [ha, hb, hav, hbv, ha, hb]; rfl
    · have hyd : isDigit y = true := by rw [hb] at hbd; simp at hbd; exact hbd.1
      rw [ha, hb, strCmp_zero_pos y ys hyd hy, hav, hbv, ha, hb]
      have := digitsToNat_pos y ys hyd hy
      symm; apply icmp_lt.mpr
      simp [digitsToNat, digitVal] at this ⊢
      omega
    · have hxd : isDigit x = true := by rw [ha] at had; simp at had; exact had.1
      rw [ha, hb, strCmp_pos_zero x xs hxd hx, hav, hbv, ha, hb]
      have := digitsToNat_pos x xs hxd hx
      symm; apply icmp_gt.mpr
      simp [digitsToNat, digitVal] at this ⊢
      omega
    · exfalso
      rw [ha, hb] at h0
      simp [cmpANumT.startsWith0, hx, hy] at h0
  · rfl

theorem padANum_good : padANum.good := by
  refine ⟨by simp [padANum], by simp [padANum, isDigit], ?_⟩
  simp [padANum, digitsToNat, digitVal]

theorem padANum_canon : padANum.canon := by simp [ANum.canon, aNumCanon, padANum]

/-- the domain of the transitivity theorem -/
def AlpV.canonValid (v : AlpV) : Prop := v.good ∧ v.invalid = false ∧ alpCanon v = true

/-- on that domain the comparison is a lexicographic product of total preorders -/
def cmpAlpCanon (v w : AlpV) : Ordering :=
  (cmpPad (cmpOn ANum.val icmp) padANum v.comps w.comps).then ((cmpALetters v.letter w.letter).then ((cmpASufs v.sufs w.sufs).then
    ((icmp v.build w.build).then (cmpARemainder v.remainder w.remainder))))

theorem cmpAlpCanon_isCmp : IsCmp cmpAlpCanon :=
  (thenCmp_isCmp (cmpOn_isCmp AlpV.comps (cmpPad_isCmp padANum (cmpOn_isCmp ANum.val icmp_isCmp)))
    (thenCmp_isCmp (cmpOn_isCmp AlpV.letter cmpALetters_isCmp)
      (thenCmp_isCmp (cmpOn_isCmp AlpV.sufs cmpASufs_isCmp)
        (thenCmp_isCmp (cmpOn_isCmp AlpV.build icmp_isCmp) (cmpOn_isCmp AlpV.remainder cmpARemainder_isCmp))))).congr
    (fun _ _ => rfl)

theorem cmpAlpT_canon (v w : AlpV) (hv : v.canonValid) (hw : w.canonValid) : cmpAlpT v w = cmpAlpCanon v w := by
  obtain ⟨gv, iv, cv⟩ := hv
  obtain ⟨gw, iw, cw⟩ := hw
  unfold cmpAlpT cmpAlpValid cmpAlpCanon
  simp only [iv, iw, Bool.false_and, Bool.false_eq_true, if_false]
  have hQ : ∀ (u : AlpV), u.good → alpCanon u = true → ∀ x ∈ u.comps, x.good ∧ x.canon := by
    intro u gu cu x hx
    refine ⟨gu x hx, ?_⟩
    unfold alpCanon at cu
    exact List.all_eq_true.mp cu x hx
  have := cmpPad_image id padANum (c' := cmpOn ANum.val icmp) (Q := fun c => c.good ∧ c.canon) ⟨padANum_good, padANum_canon⟩
    (fun a b ha hb => cmpANumT_canon a b ha.1 hb.1 ha.2 hb.2) v.comps w.comps (hQ v gv cv) (hQ w gw cw)
  rw [List.map_id, List.map_id, id_eq] at this
  rw [this]

theorem cmpAlpT_isCmpOn : IsCmpOn AlpV.canonValid cmpAlpT := IsCmpOn.of_eq cmpAlpCanon_isCmp cmpAlpT_canon

/-! ## the parser establishes `good` -/

theorem alpComps_good : ∀ (parts : List (List Char)), (∀ p ∈ parts, p.all isDigit = true) →
    ∀ (i : Nat) (cs : List ANum), alpComps i parts = some cs → ∀ c ∈ cs, c.good
  | [], _, _, cs, h => by cases h; simp
  | d :: ds, hp, i, cs, h => by
    simp only [alpComps] at h
    split at h
    · cases h
    · rename_i v hb
      split at h
      · cases h
      · rename_i rest hr
        cases h
        have hd := hp d (by simp)
        have hne : d ≠ [] := by intro e; rw [e, toBig_nil] at hb; cases hb
        rw [toBig_digits_eq hd hne] at hb
        intro c hc
        rcases List.mem_cons.mp hc with rfl | hc
        · exact ⟨hne, hd, (Option.some.inj hb).symm⟩
        · exact alpComps_good ds (fun p hp' => hp p (by simp [hp'])) (i + 1) rest hr c hc

theorem alpNumPrefix_chars : ∀ (fuel : Nat) (s : List Char), ∀ c ∈ alpNumPrefix fuel s, isDigit c = true ∨ c = '.' := by
  intro fuel; induction fuel with
  | zero => intro s c hc; simp [alpNumPrefix] at hc
  | succ n ih =>
    intro s c hc
    simp only [alpNumPrefix] at hc
    split at hc
    · simp at hc
    · have htw : ∀ x ∈ s.takeWhile isDigit, isDigit x = true := fun x hx => List.all_eq_true.mp List.all_takeWhile x hx
      split at hc
      · rename_i r _
        simp only [List.append_assoc, List.mem_append, List.mem_cons, List.not_mem_nil, or_false] at hc
        rcases hc with hc | hc | hc
        · exact Or.inl (htw c hc)
        · exact Or.inr hc
        · exact ih r c hc
      · exact Or.inl (htw c hc)

theorem splitOn_dot_digits : ∀ (s : List Char), (∀ c ∈ s, isDigit c = true ∨ c = '.') →
    ∀ p ∈ splitOn '.' s, p.all isDigit = true
  | [], _, p, hp => by simp [splitOn] at hp; subst hp; rfl
  | c :: cs, h, p, hp => by
    have ih := splitOn_dot_digits cs fun x hx => h x (by simp [hx])
    by_cases hc : c = '.'
    · simp only [splitOn, hc, if_true, List.mem_cons] at hp
      rcases hp with rfl | hp
      · rfl
      · exact ih p hp
    · have hcd : isDigit c = true := (h c (by simp)).resolve_right hc
      obtain ⟨hd, tl, heq⟩ := List.exists_cons_of_ne_nil (splitOn_ne_nil '.' cs)
      simp only [splitOn, hc, if_false, heq, List.mem_cons] at hp
      rcases hp with rfl | hp
      · simp [hcd, ih hd (by rw [heq]; simp)]
      · exact ih p (by rw [heq]; simp [hp])

theorem parseAlpRest_comps (s : List Char) (comps : List ANum) (str : List Char) (v : AlpV)
    (h : parseAlpRest s comps str = .ok v) : v.comps = comps := by
  unfold parseAlpRest at h
  simp only at h
  repeat' split at h
  all_goals first | (cases h; rfl) | (simp at h)

theorem parseAlpRest_nopanic (s : List Char) (comps : List ANum) (str : List Char) :
    parseAlpRest s comps str ≠ .panic := by
  unfold parseAlpRest
  simp only
  repeat' split
  all_goals simp

theorem parseAlp_good (s : List Char) (v : AlpV) (h : parseAlp s = .ok v) : v.good := by
  unfold parseAlp at h
  simp only at h
  split at h
  · have := parseAlpRest_comps _ _ _ _ h
    intro c hc; rw [this] at hc; simp at hc
  · split at h
    · exact absurd h (by simp)
    · rename_i comps hcomps
      have := parseAlpRest_comps _ _ _ _ h
      intro c hc; rw [this] at hc
      exact alpComps_good _ (splitOn_dot_digits _ (alpNumPrefix_chars _ _)) 0 comps hcomps c hc

theorem parseAlp_nopanic (s : List Char) : parseAlp s ≠ .panic := by
  unfold parseAlp
  simp only
  split
  · exact parseAlpRest_nopanic _ _ _
  · split
    · simp
    · exact parseAlpRest_nopanic _ _ _

theorem alpine_laws : FamLaws alpineFam AlpV.good cmpAlpT where
  parse_nopanic := parseAlp_nopanic
  parse_wf := parseAlp_good
  cmp_eq := cmpAlp_eq
  refl := fun v _ => cmpAlpT_isSym.refl v
  swap := fun v w _ _ => cmpAlpT_isSym.swap v w

end Scalibr.Semantic
