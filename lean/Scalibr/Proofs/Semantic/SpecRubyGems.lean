/-
C07 — the RubyGems comparison agrees with the `Gem::Version` documentation
(`Spec/Semantic/RubyGems.lean`) on every canonically rendered version.
-/
import Scalibr.Spec.Semantic.RubyGems
import Scalibr.Proofs.Semantic.Simple
import Scalibr.Proofs.Semantic.Render
namespace Scalibr.Semantic
open RubySpec

/-! ## segment texts -/

theorem rubyJoin_eq : ∀ l, RubySpec.joinDots l = dotJoin l
  | [] => rfl
  | [_] => rfl
  | t :: u :: r => by rw [RubySpec.joinDots, dotJoin, rubyJoin_eq (u :: r)]

/-- the text of a well-formed segment: non-empty, all digits or all letters -/
theorem render_kind (s : Seg) (hw : s.wf = true) :
    s.render ≠ [] ∧ (∀ c ∈ s.render, isDigit c = s.isNum ∧ c ≠ '.') := by
  cases s with
  | num n => exact ⟨D_ne n, fun c hc => ⟨D_digits n c hc, ne_of_class (D_digits n c hc) (by decide)⟩⟩
  | str t =>
    obtain ⟨c, cs, rfl, hl⟩ := letters_cons hw
    exact ⟨List.cons_ne_nil c cs, fun x hx => ⟨(letter_props x (hl x hx)).1, (letter_props x (hl x hx)).2.1⟩⟩

theorem toBig_render (s : Seg) (hw : s.wf = true) :
    toBig s.render = match s with
      | .num n => some (n : Int)
      | .str _ => none := by
  cases s with
  | num n => exact toBig_D n
  | str t =>
    obtain ⟨c, cs, rfl, hl⟩ := letters_cons hw
    have hp := letter_props c (hl c (by simp))
    rw [Seg.render, toBig_cons c cs hp.2.2.1 hp.2.2.2.1]
    simp [hp.1]

theorem toBig_isSome_render (s : Seg) (hw : s.wf = true) : (toBig s.render).isSome = s.isNum := by
  rw [toBig_render s hw]; cases s <;> rfl

/-! ## `canonicalizeRubyGemVersion` leaves the canonical text alone -/

/-- a run of characters of one kind, none of them a dot, entered with `check = false` or with the
same kind: it is appended unchanged -/
theorem fold_run (k : Bool) : ∀ (t : List Char) (st : RubyState), (∀ c ∈ t, isDigit c = k ∧ c ≠ '.') →
    (st.check = false ∨ st.prevDigit = k) → t ≠ [] →
    t.foldl rubyStep st = ⟨st.res ++ t, true, k⟩ := by
  intro t; induction t with
  | nil => intro _ _ _ h; exact absurd rfl h
  | cons c cs ih =>
    intro st hk hst _
    have hc := hk c (by simp)
    have hstep : rubyStep st c = ⟨st.res ++ [c], true, k⟩ := by
      simp only [rubyStep, hc.2, if_false, hc.1]
      rcases hst with h | h
      · simp [h]
      · simp [h]
    simp only [List.foldl, hstep]
    cases cs with
    | nil => simp
    | cons d ds =>
      rw [ih ⟨st.res ++ [c], true, k⟩ (fun x hx => hk x (by simp [hx])) (Or.inr rfl) (by simp)]
      simp

/-- dotted runs, each entered behind a dot or at the start -/
theorem canonRuby_join : ∀ (ts : List (List Char)) (st : RubyState),
    (∀ t ∈ ts, t ≠ [] ∧ ∃ k, ∀ c ∈ t, isDigit c = k ∧ c ≠ '.') → st.check = false →
    ((dotJoin ts).foldl rubyStep st).res = st.res ++ dotJoin ts
  | [], st, _, _ => by simp [dotJoin]
  | [t], st, h, hst => by
    obtain ⟨hne, k, hk⟩ := h t (by simp)
    rw [dotJoin, fold_run k t st hk (.inl hst) hne]
  | t :: u :: r, st, h, hst => by
    obtain ⟨hne, k, hk⟩ := h t (by simp)
    have hdot : rubyStep ⟨st.res ++ t, true, k⟩ '.' = ⟨st.res ++ t ++ ['.'], false, k⟩ := by simp [rubyStep]
    rw [dotJoin, List.foldl_append, fold_run k t st hk (.inl hst) hne, List.foldl_cons, hdot,
      canonRuby_join (u :: r) _ (fun x hx => h x (by simp [hx])) rfl]
    simp

theorem canonRuby_render (v : V) (hw : ∀ s ∈ v.segs, s.wf = true) : canonRuby (render v) = render v := by
  rw [canonRuby, render, rubyJoin_eq]
  refine (canonRuby_join _ ⟨[], false, true⟩ (fun t ht => ?_) rfl).trans (List.nil_append _)
  obtain ⟨s, hs, rfl⟩ := List.mem_map.mp ht
  exact ⟨(render_kind s (hw s hs)).1, s.isNum, (render_kind s (hw s hs)).2⟩

theorem ruby_splitOn_render (v : V) (hw : ∀ s ∈ v.segs, s.wf = true) (hne : v.segs ≠ []) :
    splitOn '.' (render v) = v.segs.map Seg.render := by
  rw [render, rubyJoin_eq]
  exact splitOn_dotJoin _ (by simpa using hne) (by simpa using fun s hs c hc => ((render_kind s (hw s hs)).2 c hc).2)

/-! ## grouping and dropping zeros commute with rendering -/

theorem render_zero_iff (s : Seg) (hw : s.wf = true) : (s.render = ['0']) ↔ s = .num 0 := by
  constructor
  · intro h
    cases s with
    | num n => rw [D_eq_zero n h]
    | str t =>
      simp only [Seg.wf, Bool.and_eq_true] at hw
      simp only [Seg.render] at h
      rw [h] at hw
      simp [isLetter, isLower, isUpper] at hw
  · intro h; subst h; rfl

theorem removeZeros_map (l : List Seg) (hw : ∀ s ∈ l, s.wf = true) :
    removeZeros (l.map Seg.render) = (dropTrailingZeros l).map Seg.render := by
  unfold removeZeros dropTrailingZeros
  rw [← List.map_reverse, (span_map Seg.render (· = ['0']) (· = .num 0) l.reverse fun s hs => by
    simp [render_zero_iff s (hw s (by simpa using hs))]).2, List.map_reverse]

theorem mem_dropTrailingZeros (l : List Seg) (x : Seg) (h : x ∈ dropTrailingZeros l) : x ∈ l := by
  unfold dropTrailingZeros at h
  have := mem_dropWhile _ _ x (by simpa using h)
  simpa using this

/-- the implementation's segments of the canonical text are the rendered canonical segments -/
theorem rubySegs_render (v : V) (hw : ∀ s ∈ v.segs, s.wf = true) (hne : v.segs ≠ []) :
    rubySegs (render v) = (canonicalSegments v).map Seg.render := by
  obtain ⟨h1, h2⟩ := span_map Seg.render (fun x => (toBig x).isSome) Seg.isNum v.segs fun s hs => toBig_isSome_render s (hw s hs)
  simp only [rubySegs, canonRuby_render v hw, ruby_splitOn_render v hw hne, h1, h2,
    removeZeros_map _ (fun s hs => hw s ((List.takeWhile_sublist _).subset hs)),
    removeZeros_map _ (fun s hs => hw s (mem_dropWhile _ _ s hs)), canonicalSegments, List.map_append]

theorem rubyElem_render (s t : Seg) (hs : s.wf = true) (ht : t.wf = true) :
    rubyElem s.render t.render = s.cmp t := by
  unfold rubyElem
  rw [toBig_render s hs, toBig_render t ht]
  cases s <;> cases t <;> simp [Seg.cmp, icmp_cast, Seg.render]

theorem canonical_wf (v : V) (hw : ∀ s ∈ v.segs, s.wf = true) : ∀ s ∈ canonicalSegments v, s.wf = true := by
  intro s hs
  simp only [canonicalSegments, List.mem_append] at hs
  rcases hs with hs | hs
  · exact hw s ((List.takeWhile_sublist _).subset (mem_dropTrailingZeros _ s hs))
  · exact hw s (mem_dropWhile _ _ s (mem_dropTrailingZeros _ s hs))

theorem ruby_wf_segs {v : V} (h : v.wf = true) : (∀ s ∈ v.segs, s.wf = true) ∧ v.segs ≠ [] := by
  simp only [V.wf, Bool.and_eq_true, List.all_eq_true] at h
  exact ⟨h.2, fun e => by simp [e] at h⟩

/-- `Gem::Version#<=>` on every canonically rendered version -/
theorem rubygems_spec (a b : V) (ha : a.wf = true) (hb : b.wf = true) :
    compareStr .rubygems (render a) (render b) = .ofOrd (RubySpec.specCmp a b) := by
  obtain ⟨aw, an⟩ := ruby_wf_segs ha
  obtain ⟨bw, bn⟩ := ruby_wf_segs hb
  show rubygemsFam.compareStr (render a) (render b) = _
  rw [rubygems_laws.compare_ok (rubygemsFam_parse _) (rubygemsFam_parse _), rubySegs_render a aw an, rubySegs_render b bw bn]
  exact congrArg _ (cmpPad_image Seg.render (.num 0) (Q := fun s => s.wf = true) rfl rubyElem_render _ _
    (canonical_wf a aw) (canonical_wf b bw))

end Scalibr.Semantic
