/-
C07 — families whose comparison is a plain composition of the combinators of `Lex.lean`:
semver-like, NuGet, CRAN, RubyGems.
-/
import Scalibr.Proofs.Semantic.GoShape
namespace Scalibr.Semantic

/-! ## identifier comparison: "numeric below non-numeric" and "numeric above non-numeric" -/

def classifyNumHigh (s : List Char) : List Char ⊕ Int :=
  match toBig s with
  | some x => .inr x
  | none => .inl s

def classifyNumId (s : List Char) : Int ⊕ List Char :=
  match toNumId s with
  | some x => .inl x
  | none => .inr s

theorem identCmp_eq (a b : List Char) :
    identCmp a b = cmpOn classifyNumId (cmpSum icmp strCmp) a b := by
  unfold identCmp cmpOn classifyNumId
  cases toNumId a <;> cases toNumId b <;> rfl

theorem identCmp_isCmp : IsCmp identCmp :=
  (cmpOn_isCmp classifyNumId (cmpSum_isCmp icmp_isCmp strCmp_isCmp)).congr identCmp_eq

theorem rubyElem_eq (a b : List Char) :
    rubyElem a b = cmpOn classifyNumHigh (cmpSum strCmp icmp) a b := by
  unfold rubyElem cmpOn classifyNumHigh
  cases toBig a <;> cases toBig b <;> rfl

theorem rubyElem_isCmp : IsCmp rubyElem :=
  (cmpOn_isCmp classifyNumHigh (cmpSum_isCmp strCmp_isCmp icmp_isCmp)).congr rubyElem_eq

/-- one segment of a PyPI local label is compared like one RubyGems segment -/
theorem localElem_isCmp : IsCmp localElem := rubyElem_isCmp

/-! ## semver build strings -/

/-- `compareBuildComponents` after the metadata / hyphen trimming -/
def cmpBuildCore (a b : List Char) : Ordering :=
  if a.isEmpty && !b.isEmpty then .gt
  else if !a.isEmpty && b.isEmpty then .lt
  else cmpBuildComps (splitOn '.' a) (splitOn '.' b)

theorem cmpBuildCore_eq (a b : List Char) :
    cmpBuildCore a b = thenCmp (cmpOn List.isEmpty bcmp) (cmpOn (splitOn '.') (cmpLex identCmp)) a b := by
  unfold cmpBuildCore thenCmp cmpOn cmpBuildComps
  cases a <;> cases b <;> simp [bcmp, Ordering.then]

theorem cmpBuildCore_isCmp : IsCmp cmpBuildCore :=
  (thenCmp_isCmp (cmpOn_isCmp _ bcmp_isCmp) (cmpOn_isCmp _ (cmpLex_isCmp identCmp_isCmp))).congr cmpBuildCore_eq

theorem cmpBuild_isCmp : IsCmp cmpBuild :=
  (cmpOn_isCmp buildCore cmpBuildCore_isCmp).congr (fun _ _ => rfl)

theorem cmpSemver_isCmp : IsCmp cmpSemver :=
  (thenCmp_isCmp (cmpOn_isCmp SemV.comps compsCmp_isCmp) (cmpOn_isCmp SemV.build cmpBuild_isCmp)).congr (fun _ _ => rfl)

theorem cmpNuGet_isCmp : IsCmp cmpNuGet :=
  (thenCmp_isCmp (cmpOn_isCmp SemV.comps compsCmp_isCmp)
    (cmpOn_isCmp (fun v : SemV => lowerStr v.build) cmpBuild_isCmp)).congr (fun _ _ => rfl)

theorem cmpCran_isCmp : IsCmp cmpCran :=
  (thenCmp_isCmp compsCmp_isCmp (cmpOn_isCmp List.length ncmp_isCmp)).congr (fun _ _ => rfl)

theorem cmpRuby_isCmp : IsCmp cmpRuby := cmpPad_isCmp _ rubyElem_isCmp

/-! ## the families -/

theorem semver_laws : FamLaws semverFam (fun _ => True) cmpSemver :=
  .of_isSym (fun s => by simp) semverFam_cmp cmpSemver_isCmp.toSym

theorem nuget_laws : FamLaws nugetFam (fun _ => True) cmpNuGet :=
  .of_isSym (fun s => by simp) nugetFam_cmp cmpNuGet_isCmp.toSym

theorem cran_laws : FamLaws cranFam (fun _ => True) cmpCran :=
  .of_isSym (fun s => by simp only [cranFam, parseCran]; split <;> simp) cranFam_cmp cmpCran_isCmp.toSym

theorem rubygems_laws : FamLaws rubygemsFam (fun _ => True) cmpRuby :=
  .of_isSym (fun s => by simp) rubygemsFam_cmp cmpRuby_isCmp.toSym

end Scalibr.Semantic
