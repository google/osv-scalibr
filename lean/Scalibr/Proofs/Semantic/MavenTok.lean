/-
C07 — Maven, part 1: two different tokens are strictly ordered one way or the other
(`tokLess_trichotomy`), provided numeric values are written canonically and the prefixes are
comparable (equal, or both a separator).
-/
import Scalibr.Proofs.Semantic.Decimal
namespace Scalibr.Semantic

/-! ## strings -/

theorem strCmp_eq_iff : ∀ (a b : List Char), strCmp a b = .eq ↔ a = b := by
  intro a; induction a with
  | nil => intro b; cases b <;> simp [strCmp, cmpLex]
  | cons x xs ih =>
    intro b
    cases b with
    | nil => simp [strCmp, cmpLex]
    | cons y ys =>
      have ih' := ih ys
      simp only [strCmp] at ih' ⊢
      simp only [cmpLex]
      constructor
      · intro h
        cases e : ncmp x.toNat y.toNat with
        | eq =>
          rw [e] at h
          have := ih'.mp h
          rw [char_eq_of_toNat (ncmp_eq.mp e), this]
        | lt => rw [e] at h; simp [Ordering.then] at h
        | gt => rw [e] at h; simp [Ordering.then] at h
      · intro h
        injection h with h1 h2
        subst h1
        rw [ncmp_isCmp.refl]
        exact ih'.mpr h2

theorem strCmp_lt_xor {a b : List Char} (h : a ≠ b) :
    decide (strCmp b a = .lt) = !decide (strCmp a b = .lt) := by
  have hs := strCmp_isCmp.swap a b
  cases e : strCmp a b with
  | eq => exact absurd ((strCmp_eq_iff a b).mp e) h
  | lt => rw [e] at hs; simp [hs, Ordering.swap]
  | gt => rw [e] at hs; simp [hs, Ordering.swap]

/-! ## qualifiers -/

/-- the well-known qualifiers in ascending order; `keywordIdx` is the position in this table, 7 for
everything else -/
def keywords : List (List Char) := [kAlpha, kBeta, kMilestone, kRc, kSnapshot, [], kSp]

theorem keywordIdx_spec (v : List Char) : keywordIdx v = 7 ∨ keywords[keywordIdx v]? = some v := by
  by_cases h0 : v = kAlpha; · subst h0; exact .inr rfl
  by_cases h1 : v = kBeta; · subst h1; exact .inr rfl
  by_cases h2 : v = kMilestone; · subst h2; exact .inr rfl
  by_cases h3 : v = kRc; · subst h3; exact .inr rfl
  by_cases h4 : v = kSnapshot; · subst h4; exact .inr rfl
  by_cases h5 : v = []; · subst h5; exact .inr rfl
  by_cases h6 : v = kSp; · subst h6; exact .inr rfl
  unfold keywordIdx
  rw [if_neg h0, if_neg h1, if_neg h2, if_neg h3, if_neg h4, if_neg h5, if_neg h6]
  exact .inl rfl

theorem keywordIdx_inj (v w : List Char) (h : keywordIdx v = keywordIdx w) (hv : keywordIdx v ≠ 7) : v = w := by
  rcases keywordIdx_spec v with h1 | h1
  · exact absurd h1 hv
  · rcases keywordIdx_spec w with h2 | h2
    · exact absurd (h.trans h2) hv
    · rw [h, h2] at h1; exact (Option.some.inj h1).symm

theorem keywordIdx_le (s : List Char) : keywordIdx s ≤ 7 := by
  rcases keywordIdx_spec s with h | h
  · omega
  · have := (List.getElem?_eq_some_iff.mp h).1
    exact Nat.le_of_lt this

/-- how two qualifiers compare: by rank, unknown ones as strings -/
def kwLess (v w : List Char) : Bool :=
  if keywordIdx v = 7 && keywordIdx w = 7 then decide (strCmp v w = .lt) else decide (keywordIdx v < keywordIdx w)

theorem kwLess_swap {v w : List Char} (hne : v ≠ w) : kwLess w v = !kwLess v w := by
  unfold kwLess
  by_cases h7 : keywordIdx v = 7 ∧ keywordIdx w = 7
  · simp only [h7.1, h7.2, decide_true, Bool.and_self, if_true]
    exact strCmp_lt_xor hne
  · have hk : keywordIdx v ≠ keywordIdx w := fun e => by
      by_cases h1 : keywordIdx v = 7
      · exact h7 ⟨h1, e ▸ h1⟩
      · exact hne (keywordIdx_inj _ _ e h1)
    have h7' : ¬ (keywordIdx w = 7 ∧ keywordIdx v = 7) := fun ⟨a, b⟩ => h7 ⟨b, a⟩
    simp only [Bool.and_eq_true, decide_eq_true_eq, h7, h7', if_false]
    by_cases hlt : keywordIdx v < keywordIdx w
    · simp [hlt, Nat.lt_asymm hlt]
    · simp [hlt, show keywordIdx w < keywordIdx v by omega]

/-! ## tokens -/

/-- a numeric value is the decimal rendering of its number -/
def MTok.canonVal (t : MTok) : Prop := ∀ n, toBig t.val = some n → t.val = intToChars n

def isSepPre (p : List Char) : Prop := p = ['-'] ∨ p = ['.']

theorem qualOrder_sep (t : MTok) (h : isSepPre t.pre) :
    (t.pre = ['-'] ∧ (qualOrder t = some 1 ∨ qualOrder t = some 2)) ∨ (t.pre = ['.'] ∧ (qualOrder t = some 0 ∨ qualOrder t = some 3)) := by
  unfold qualOrder
  rcases h with h | h
  · left; refine ⟨h, ?_⟩
    rw [h]; cases (toBig t.val).isSome <;> simp
  · right; refine ⟨h, ?_⟩
    rw [h]; cases (toBig t.val).isSome <;> simp

theorem tokLess_same (v w : MTok) (h : v.pre = w.pre) :
    tokLess v w = some (match toBig v.val, toBig w.val with
      | some a, some b => decide (a < b)
      | va, wb => if va.isSome && !v.isNull then false else if wb.isSome && !w.isNull then true else kwLess v.val w.val) := by
  unfold tokLess kwLess
  rw [if_pos h]
  cases toBig v.val <;> cases toBig w.val <;> simp only [apply_ite some]

/-- two different tokens with comparable prefixes: exactly one is below the other, and `lessThan`
does not fail -/
theorem tokLess_trichotomy (x y : MTok) (hne : x.equal y = false) (hx : x.canonVal) (hy : y.canonVal)
    (hp : x.pre = y.pre ∨ (isSepPre x.pre ∧ isSepPre y.pre)) :
    ∃ r, tokLess x y = some r ∧ tokLess y x = some (!r) := by
  by_cases hpe : x.pre = y.pre
  · have hvne : x.val ≠ y.val := by
      intro hv; simp [MTok.equal, hpe, hv] at hne
    refine ⟨_, tokLess_same x y hpe, ?_⟩
    rw [tokLess_same y x hpe.symm, kwLess_swap hvne]
    cases tx : toBig x.val with
    | some a =>
      cases ty : toBig y.val with
      | some b =>
        have : a ≠ b := fun e => hvne ((hx a tx).trans (e ▸ (hy b ty).symm))
        simp only [Option.some.injEq]
        by_cases hab : a < b
        · simp [hab, Int.lt_asymm hab]
        · simp [hab, show b < a by omega]
      | none => cases x.isNull <;> simp
    | none => cases toBig y.val <;> cases y.isNull <;> simp
  · have hsep : isSepPre x.pre ∧ isSepPre y.pre := hp.resolve_left hpe
    have hpe' : ¬ y.pre = x.pre := fun e => hpe e.symm
    unfold tokLess
    simp only [hpe, hpe', if_false]
    rcases qualOrder_sep x hsep.1 with ⟨px, qx⟩ | ⟨px, qx⟩ <;> rcases qualOrder_sep y hsep.2 with ⟨py, qy⟩ | ⟨py, qy⟩
    · exact absurd (px.trans py.symm) hpe
    · rcases qx with qx | qx <;> rcases qy with qy | qy <;> rw [qx, qy] <;> exact ⟨_, rfl, by decide⟩
    · rcases qx with qx | qx <;> rcases qy with qy | qy <;> rw [qx, qy] <;> exact ⟨_, rfl, by decide⟩
    · exact absurd (px.trans py.symm) hpe

end Scalibr.Semantic
