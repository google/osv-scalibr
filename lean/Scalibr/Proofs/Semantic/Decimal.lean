/-
C07 — decimal numerals: `digitsToNat`, `big.Int.SetString` (`toBig`), `big.Int.String` (`intToChars`,
`D n` for a natural number) and their round trips; comparing canonical decimal strings "by length,
then as strings" (what rpmvercmp does after stripping leading zeros) is comparing the numbers.
-/
import Scalibr.Proofs.Semantic.Lex
import Scalibr.Proofs.Semantic.Text
namespace Scalibr.Semantic

/-! ## the value of a digit string -/

theorem digitsToNat_append (xs : List Char) (c : Char) : digitsToNat (xs ++ [c]) = digitsToNat xs * 10 + digitVal c := by
  simp [digitsToNat, List.foldl_append]

theorem foldl_digits_shift : ∀ (cs : List Char) (n : Nat),
    cs.foldl (fun n c => n * 10 + digitVal c) n = n * 10 ^ cs.length + digitsToNat cs := by
  intro cs; induction cs with
  | nil => intro n; simp [digitsToNat]
  | cons c cs ih =>
    intro n
    have h1 := ih (n * 10 + digitVal c)
    have h2 := ih (0 * 10 + digitVal c)
    simp only [digitsToNat, List.foldl_cons, List.length_cons] at h1 h2 ⊢
    rw [h1, h2]
    have e : 10 ^ (cs.length + 1) = 10 * 10 ^ cs.length := by rw [Nat.pow_succ, Nat.mul_comm]
    rw [e, Nat.add_mul, Nat.add_mul, Nat.mul_assoc, Nat.zero_mul]
    omega

theorem digitsToNat_cons (c : Char) (cs : List Char) :
    digitsToNat (c :: cs) = digitVal c * 10 ^ cs.length + digitsToNat cs := by
  have := foldl_digits_shift cs (0 * 10 + digitVal c)
  simp only [digitsToNat, List.foldl_cons] at this ⊢
  rw [this]; simp

theorem digitVal_le (c : Char) (h : isDigit c = true) : digitVal c ≤ 9 ∧ c.toNat = digitVal c + 48 := by
  simp only [isDigit, Bool.and_eq_true, decide_eq_true_eq] at h
  unfold digitVal; omega

theorem digitsToNat_lt : ∀ (cs : List Char), (∀ c ∈ cs, isDigit c = true) → digitsToNat cs < 10 ^ cs.length := by
  intro cs; induction cs with
  | nil => intro _; simp [digitsToNat]
  | cons c cs ih =>
    intro h
    have hc := (digitVal_le c (h c (by simp))).1
    have hr := ih (fun d hd => h d (by simp [hd]))
    rw [digitsToNat_cons, List.length_cons, Nat.pow_succ]
    have hm : digitVal c * 10 ^ cs.length ≤ 9 * 10 ^ cs.length := Nat.mul_le_mul_right _ hc
    generalize digitVal c * 10 ^ cs.length = x at hm
    generalize 10 ^ cs.length = P at hm hr
    omega

theorem digitsToNat_ge (c : Char) (cs : List Char) (hc : isDigit c = true) (h0 : c ≠ '0') :
    10 ^ cs.length ≤ digitsToNat (c :: cs) := by
  rw [digitsToNat_cons]
  have h1 : 1 ≤ digitVal c := by
    have := digitVal_le c hc
    have : c.toNat ≠ 48 := fun e => h0 (char_eq_of_toNat e)
    omega
  have hm : 1 * 10 ^ cs.length ≤ digitVal c * 10 ^ cs.length := Nat.mul_le_mul_right _ h1
  omega

theorem digitsToNat_pos (y : Char) (ys : List Char) (hd : isDigit y = true) (h0 : y ≠ '0') :
    0 < digitsToNat (y :: ys) :=
  Nat.lt_of_lt_of_le (Nat.pow_pos (by omega)) (digitsToNat_ge y ys hd h0)

/-! ## `big.Int.SetString` -/

theorem toBig_nil : toBig [] = none := by decide
theorem toBig_zero : toBig ['0'] = some 0 := by decide

/-- without a sign `SetString` looks at the digits only -/
theorem toBig_cons (c : Char) (cs : List Char) (h1 : c ≠ '-') (h2 : c ≠ '+') :
    toBig (c :: cs) = if (c :: cs).all isDigit then some ((digitsToNat (c :: cs) : Nat) : Int) else none := by
  unfold toBig
  split
  · rename_i ds heq; injection heq with e1 e2; exact absurd e1 h1
  · rename_i ds heq; injection heq with e1 e2; exact absurd e1 h2
  · cases (c :: cs).all isDigit <;> rfl

theorem digit_not_sign {c : Char} (h : isDigit c = true) : c ≠ '-' ∧ c ≠ '+' :=
  ⟨ne_of_class h (by decide), ne_of_class h (by decide)⟩

theorem toBig_digits_eq {d : List Char} (h : d.all isDigit = true) (hne : d ≠ []) : toBig d = some (digitsToNat d : Int) := by
  cases d with
  | nil => exact absurd rfl hne
  | cons c cs =>
    have hc := digit_not_sign (List.all_eq_true.mp h c (by simp))
    rw [toBig_cons c cs hc.1 hc.2, h]; rfl

/-! ## `Nat.toDigits 10` -/

abbrev D (n : Nat) : List Char := Nat.toDigits 10 n

theorem digitChar_props (n : Nat) (h : n < 10) : isDigit n.digitChar = true ∧ digitVal n.digitChar = n ∧ (0 < n → n.digitChar ≠ '0') := by
  have : n = 0 ∨ n = 1 ∨ n = 2 ∨ n = 3 ∨ n = 4 ∨ n = 5 ∨ n = 6 ∨ n = 7 ∨ n = 8 ∨ n = 9 := by omega
  rcases this with h | h | h | h | h | h | h | h | h | h <;> subst h <;> decide

theorem D_step (n : Nat) (h : 10 ≤ n) : D n = D (n / 10) ++ [(n % 10).digitChar] := by
  have hr : n % 10 < 10 := Nat.mod_lt _ (by omega)
  have := @Nat.toDigits_append_toDigits 10 (n / 10) (n % 10) (by omega) (by omega) hr
  rw [Nat.toDigits_of_lt_base hr] at this
  rw [Nat.div_add_mod] at this
  exact this.symm

theorem toDigits_props : ∀ (k n : Nat), n < k →
    (D n).all isDigit = true ∧ digitsToNat (D n) = n ∧ ∃ c r, D n = c :: r ∧ (0 < n → c ≠ '0') := by
  intro k; induction k with
  | zero => intro n h; omega
  | succ k ih =>
    intro n h
    by_cases hlt : n < 10
    · obtain ⟨h1, h2, h3⟩ := digitChar_props n hlt
      rw [D, Nat.toDigits_of_lt_base hlt]
      exact ⟨by simp [h1], by simp [digitsToNat, h2], _, _, rfl, h3⟩
    · obtain ⟨a1, a2, c, r, a3, a4⟩ := ih (n / 10) (by omega)
      obtain ⟨h1, h2, _⟩ := digitChar_props (n % 10) (Nat.mod_lt _ (by omega))
      rw [D_step n (by omega)]
      refine ⟨by simp [a1, h1], ?_, c, r ++ [(n % 10).digitChar], by rw [a3]; rfl, fun _ => a4 (by omega)⟩
      rw [digitsToNat_append, a2, h2]; omega

theorem D_all (n : Nat) : (D n).all isDigit = true := (toDigits_props (n + 1) n (by omega)).1
theorem D_val (n : Nat) : digitsToNat (D n) = n := (toDigits_props (n + 1) n (by omega)).2.1
theorem D_digits (n : Nat) : ∀ x ∈ D n, isDigit x = true := fun x hx => List.all_eq_true.mp (D_all n) x hx

theorem D_cons_canon (n : Nat) : ∃ d ds, D n = d :: ds ∧ isDigit d = true ∧ (0 < n → d ≠ '0') := by
  obtain ⟨_, _, c, r, h, h0⟩ := toDigits_props (n + 1) n (by omega)
  exact ⟨c, r, h, D_digits n c (by rw [h]; simp), h0⟩

theorem D_cons (n : Nat) : ∃ d ds, D n = d :: ds ∧ isDigit d = true := by
  obtain ⟨d, ds, h, hd, _⟩ := D_cons_canon n
  exact ⟨d, ds, h, hd⟩

theorem D_ne (n : Nat) : D n ≠ [] := by
  obtain ⟨d, ds, h, _⟩ := D_cons n; rw [h]; simp

theorem isEmpty_D (n : Nat) : (D n).isEmpty = false := by
  obtain ⟨d, ds, h, _⟩ := D_cons n; rw [h]; rfl

theorem D_no (n : Nat) (sep : Char) (hs : isDigit sep = false) : ∀ c ∈ D n, c ≠ sep := by
  intro c hc e
  have := D_digits n c hc
  rw [e, hs] at this; exact absurd this (by simp)

theorem stops_D (f : Char → Bool) (hf : ∀ c, isDigit c = true → f c = false) (n : Nat) (rest : List Char) :
    Stops f (D n ++ rest) := by
  obtain ⟨d, ds, h, hd⟩ := D_cons n
  exact Or.inr ⟨d, ds ++ rest, by rw [h]; rfl, hf d hd⟩

theorem D_eq_zero (n : Nat) (h : D n = ['0']) : n = 0 := by
  have := D_val n
  rw [h] at this
  simpa [digitsToNat, digitVal] using this.symm

theorem toBig_D (n : Nat) : toBig (D n) = some (n : Int) := by
  rw [toBig_digits_eq (D_all n) (D_ne n), D_val]

/-- a canonical numeral: a single digit or no leading zero -/
theorem D_canon (n : Nat) : ((D n).length > 1 && (D n).head? = some '0') = false := by
  obtain ⟨d, ds, h, _, h0⟩ := D_cons_canon n
  by_cases hn : n < 10
  · rw [D, Nat.toDigits_of_lt_base hn]; rfl
  · have := h0 (by omega)
    simp [h, this]

/-! ## `big.Int.String` -/

theorem toBig_intToChars (n : Int) : toBig (intToChars n) = some n := by
  unfold intToChars
  have hD := toBig_D n.natAbs
  by_cases hn : n < 0
  · simp only [hn, if_true, toBig, isEmpty_D, D_all, Bool.not_true, Bool.or_self, Bool.false_eq_true, if_false, D_val]
    congr 1; omega
  · simp only [hn, if_false]
    rw [hD]; congr 1; omega

theorem intToChars_zero : intToChars 0 = ['0'] := by decide

theorem intToChars_inj {a b : Int} (h : intToChars a = intToChars b) : a = b :=
  Option.some.inj ((toBig_intToChars a).symm.trans (h ▸ toBig_intToChars b))

theorem itc_ne_nil (a : Int) : intToChars a ≠ [] := by
  intro h
  have := toBig_intToChars a
  rw [h, toBig_nil] at this
  exact absurd this (by simp)

/-! ## lists of numbers and their dotted text -/

def castNums (ns : List Nat) : List Int := ns.map (fun (n : Nat) => (n : Int))

/-- `components.Cmp` on non-negative components -/
theorem compsCmp_cast (ns ms : List Nat) : compsCmp (castNums ns) (castNums ms) = cmpPad ncmp 0 ns ms :=
  cmpPad_image (fun n : Nat => (n : Int)) 0 (Q := fun _ => True) trivial (fun a b _ _ => icmp_cast a b) ns ms
    (fun _ _ => trivial) (fun _ _ => trivial)

/-- `.n` for every number of the list -/
def dotted : List Nat → List Char
  | [] => []
  | n :: rest => '.' :: (D n ++ dotted rest)

theorem splitOn_dotted : ∀ (n : Nat) (rest : List Nat),
    splitOn '.' (D n ++ dotted rest) = (n :: rest).map D := by
  intro n rest; induction rest generalizing n with
  | nil => simp only [dotted, List.append_nil, List.map]; exact splitOn_no_sep '.' _ (D_no n '.' (by decide))
  | cons m ms ih =>
    simp only [dotted]
    rw [splitOn_append_sep '.' _ _ (D_no n '.' (by decide)), ih m]
    rfl

/-! ## comparing canonical decimal strings -/

/-- two-digit numbers to the base `P`: the leading digits decide, then the rests -/
theorem ncmp_base (P d e x y : Nat) (hx : x < P) (hy : y < P) :
    ncmp (d * P + x) (e * P + y) = (ncmp d e).then (ncmp x y) := by
  rcases Nat.lt_trichotomy d e with h | h | h
  · have hm : (d + 1) * P ≤ e * P := Nat.mul_le_mul_right _ h
    rw [Nat.add_mul, Nat.one_mul] at hm
    rw [ncmp_lt.mpr h, ncmp_lt.mpr (by omega)]; rfl
  · rw [h, ncmp_eq.mpr rfl, ncmp_mono (e * P + ·) (fun _ _ h => by omega)]; rfl
  · have hm : (e + 1) * P ≤ d * P := Nat.mul_le_mul_right _ h
    rw [Nat.add_mul, Nat.one_mul] at hm
    rw [ncmp_gt.mpr h, ncmp_gt.mpr (by omega)]; rfl

/-- digit strings of the same length: string order is numeric order -/
theorem strCmp_digits_eqlen : ∀ (x y : List Char), (∀ c ∈ x, isDigit c = true) → (∀ c ∈ y, isDigit c = true) →
    x.length = y.length → strCmp x y = ncmp (digitsToNat x) (digitsToNat y)
  | [], [], _, _, _ => rfl
  | [], _ :: _, _, _, hl => by simp at hl
  | _ :: _, [], _, _, hl => by simp at hl
  | c :: cs, d :: ds, hx, hy, hl => by
    have hl' : cs.length = ds.length := by simpa using hl
    have hc := (digitVal_le c (hx c (by simp))).2
    have hd := (digitVal_le d (hy d (by simp))).2
    have ih := strCmp_digits_eqlen cs ds (fun e he => hx e (by simp [he])) (fun e he => hy e (by simp [he])) hl'
    rw [digitsToNat_cons, digitsToNat_cons, hl', ncmp_base _ _ _ _ _ (hl' ▸ digitsToNat_lt cs fun e he => hx e (by simp [he]))
      (digitsToNat_lt ds fun e he => hy e (by simp [he])), ← ih,
      ← ncmp_mono (· + 48) (fun _ _ h => by omega) (digitVal c) (digitVal d), ← hc, ← hd]
    rfl

/-- a decimal string without leading zeros (the empty string stands for 0) -/
def DecCanon (x : List Char) : Prop := (∀ c ∈ x, isDigit c = true) ∧ ∀ c r, x = c :: r → c ≠ '0'

theorem dec_shorter_lt (x y : List Char) (hx : DecCanon x) (hy : DecCanon y) (h : x.length < y.length) :
    digitsToNat x < digitsToNat y := by
  cases y with
  | nil => simp at h
  | cons d ds =>
    have h1 := digitsToNat_lt x hx.1
    have h2 := digitsToNat_ge d ds (hy.1 d (by simp)) (hy.2 d ds rfl)
    have h3 : 10 ^ x.length ≤ 10 ^ ds.length := Nat.pow_le_pow_right (by omega) (by simp at h; omega)
    omega

/-- "longer wins, else compare as strings" on canonical decimal strings = numeric comparison -/
theorem dec_cmp (x y : List Char) (hx : DecCanon x) (hy : DecCanon y) :
    (ncmp x.length y.length).then (strCmp x y) = ncmp (digitsToNat x) (digitsToNat y) := by
  rcases Nat.lt_trichotomy x.length y.length with h | h | h
  · rw [ncmp_lt.mpr h, ncmp_lt.mpr (dec_shorter_lt x y hx hy h)]; rfl
  · rw [ncmp_eq.mpr h]; exact strCmp_digits_eqlen x y hx.1 hy.1 h
  · rw [ncmp_gt.mpr h, ncmp_gt.mpr (dec_shorter_lt y x hy hx h)]; rfl

/-- the digits of `n` with leading zeros stripped -/
def stripD (n : Nat) : List Char := (D n).dropWhile (· = '0')

theorem stripD_props (n : Nat) : DecCanon (stripD n) ∧ digitsToNat (stripD n) = n := by
  unfold stripD
  by_cases h0 : n = 0
  · subst h0
    have : D 0 = ['0'] := by decide
    rw [this]
    simp [DecCanon, digitsToNat]
  · obtain ⟨c, r, h1, _, h2⟩ := D_cons_canon n
    have h2 := h2 (by omega)
    have hd : (D n).dropWhile (· = '0') = D n := by rw [h1]; simp [List.dropWhile, h2]
    rw [hd]
    refine ⟨⟨D_digits n, ?_⟩, D_val n⟩
    intro c' r' e
    rw [h1] at e
    injection e with e1 _
    rw [← e1]; exact h2

end Scalibr.Semantic
