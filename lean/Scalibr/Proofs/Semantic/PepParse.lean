/-
C07 — PEP 440, part 1: how the backtracking recogniser of the PyPI model behaves on a normalised
version text. Only the HEAD of the list of parses matters (`FindStringSubmatch` takes the first
parse that consumes everything): `Hd p s c r` says that the highest-priority parse of `p` on `s` is `r`.
-/
import Scalibr.Spec.Semantic.PyPI
import Scalibr.Proofs.Semantic.PyPI
import Scalibr.Proofs.Semantic.Decimal
namespace Scalibr.Semantic
open PepSpec

/-- the first (highest-priority) parse -/
def Hd (p : PP) (s : List Char) (c : Caps) (r : List Char × Caps) : Prop := (p s c).head? = some r

theorem Hd.cons {p : PP} {s c r} (h : Hd p s c r) : ∃ t, p s c = r :: t := List.head?_eq_some_iff.mp h

theorem Hd.of_eq {p : PP} {s c r} (h : p s c = [r]) : Hd p s c r := by rw [Hd, h]; rfl

theorem Hd.seq {a b : PP} {s c r1 r2} (h1 : Hd a s c r1) (h2 : Hd b r1.1 r1.2 r2) : Hd (pSeq a b) s c r2 := by
  obtain ⟨t, e⟩ := h1.cons
  rw [Hd, pSeq, e, List.flatMap_cons, List.head?_append, h2, Option.some_or]

theorem Hd.altR {a b : PP} {s c r} (ha : a s c = []) (h : Hd b s c r) : Hd (pAlt a b) s c r := by
  rw [Hd, pAlt, ha]; exact h

theorem Hd.eps (s c) : Hd pEps s c (s, c) := rfl

theorem Hd.optSome {a : PP} {s c r} (h : Hd a s c r) : Hd (pOpt a) s c r := by
  rw [Hd, pOpt, pAlt, List.head?_append, h, Option.some_or]

theorem Hd.optNone {a : PP} {s c} (ha : a s c = []) : Hd (pOpt a) s c (s, c) := Hd.altR ha (Hd.eps s c)

theorem pSeq_all_nil {a b : PP} {s c} (h : ∀ r ∈ a s c, b r.1 r.2 = []) : pSeq a b s c = [] :=
  List.flatMap_eq_nil_iff.mpr h

theorem pSeq_nil {a b : PP} {s c} (h : a s c = []) : pSeq a b s c = [] :=
  pSeq_all_nil (by rw [h]; exact fun _ hr => nomatch hr)

/-! ## runs, single characters -/

theorem Stops.takeWhile {f : Char → Bool} {s : List Char} (h : Stops f s) : s.takeWhile f = [] := by
  rcases h with rfl | ⟨x, u, rfl, hx⟩
  · rfl
  · simp [List.takeWhile, hx]

/-- the greedy run takes exactly `ds` -/
theorem Hd.run (f : Char → Bool) (cap : Option Cap) (ds rest : List Char) (c : Caps)
    (hds : ∀ x ∈ ds, f x = true) (hne : ds ≠ []) (hrest : Stops f rest) :
    Hd (pRun f 1 cap) (ds ++ rest) c (rest, capAdd cap ds c) := by
  obtain ⟨d, ds', rfl⟩ := List.exists_cons_of_ne_nil hne
  rw [Hd, pRun, (takeWhile_append_stop f _ rest hds hrest).1]
  simp [lengthsDown]

theorem pRun_start (f : Char → Bool) (cap : Option Cap) (s : List Char) (c : Caps) (h : Stops f s) :
    pRun f 0 cap s c = [(s, capAdd cap [] c)] := by
  simp [pRun, h.takeWhile, lengthsDown]

theorem pRun_none (f : Char → Bool) (cap : Option Cap) (s : List Char) (c : Caps) (h : Stops f s) :
    pRun f 1 cap s c = [] := by
  simp [pRun, h.takeWhile, lengthsDown]

theorem pLit_hit (l rest : List Char) (c : Caps) : pLit l (l ++ rest) c = [(rest, c)] := by
  simp [pLit, hasPrefix]

theorem pLit_miss (x : Char) (s : List Char) (c : Caps) (h : Stops (· == x) s) : pLit [x] s c = [] := by
  rcases h with rfl | ⟨y, u, rfl, hy⟩
  · rfl
  · have : x ≠ y := fun e => by simp [e] at hy
    simp [pLit, hasPrefix, this]

theorem pChar_hit (f : Char → Bool) (x : Char) (r : List Char) (c : Caps) (h : f x = true) : pChar f (x :: r) c = [(r, c)] :=
  if_pos h

theorem pChar_miss (f : Char → Bool) (s : List Char) (c : Caps) (h : Stops f s) : pChar f s c = [] := by
  rcases h with rfl | ⟨x, u, rfl, hx⟩
  · rfl
  · simp [pChar, hx]

/-! ## one of several words -/

/-- the two words differ at a position both have: neither is a prefix of the other -/
def clash (a w : List Char) : Bool := !a.isPrefixOf w && !w.isPrefixOf a

theorem hasPrefix_clash : ∀ (a w u : List Char), clash a w = true → hasPrefix a (w ++ u) = false
  | [], _, _, h => by simp [clash] at h
  | _ :: _, [], _, h => by simp [clash] at h
  | x :: a, y :: w, u, h => by
    simp only [clash, List.isPrefixOf_cons_cons, Bool.beq_comm (a := y)] at h
    simp only [hasPrefix, List.cons_append, List.isPrefixOf_cons_cons]
    cases hxy : x == y with
    | false => rfl
    | true => exact hasPrefix_clash a w u (by simpa [clash, hxy] using h)

/-- the first alternative that is a prefix wins -/
theorem Hd.capLit (name : Cap) (alts : List (List Char)) (word rest : List Char) (c : Caps) (hm : word ∈ alts)
    (hfirst : ∀ a ∈ alts.takeWhile (· != word), clash a word = true) :
    Hd (pCapLit name alts) (word ++ rest) c (rest, (name, word) :: c) := by
  rw [Hd, pCapLit, List.head?_filterMap]
  induction alts with
  | nil => exact nomatch hm
  | cons a as ih =>
    rw [List.findSome?_cons]
    by_cases e : a = word
    · subst e; simp [hasPrefix]
    · have hne : (a != word) = true := by simpa using e
      rw [List.takeWhile_cons, hne] at hfirst
      rw [hasPrefix_clash a word rest (hfirst a (by simp))]
      exact ih ((List.mem_cons.mp hm).resolve_left (Ne.symm e)) (fun x hx => hfirst x (by simp [hx]))

theorem pCapLit_none (name : Cap) (alts : List (List Char)) (s : List Char) (c : Caps)
    (h : ∀ a ∈ alts, hasPrefix a s = false) : pCapLit name alts s c = [] := by
  rw [pCapLit, List.filterMap_eq_nil_iff]
  intro a ha
  rw [h a ha]; rfl

/-! ## captured groups -/

/-- a capture group records the text its body consumed -/
theorem Hd.capture (name : Cap) {a : PP} {pre rest : List Char} {c c1 : Caps} (h : Hd a (pre ++ rest) c (rest, c1)) :
    Hd (pCapture name a) (pre ++ rest) c (rest, (name, pre) :: c1) := by
  rw [Hd, pCapture, List.head?_map, h]
  simp

theorem Hd.star_stop {it : PP} {s : List Char} {c : Caps} (h : it s c = []) : ∀ k, Hd (pStar it k) s c (s, c)
  | 0 => Hd.eps s c
  | k + 1 => by simp [Hd, pStar, h]

theorem Hd.star_step {it : PP} {s r : List Char} {c c' : Caps} {k : Nat} {res : List Char × Caps} (h1 : Hd it s c (r, c'))
    (hlen : r.length < s.length) (h2 : Hd (pStar it k) r c' res) : Hd (pStar it (k + 1)) s c res := by
  obtain ⟨t, e⟩ := h1.cons
  rw [Hd] at h2
  simp only [Hd, pStar, e, List.flatMap_cons, if_pos hlen, List.append_assoc, List.head?_append, h2, Option.some_or]

theorem stops_dots (f : Char → Bool) (hdot : f '.' = false) (ts : List (List Char)) (tail : List Char)
    (htail : Stops f tail) : Stops f ((ts.map ('.' :: ·)).flatten ++ tail) := by
  cases ts with
  | nil => exact htail
  | cons u us => exact Or.inr ⟨'.', _, rfl, hdot⟩

/-- a captured sequence `run (sep run)*` on runs joined by dots: the greedy star goes through every
member and stops at `tail`; every iteration consumes input, so the length of the text is fuel enough -/
theorem Hd.dotted (name : Cap) (f : Char → Bool) (sep : PP) (hdot : f '.' = false)
    (hsep : ∀ r c, sep ('.' :: r) c = [(r, c)]) (tail : List Char) (hstop : Stops f tail)
    (htail : ∀ c, pSeq sep (pRun f 1 none) tail c = [])
    (t : List Char) (ts : List (List Char)) (hts : ∀ u ∈ t :: ts, u ≠ [] ∧ ∀ x ∈ u, f x = true)
    (fuel : Nat) (hfuel : (dotJoin (t :: ts) ++ tail).length ≤ fuel) (c : Caps) :
    Hd (pCapture name (pSeq (pRun f 1 none) (pStar (pSeq sep (pRun f 1 none)) fuel))) (dotJoin (t :: ts) ++ tail) c
      (tail, (name, dotJoin (t :: ts)) :: c) := by
  have star : ∀ (ts : List (List Char)) (fuel : Nat), ((ts.map ('.' :: ·)).flatten ++ tail).length ≤ fuel →
      (∀ u ∈ ts, u ≠ [] ∧ ∀ x ∈ u, f x = true) →
      Hd (pStar (pSeq sep (pRun f 1 none)) fuel) ((ts.map ('.' :: ·)).flatten ++ tail) c (tail, c) := by
    intro ts
    induction ts with
    | nil => exact fun fuel _ _ => Hd.star_stop (htail c) fuel
    | cons u us ih =>
      intro fuel hf hus
      simp only [List.map_cons, List.flatten_cons, List.cons_append, List.append_assoc, List.length_cons,
        List.length_append] at hf ⊢
      cases fuel with
      | zero => omega
      | succ k =>
        exact Hd.star_step
          (Hd.seq (Hd.of_eq (hsep _ c))
            (Hd.run f none u _ c (hus u (by simp)).2 (hus u (by simp)).1 (stops_dots f hdot us tail hstop)))
          (by simp only [List.length_cons, List.length_append]; omega)
          (ih k (by rw [List.length_append]; omega) fun x hx => hus x (by simp [hx]))
  rw [dotJoin_cons] at hfuel ⊢
  refine Hd.capture name ?_
  rw [List.append_assoc] at hfuel ⊢
  rw [List.length_append] at hfuel
  exact Hd.seq (Hd.run f none t _ c (hts t (by simp)).2 (hts t (by simp)).1 (stops_dots f hdot ts tail hstop))
    (star ts fuel (by omega) fun u hu => hts u (by simp [hu]))

end Scalibr.Semantic
