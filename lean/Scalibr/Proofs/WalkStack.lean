/-
The gitignore stack discipline of model A, for EVERY tree, fault plan, limit and cancellation point:
`walkNode` returns with `wc.gitignores` and `wc.gitignoreDirs` exactly as it found them, and the
engine itself never panics (the deferred pop only ever removes what the same directory pushed).
The model mirrors the code after fix 7a773e8c (the deferred `postHandleFile` pops only what its own directory pushed).
-/
import Scalibr.Proofs.WalkStep
namespace Scalibr.Walk

theorem prologue_nopanic (c : Cfg) (s : St) : (prologue c s).2 ≠ some .panic := by
  have h := aPro_err c (abs s)
  rw [prologue_abs] at h
  rcases h with h | h | h <;> rw [h] <;> simp

theorem fserrCall_same (c : Cfg) (s : St) : SameStack s (fserrCall c s).1 ∧ (fserrCall c s).2 ≠ .panic := by
  rw [fserrCall_fst, fserrCall_snd]
  refine ⟨prologue_same c s, ?_⟩
  have h := prologue_nopanic c s
  generalize (prologue c s).2 = e at h ⊢
  cases e with
  | some e => exact fun h' => h (congrArg some h')
  | none => simp only []; split <;> simp

theorem handleLeaf_same (c : Cfg) (hx : NoExtractorPanic c) (f : Faults) (s : St) (p : Path) (k : Kind) (size : Nat) :
    SameStack s (handleLeaf c f s p k size).1 ∧ (handleLeaf c f s p k size).2 ≠ some .panic := by
  obtain ⟨cs, _, _, hst, hres⟩ := handleLeaf_spec c f s.gis s p k size (fun _ => rfl)
  refine ⟨hst, ?_⟩
  rcases hres with ⟨h, _⟩ | ⟨_, e, he⟩
  · rw [h]; split <;> simp
  · rw [hx e p] at he; cases he

theorem pushGi_cases (c : Cfg) (f : Faults) (s : St) (p : Path) (gi : Option PatSet) :
    (c.useGitignore = false ∧ pushGi c f s p gi = (s, none)) ∨
    (c.useGitignore = true ∧ pushGi c f s p gi = (s, some .fs)) ∨
    (c.useGitignore = true ∧ ∃ x, pushGi c f s p gi = (pushed s p x, none)) := by
  rw [pushGi_eq]
  cases c.useGitignore
  · exact Or.inl ⟨rfl, rfl⟩
  · refine Or.inr ?_
    cases excludedDir c s.gis p
    · cases (f.openFail (p ++ [".gitignore"]) && c.errorOnFSErrors)
      · exact Or.inr ⟨rfl, _, rfl⟩
      · exact Or.inl ⟨rfl, rfl⟩
    · exact Or.inr ⟨rfl, _, rfl⟩

theorem short_pushed {s : St} {p : Path} (h : ∀ d ∈ s.giDirs, d.length < p.length) (x : GiEntry) :
    ∀ d ∈ (pushed s p x).giDirs, d.length < p.length + 1 := by
  intro d hd
  rcases List.mem_append.mp hd with hd | hd
  · exact Nat.lt_succ_of_lt (h d hd)
  · rw [List.mem_singleton.mp hd]; exact Nat.lt_succ_self _

mutual
theorem walkNode_stack (c : Cfg) (hx : NoExtractorPanic c) (f : Faults) (p : Path) :
    ∀ (n : Node) (s : St), (∀ d ∈ s.giDirs, d.length < p.length) →
      SameStack s (walkNode c f s p n).1 ∧ (walkNode c f s p n).2 ≠ .panic
  | .file k size, s, _ => by
    simp only [walkNode]
    have h1 := prologue_same c s
    have h2 := prologue_nopanic c s
    generalize prologue c s = r at h1 h2 ⊢
    obtain ⟨s1, e1⟩ := r
    cases e1 with
    | some e => exact ⟨h1, fun h => h2 (congrArg some h)⟩
    | none =>
      simp only []
      have := handleLeaf_same c hx f s1 p k size
      refine ⟨h1.trans this.1, ?_⟩
      generalize (handleLeaf c f s1 p k size).2 = e2 at this ⊢
      cases e2 with
      | none => simp
      | some e => exact fun h => this.2 (congrArg some h)
  | .dir gi es, s, hshort => by
    simp only [walkNode]
    have h1 := prologue_same c s
    have h2 := prologue_nopanic c s
    generalize prologue c s = r at h1 h2 ⊢
    obtain ⟨s1, e1⟩ := r
    have hshort1 : ∀ d ∈ s1.giDirs, d.length < p.length := by rw [h1.2]; exact hshort
    cases e1 with
    | some e =>
      simp only []
      rw [popOnExit_nopush c s1 p e hshort1]
      exact ⟨h1, fun h => h2 (congrArg some h)⟩
    | none =>
      simp only []
      rcases pushGi_cases c f s1 p gi with ⟨hu, hpg⟩ | ⟨hu, hpg⟩ | ⟨hu, x, hpg⟩ <;> rw [hpg] <;> simp only []
      · -- gitignore handling off: nothing is pushed or popped
        simp only [popOnExit_nogi c hu]
        split
        · exact ⟨h1, by simp⟩
        · split
          · have := fserrCall_same c s1
            exact ⟨h1.trans this.1, this.2⟩
          · have := walkEntries_stack c hx f p es 0 s1 (fun d hd => Nat.lt_succ_of_lt (hshort1 d hd))
            exact ⟨h1.trans this.1, this.2⟩
      · -- unreadable .gitignore with fatal errors: returns before the push
        rw [popOnExit_nopush c s1 p .fs hshort1]
        exact ⟨h1, by simp⟩
      · -- whatever the body does, it is stack-neutral, so the pop undoes exactly this directory's push
        have pop : ∀ r : St × Err, SameStack (pushed s1 p x) r.1 → r.2 ≠ .panic →
            SameStack s (popOnExit c r.1 p r.2).1 ∧ (popOnExit c r.1 p r.2).2 ≠ .panic := by
          intro r hr hne
          have := popOnExit_pushed c hu s1 r.1 p r.2 x hr
          exact ⟨h1.trans this.1, by rw [this.2]; exact hne⟩
        split
        · exact pop (pushed s1 p x, .none) (SameStack.refl _) (by simp)
        · split
          · exact pop _ (fserrCall_same c _).1 (fserrCall_same c _).2
          · have := walkEntries_stack c hx f p es 0 (pushed s1 p x) (short_pushed hshort1 x)
            exact pop _ this.1 this.2
theorem walkEntries_stack (c : Cfg) (hx : NoExtractorPanic c) (f : Faults) (p : Path) :
    ∀ (es : List (String × Node)) (k : Nat) (s : St), (∀ d ∈ s.giDirs, d.length < p.length + 1) →
      SameStack s (walkEntries c f s p es k).1 ∧ (walkEntries c f s p es k).2 ≠ .panic
  | [], k, s, _ => by
    simp only [walkEntries]
    split
    · exact fserrCall_same c s
    · exact ⟨SameStack.refl s, by simp⟩
  | (name, n) :: rest, k, s, hshort => by
    simp only [walkEntries]
    split
    · exact fserrCall_same c s
    · have h1 := walkNode_stack c hx f (p ++ [name]) n s (by simpa using hshort)
      generalize walkNode c f s (p ++ [name]) n = r at h1 ⊢
      obtain ⟨s1, e1⟩ := r
      simp only []
      split
      · exact h1
      · have h2 := walkEntries_stack c hx f p rest (k+1) s1 (by rw [h1.1.2]; exact hshort)
        exact ⟨h1.1.trans h2.1, h2.2⟩
end

/-! ### the engine never panics (every configuration, fault plan, limit, cancellation point) -/

/-- between walks both gitignore stacks are empty -/
def Clean (s : St) : Prop := s.gis = [] ∧ s.giDirs = []

theorem Clean.of_same {s s' : St} (hi : Clean s) (h : SameStack s s') : Clean s' := ⟨h.1.trans hi.1, h.2.trans hi.2⟩

theorem walkRequested_stack (c : Cfg) (hx : NoExtractorPanic c) (f : Faults) (root : Node) (p : Path) (s : St)
    (hi : Clean s) : Clean (walkRequested c f s root p).1 ∧ (walkRequested c f s root p).2 ≠ .panic := by
  have report : Clean (fserrCall c s).1 ∧ (fserrCall c s).2 ≠ .panic :=
    ⟨hi.of_same (fserrCall_same c s).1, (fserrCall_same c s).2⟩
  have node : ∀ (t : St) (n : Node), t.giDirs = [] →
      SameStack t (walkNode c f t p n).1 ∧ (walkNode c f t p n).2 ≠ .panic := fun t n ht =>
    walkNode_stack c hx f p n t (by rw [ht]; exact fun _ h => nomatch h)
  rw [walkRequested_eq]
  split
  · exact report
  · cases lookup root p with
    | none => exact report
    | some n =>
      cases n with
      | file k sz =>
        have := node s (.file (statKind k) sz) hi.2
        exact ⟨hi.of_same this.1, this.2⟩
      | dir gi es =>
        simp only []
        split
        · exact ⟨hi, by simp⟩
        · have hd : (if c.useGitignore then { s with gis := (parentGis f root p).1 } else s).giDirs = [] := by
            split <;> exact hi.2
          have := node _ (.dir gi es) hd
          exact ⟨⟨rfl, this.1.2.trans hd⟩, this.2⟩

theorem walkPaths_stack (c : Cfg) (hx : NoExtractorPanic c) (f : Faults) (root : Node) :
    ∀ (ps : List Path) (s : St), Clean s →
      Clean (walkPaths c f root s ps).1 ∧ (walkPaths c f root s ps).2 ≠ .panic
  | [], s, hi => ⟨hi, by simp [walkPaths]⟩
  | p :: rest, s, hi => by
    simp only [walkPaths]
    have h1 := walkRequested_stack c hx f root p s hi
    generalize walkRequested c f s root p = x at h1 ⊢
    obtain ⟨s1, e1⟩ := x
    simp only []
    split
    · exact h1
    · exact walkPaths_stack c hx f root rest s1 h1.1

theorem runRoot_stack (c : Cfg) (hx : NoExtractorPanic c) (f : Faults) (root : Node) (s : St) (hi : Clean s) :
    Clean (runRoot c f s root).1 ∧ (runRoot c f s root).2 ≠ .panic := by
  have hi' : Clean { s with pkgs := [], errs := [], found := [] } := hi
  rw [runRoot_eq]
  split
  · split
    · exact ⟨hi'.of_same (fserrCall_same c _).1, (fserrCall_same c _).2⟩
    · have := walkNode_stack c hx f [] root { s with pkgs := [], errs := [], found := [] }
        (by rw [hi'.2]; exact fun _ h => nomatch h)
      exact ⟨hi'.of_same this.1, this.2⟩
  · exact walkPaths_stack c hx f root _ _ hi'

theorem runRoots_nopanic (c : Cfg) (hx : NoExtractorPanic c) :
    ∀ (roots : List (Node × Faults)) (s : St) (acc : List Pkg) (sts : List (Nat × Status)), Clean s →
      (runRoots c s acc sts roots).err ≠ .panic
  | [], s, acc, sts, _ => by simp [runRoots]
  | (r, f) :: rest, s, acc, sts, hi => by
    simp only [runRoots]
    have h1 := runRoot_stack c hx f r s hi
    generalize runRoot c f s r = x at h1 ⊢
    obtain ⟨s1, e1⟩ := x
    simp only []
    split
    · exact h1.2
    · exact runRoots_nopanic c hx rest s1 _ _ h1.1

theorem run_nopanic (c : Cfg) (hx : NoExtractorPanic c) (roots : List (Node × Faults)) :
    (run c roots).err ≠ .panic := runRoots_nopanic c hx roots _ [] [] ⟨rfl, rfl⟩

end Scalibr.Walk
