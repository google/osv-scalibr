/-
Decidable forms of two hypotheses, so that the driver can tell the checks when a theorem applies:
`distinctB` (= `DistinctNames`) and `subdirHyp` (= the hypotheses of the sub-directory theorem `C01_subdir_partial`).
-/
import Scalibr.Proofs.WalkSubdir
namespace Scalibr.Walk

/-- no name occurs twice in the list (Boolean) -/
def nodupB : List String → Bool
  | [] => true
  | x :: xs => !xs.contains x && nodupB xs

theorem nodupB_iff : ∀ l : List String, nodupB l = true ↔ l.Nodup
  | [] => by simp [nodupB]
  | x :: xs => by simp [nodupB, nodupB_iff xs, List.nodup_cons]

mutual
/-- every directory of the tree lists distinct names (Boolean form of `DistinctNames`) -/
def distinctB : Node → Bool
  | .file _ _ => true
  | .dir _ es => nodupB (es.map (·.1)) && distinctBL es
def distinctBL : List (String × Node) → Bool
  | [] => true
  | (_, n) :: rest => distinctB n && distinctBL rest
end

mutual
theorem distinctB_iff : ∀ n : Node, distinctB n = true ↔ DistinctNames n
  | .file _ _ => by simp [distinctB, DistinctNames]
  | .dir _ es => by
    simp only [distinctB, DistinctNames, Bool.and_eq_true, nodupB_iff, distinctBL_iff es]
theorem distinctBL_iff : ∀ es : List (String × Node), distinctBL es = true ↔ DistinctNamesL es
  | [] => by simp [distinctBL, DistinctNamesL]
  | (_, n) :: rest => by
    simp only [distinctBL, DistinctNamesL, Bool.and_eq_true, distinctB_iff n, distinctBL_iff rest]
end

/-- the hypotheses of the sub-directory theorem, for the whole-tree configuration `c` (`paths = []`), fault plan `f`,
tree `root` and directory path `d`: no sub-directory cut-off, distinct sibling names, `d` is a directory of the tree, the
whole-tree walk REACHES it (every directory above it lets the walk through), and the two start points can be stat'ed -/
def subdirHyp (c : Cfg) (f : Faults) (root : Node) (d : Path) : Bool :=
  c.paths.isEmpty && !c.ignoreSubDirs && distinctB root && !f.statFail [] && !f.statFail d &&
  match chainOf [] root d with
  | some (chain, .dir _ _) => (List.range chain.length).all fun i => dirPasses c f [] chain i
  | _ => false

/-- **Sub-directory equivalence from the decidable hypothesis** (specification level). -/
theorem mustRequested_subdir_of_hyp (c : Cfg) (f : Faults) (root : Node) (d : Path) (h : subdirHyp c f root d = true) :
    mustRequested { c with paths := [d] } f root d = (mustRoot c f root).filter (fun cl => under d cl.path) := by
  unfold subdirHyp at h
  simp only [Bool.and_eq_true, Bool.not_eq_true', List.isEmpty_iff] at h
  obtain ⟨⟨⟨⟨⟨hp, hisd⟩, hdn⟩, hs0⟩, hsd⟩, hch⟩ := h
  cases hc : chainOf [] root d with
  | none => rw [hc] at hch; cases hch
  | some x =>
    obtain ⟨chain, m⟩ := x
    rw [hc] at hch
    cases m with
    | file k sz => cases hch
    | dir gi es =>
      simp only [List.all_eq_true, List.mem_range] at hch
      exact mustRequested_subdir c hp hisd f root ((distinctB_iff root).mp hdn) d gi es chain hc hch hs0 hsd

/-- a statement about what the two specifications owe, read on the two scans -/
theorem subdir_run (c : Cfg) (hb : Benign c) (ho : GiOK c) (f : Faults) (root : Node) (d : Path)
    (h : mustRequested { c with paths := [d] } f root d = (mustRoot c f root).filter (fun cl => under d cl.path)) :
    (run { c with paths := [d] } [(root, f)]).calls = (run c [(root, f)]).calls.filter (fun cl => under d cl.path) := by
  have hb' : Benign { c with paths := [d] } := hb
  have ho' : GiOK { c with paths := [d] } := ho
  rw [(run_spec _ hb' [(root, f)] ho').2, (run_spec c hb [(root, f)] ho).2]
  simp only [mustExtract, List.flatMap_cons, List.flatMap_nil, List.append_nil]
  rw [← h]
  simp [mustRoot]

end Scalibr.Walk
