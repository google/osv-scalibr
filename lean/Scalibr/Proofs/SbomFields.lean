/-
What a consumer reads off the exported documents: the exporters' loops (a uuid counter, two `continue`s) produce, field
for field and in inventory order, the specification's filter / map over the inventory.
-/
import Scalibr.Spec.SbomFields
namespace Scalibr.Sbom

theorem spdxLoop_fields {Purl : Type} (ops : PurlOps Purl) (env : Env) (mainId : String) (inv : List (Pkg Purl)) (k : Nat) :
    (spdxLoop ops env mainId k inv).1.map (fun p => (p.name, p.version, p.extRefs.map (·.locator), p.sourceInfo)) =
      inv.filterMap (spdxRecord ops) := by
  induction inv generalizing k with
  | nil => rfl
  | cons pkg rest ih =>
    unfold spdxLoop
    cases hp : pkg.purl with
    | none => simp [spdxRecord, hp, ih]
    | some u =>
      by_cases he : ops.name u = "" ∨ ops.version u = ""
      · simp [spdxRecord, hp, he, ih]
      · simp [spdxRecord, hp, he, ih]

theorem cdxLoop_fields {Purl : Type} (ops : PurlOps Purl) (env : Env) (inv : List (Pkg Purl)) (k : Nat) :
    (cdxLoop ops env k inv).map compFields =
      inv.map fun pkg => (pkg.name, pkg.version, (match pkg.purl with | some u => ops.str u | none => ""), pkg.locations) := by
  induction inv generalizing k with
  | nil => rfl
  | cons pkg rest ih =>
    simp only [cdxLoop, cdxComponent, compFields, List.map_cons, ih]
    cases pkg.purl <;> rfl

end Scalibr.Sbom
