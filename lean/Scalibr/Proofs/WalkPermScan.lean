/-
C08: order independence of WHOLE SCANS —

 * several scan roots, each root's tree rearranged INDEPENDENTLY (its own family of permutations `ρ`),
 * the error, the package multiset, the per-root plugin statuses (exact list), the emitted, sorted result of
   `scan` (package keys and statuses: exact lists), and the findings,
 * requested paths (`c.paths` arbitrary), for trees whose sibling names are distinct.

Route: `run_spec` / `run_results` (Proofs/WalkSpec.lean) make every result of a benign scan a function of the owed
calls `mustRoot c f root` of each root; packages and findings are a `flatMap` over the calls, statuses only ask
`contains` of `flatMap`s over the calls — all respect `List.Perm` (`scan_perm`).  So it suffices that the owed calls
of each root are a permutation of each other (`SameOwed`): `mustFrom_permute` (WalkPerm) for a whole-tree scan, and
for requested paths additionally `lookup_permute` / `parentGis_permute` below (the node found under a
requested path, and the `.gitignore` contents above it, are untouched by rearranging listings with
distinct names).
-/
import Scalibr.Proofs.WalkSpec
import Scalibr.Proofs.WalkMore
import Scalibr.Proofs.WalkPerm
import Scalibr.Model.Scan
namespace Scalibr.Walk

/-! ### inventory and statuses respect permutations of the call log -/

theorem pkgsOfCalls_perm (c : Cfg) {a b : List Call} (h : a.Perm b) : (pkgsOfCalls c a).Perm (pkgsOfCalls c b) :=
  List.Perm.flatMap_right _ h
theorem errsOfCalls_perm (c : Cfg) {a b : List Call} (h : a.Perm b) : (errsOfCalls c a).Perm (errsOfCalls c b) :=
  List.Perm.flatMap_right _ h
theorem foundOfCalls_perm (c : Cfg) {a b : List Call} (h : a.Perm b) : (foundOfCalls c a).Perm (foundOfCalls c b) :=
  List.Perm.flatMap_right _ h

/-- the status owed by an extractor for a root only depends on the MULTISET of calls owed to the root -/
theorem statusSpec_of_perm (c : Cfg) (f' f : Faults) (r' r : Node)
    (h : (mustRoot c f' r').Perm (mustRoot c f r)) (e : Nat) :
    statusSpec c f' r' e = statusSpec c f r e := by
  unfold statusSpec
  simp only []
  rw [(errsOfCalls_perm c h).contains_eq, (foundOfCalls_perm c h).contains_eq]

theorem findsOfCalls_perm (c : Cfg) {a b : List Call} (h : a.Perm b) : (findsOfCalls c a).Perm (findsOfCalls c b) :=
  List.Perm.flatMap_right _ h

/-- in a benign scan the findings are determined by the specification alone -/
theorem run_finds_spec (c : Cfg) (hb : Benign c) (ho : GiOK c) (roots : List (Node × Faults)) :
    (run c roots).finds = findsOfCalls c (mustExtract c roots) := by
  have h := run_spec c hb roots ho
  have hf : (run c roots).finds = if (run c roots).err = .none then findsOfCalls c (run c roots).calls else [] :=
    runRoots_finds c hb.2.2.2.2 roots _ [] [] rfl
  rw [hf, h.1, h.2]
  rfl

def SameOwed (c : Cfg) (roots' roots : List (Node × Faults)) : Prop :=
  (mustExtract c roots').Perm (mustExtract c roots) ∧
  (roots'.flatMap fun (r, f) => (List.range c.nExt).map fun e => (e, statusSpec c f r e)) =
    roots.flatMap fun (r, f) => (List.range c.nExt).map fun e => (e, statusSpec c f r e)

theorem SameOwed.cons {c : Cfg} {r' r : Node} {f : Faults} {roots' roots : List (Node × Faults)}
    (h : (mustRoot c f r').Perm (mustRoot c f r)) (ih : SameOwed c roots' roots) :
    SameOwed c ((r', f) :: roots') ((r, f) :: roots) := by
  unfold SameOwed mustExtract at *
  simp only [List.flatMap_cons]
  refine ⟨h.append ih.1, ?_⟩
  rw [ih.2]
  congr 1
  exact List.map_congr_left fun e _ => by rw [statusSpec_of_perm c f f r' r h e]

/-- **Generic transfer**: two forests whose roots owe the same calls up to order give — in a benign
configuration — both no error, the same packages up to order, the same status list, the same emitted (sorted)
result, and the same findings up to order. -/
theorem scan_perm (nm : Naming) (c : Cfg) (hb : Benign c) (ho : GiOK c) {roots' roots : List (Node × Faults)}
    (hcs : SameOwed c roots' roots) :
    ((run c roots').err = .none ∧ (run c roots).err = .none) ∧
    (run c roots').pkgs.Perm (run c roots).pkgs ∧
    (run c roots').statuses = (run c roots).statuses ∧
    (scan nm c roots').pkgs.map nm.key = (scan nm c roots).pkgs.map nm.key ∧
    (scan nm c roots').statuses = (scan nm c roots).statuses ∧
    (run c roots').finds.Perm (run c roots).finds := by
  have ea := run_spec c hb roots' ho
  have eb := run_spec c hb roots ho
  have ra := run_results c hb roots' ho
  have rb := run_results c hb roots ho
  have hpk : (run c roots').pkgs.Perm (run c roots).pkgs := by
    rw [ra.1, rb.1]; exact pkgsOfCalls_perm c hcs.1
  have hst : (run c roots').statuses = (run c roots).statuses := by
    rw [ra.2, rb.2]; exact hcs.2
  refine ⟨⟨ea.1, eb.1⟩, hpk, hst, ?_, ?_, ?_⟩
  · simp only [scan, ea.1, eb.1, ne_eq, not_true_eq_false, if_false]
    unfold pkgLt
    rw [isort_map_key keyLt nm.key, isort_map_key keyLt nm.key]
    exact keyLt_strictTotal.isort_perm_eq _ _ (hpk.map nm.key)
  · simp only [scan, ea.1, eb.1, ne_eq, not_true_eq_false, if_false]
    rw [hst]
  · rw [run_finds_spec c hb ho, run_finds_spec c hb ho]
    exact findsOfCalls_perm c hcs.1

/-! ### forests and their rearrangements -/

/-- a forest together with, for every root, its fault plan and the family of rearrangements applied to
the listings of THAT root's tree -/
abbrev RForest := List (Node × Faults × Rearr)

/-- the forest as given -/
def RForest.orig (rs : RForest) : List (Node × Faults) := rs.map fun t => (t.1, t.2.1)
/-- the same forest, every directory of root number `i` listed in the order chosen by the `i`-th `ρ`;
fault plans unchanged -/
def RForest.rearranged (rs : RForest) : List (Node × Faults) := rs.map fun t => (permuteTree t.2.2 [] t.1, t.2.1)

/-- every `ρ` of the forest really is a family of permutations -/
def RForest.Perms (rs : RForest) : Prop := ∀ t ∈ rs, ∀ p l, (t.2.2 p l).Perm l
/-- no fault plan of the forest contains a failing directory read -/
def RForest.NoReadFaults (rs : RForest) : Prop := ∀ t ∈ rs, Scalibr.Walk.NoReadFaults t.2.1
/-- sibling names are distinct in every tree of the forest -/
def RForest.Distinct (rs : RForest) : Prop := ∀ t ∈ rs, DistinctNames t.1

/-- the same relation between two forests, stated without naming the rearrangements: same length, and
root by root the same fault plan (free of failing reads) and a tree that is SOME rearrangement of the
other one -/
inductive Rearranged : List (Node × Faults) → List (Node × Faults) → Prop
  | nil : Rearranged [] []
  | cons {r : Node} {f : Faults} {roots' roots : List (Node × Faults)} (ρ : Rearr)
      (hρ : ∀ p l, (ρ p l).Perm l) (hf : Scalibr.Walk.NoReadFaults f) (rest : Rearranged roots' roots) :
      Rearranged ((permuteTree ρ [] r, f) :: roots') ((r, f) :: roots)

/-- the same with distinct sibling names in every (original) tree -/
inductive RearrangedDistinct : List (Node × Faults) → List (Node × Faults) → Prop
  | nil : RearrangedDistinct [] []
  | cons {r : Node} {f : Faults} {roots' roots : List (Node × Faults)} (ρ : Rearr)
      (hρ : ∀ p l, (ρ p l).Perm l) (hf : Scalibr.Walk.NoReadFaults f) (hd : DistinctNames r)
      (rest : RearrangedDistinct roots' roots) :
      RearrangedDistinct ((permuteTree ρ [] r, f) :: roots') ((r, f) :: roots)

/-! ### whole-tree scans -/

/-- whole-tree scan of one root: the owed calls of the rearranged tree are a permutation -/
theorem mustRoot_permute_whole (c : Cfg) (hp : c.paths = []) (f : Faults) (hf : NoReadFaults f)
    (ρ : Rearr) (hρ : ∀ p l, (ρ p l).Perm l) (root : Node) :
    (mustRoot c f (permuteTree ρ [] root)).Perm (mustRoot c f root) := by
  simp only [mustRoot, hp, List.isEmpty_nil, if_true]
  split
  · exact List.Perm.refl _
  · exact mustFrom_permute c f hf [] ρ hρ [] root

theorem Rearranged.sameOwed (c : Cfg) (hp : c.paths = []) {roots' roots : List (Node × Faults)}
    (h : Rearranged roots' roots) : SameOwed c roots' roots := by
  induction h with
  | nil => exact ⟨List.Perm.refl _, rfl⟩
  | cons ρ hρ hf _ ih => exact .cons (mustRoot_permute_whole c hp _ hf ρ hρ _) ih

/-! ### requested paths: what `lookup` finds is untouched by rearranging listings with distinct names -/

theorem find?_name_perm {l l' : List (String × Node)} (hp : l.Perm l') (s : String)
    (hnd : (l.map (·.1)).Nodup) : l.find? (·.1 = s) = l'.find? (·.1 = s) := by
  induction hp with
  | nil => rfl
  | cons x _ ih =>
    simp only [List.map_cons, List.nodup_cons] at hnd
    simp only [List.find?_cons]
    rw [ih hnd.2]
  | swap x y l =>
    simp only [List.map_cons, List.nodup_cons, List.mem_cons, not_or] at hnd
    simp only [List.find?_cons]
    by_cases hx : x.1 = s
    · by_cases hy : y.1 = s
      · exact absurd (hy.trans hx.symm) hnd.1.1
      · simp [hx, hy]
    · simp [hx]
  | trans h1 _ ih1 ih2 => rw [ih1 hnd, ih2 ((h1.map _).nodup_iff.mp hnd)]

theorem permuteEntries_names (ρ : Rearr) (p : Path) (es : List (String × Node)) :
    (permuteEntries ρ p es).map (·.1) = es.map (·.1) := by
  induction es with
  | nil => simp [permuteEntries]
  | cons e rest ih => obtain ⟨s, n⟩ := e; simp [permuteEntries, ih]

theorem find?_permuteEntries (ρ : Rearr) (p : Path) (es : List (String × Node)) (s : String) :
    (permuteEntries ρ p es).find? (·.1 = s) =
      (es.find? (·.1 = s)).map fun x => (x.1, permuteTree ρ (p ++ [x.1]) x.2) := by
  induction es with
  | nil => simp [permuteEntries]
  | cons e rest ih =>
    obtain ⟨t, n⟩ := e
    simp only [permuteEntries, List.find?_cons]
    by_cases h : t = s
    · simp [h]
    · simp [h, ih]

/-- **`lookup` commutes with rearranging** when sibling names are distinct: the node found under `q` in
the rearranged tree is the rearrangement of the node found under `q` (`p` = where the tree sits). -/
theorem lookup_permute (ρ : Rearr) (hρ : ∀ p l, (ρ p l).Perm l) :
    ∀ (q p : Path) (n : Node), DistinctNames n →
      lookup (permuteTree ρ p n) q = (lookup n q).map (permuteTree ρ (p ++ q))
  | [], p, n, _ => by cases n <;> simp [lookup]
  | s :: q, p, .file k sz, _ => by simp [permuteTree, lookup]
  | s :: q, p, .dir gi es, hd => by
    unfold DistinctNames at hd
    simp only [permuteTree, lookup]
    have hnd : ((permuteEntries ρ p es).map (·.1)).Nodup := by rw [permuteEntries_names]; exact hd.1
    have hnd' : ((ρ p (permuteEntries ρ p es)).map (·.1)).Nodup := ((hρ p _).map _).nodup_iff.mpr hnd
    rw [find?_name_perm (hρ p _) s hnd', find?_permuteEntries]
    cases hfd : es.find? (·.1 = s) with
    | none => simp
    | some x =>
      obtain ⟨t, ch⟩ := x
      have ht : t = s := by simpa using List.find?_some hfd
      subst ht
      have hch : DistinctNames ch := DistinctNamesL_mem hd.2 (List.mem_of_find?_eq_some hfd)
      simp only [Option.map_some]
      rw [lookup_permute ρ hρ q (p ++ [t]) ch hch]
      simp [List.append_assoc]

theorem giOfDir_permute (ρ : Rearr) (hρ : ∀ p l, (ρ p l).Perm l) (f : Faults) (root : Node)
    (hd : DistinctNames root) (d : Path) :
    giOfDir f (permuteTree ρ [] root) d = giOfDir f root d := by
  unfold giOfDir
  rw [lookup_permute ρ hρ d [] root hd]
  cases lookup root d with
  | none => rfl
  | some n =>
    cases n with
    | file k sz => simp [permuteTree]
    | dir gi es => cases gi <;> simp [permuteTree]

theorem parentGis_permute (ρ : Rearr) (hρ : ∀ p l, (ρ p l).Perm l) (f : Faults) (root : Node)
    (hd : DistinctNames root) (p : Path) :
    parentGis f (permuteTree ρ [] root) p = parentGis f root p := by
  unfold parentGis
  simp only []
  rw [List.map_congr_left (fun d _ => giOfDir_permute ρ hρ f root hd d)]

/-- one requested path: the owed calls are a permutation (a requested file: equal; a requested
directory: `mustFrom_permute` below the same parent-gitignore context) -/
theorem mustRequested_permute (c : Cfg) (f : Faults) (hf : NoReadFaults f)
    (ρ : Rearr) (hρ : ∀ p l, (ρ p l).Perm l) (root : Node) (hd : DistinctNames root) (p : Path) :
    (mustRequested c f (permuteTree ρ [] root) p).Perm (mustRequested c f root p) := by
  unfold mustRequested
  split
  · exact List.Perm.refl _
  · rw [lookup_permute ρ hρ p [] root hd, parentGis_permute ρ hρ f root hd p]
    cases lookup root p with
    | none => exact List.Perm.refl _
    | some n =>
      cases n with
      | file k sz => simp [permuteTree]
      | dir gi es =>
        simp only [Option.map_some, List.nil_append]
        have := mustFrom_permute c f hf (if c.useGitignore then (parentGis f root p).1 else []) ρ hρ p (.dir gi es)
        simp only [permuteTree] at this ⊢
        exact this

/-- one root, any `c.paths`: the owed calls of the rearranged tree are a permutation -/
theorem mustRoot_permute (c : Cfg) (f : Faults) (hf : NoReadFaults f)
    (ρ : Rearr) (hρ : ∀ p l, (ρ p l).Perm l) (root : Node) (hd : DistinctNames root) :
    (mustRoot c f (permuteTree ρ [] root)).Perm (mustRoot c f root) := by
  unfold mustRoot
  split
  · split
    · exact List.Perm.refl _
    · exact mustFrom_permute c f hf [] ρ hρ [] root
  · exact Lists.flatMap_perm _ (fun p _ => mustRequested_permute c f hf ρ hρ root hd p)

theorem RearrangedDistinct.sameOwed (c : Cfg) {roots' roots : List (Node × Faults)}
    (h : RearrangedDistinct roots' roots) : SameOwed c roots' roots := by
  induction h with
  | nil => exact ⟨List.Perm.refl _, rfl⟩
  | cons ρ hρ hf hd _ ih => exact .cons (mustRoot_permute c _ hf ρ hρ _ hd) ih

/-! ### non-vacuity: a concrete two-root forest, each root rearranged by its own `ρ`

First root: every listing reversed.  Second root: only the top listing reversed.  The configuration
is benign, uses gitignore handling, has two extractors (the second one requires only depth-2 files and
fails on them, so statuses are not all `ok`). -/

def pxCfg : Cfg where
  nExt := 2
  required := fun e p => e = 0 || p.length = 2
  extract := fun e p => { pkgs := [10 * p.length + e], err := e = 1 && p.length = 2 }
  useGitignore := true
  giMatch := fun _ _ _ _ => false
def pxT1 : Node :=
  .dir none [("a", .file .reg 1), ("b", .dir (some []) [("x", .file .reg 2), ("y", .file .reg 3)])]
def pxT2 : Node := .dir none [("u", .file .reg 1), ("v", .file .reg 1)]
def pxRev : Rearr := fun _ l => l.reverse
def pxTop : Rearr := fun p l => if p = [] then l.reverse else l
def pxForest : RForest := [(pxT1, {}, pxRev), (pxT2, {}, pxTop)]
/-- the same configuration with requested paths: a directory, a file, a path that does not exist -/
def pxCfgP : Cfg := { pxCfg with paths := [["b"], ["a"], ["zz"]] }

theorem pxCfg_benign : Benign pxCfg := ⟨rfl, rfl, rfl, rfl, fun _ _ => rfl⟩
theorem pxCfgP_benign : Benign pxCfgP := ⟨rfl, rfl, rfl, rfl, fun _ _ => rfl⟩
theorem pxCfg_giOK : GiOK pxCfg := fun _ _ _ _ _ => rfl
theorem pxCfgP_giOK : GiOK pxCfgP := fun _ _ _ _ _ => rfl
theorem pxRev_perm : ∀ (p : Path) (l : List (String × Node)), (pxRev p l).Perm l := fun _ l => List.reverse_perm l
theorem pxTop_perm : ∀ (p : Path) (l : List (String × Node)), (pxTop p l).Perm l := by
  intro p l
  simp only [pxTop]
  split
  · exact List.reverse_perm l
  · exact List.Perm.refl l
example : NoReadFaults {} := fun _ _ => rfl

theorem pxForest_perms : pxForest.Perms := by
  intro t ht
  simp only [pxForest, List.mem_cons, List.not_mem_nil, or_false] at ht
  rcases ht with rfl | rfl
  · exact pxRev_perm
  · exact pxTop_perm
theorem pxForest_noReadFaults : pxForest.NoReadFaults := by
  intro t ht
  simp only [pxForest, List.mem_cons, List.not_mem_nil, or_false] at ht
  rcases ht with rfl | rfl <;> exact fun _ _ => rfl
theorem pxForest_distinct : pxForest.Distinct := by
  intro t ht
  simp only [pxForest, List.mem_cons, List.not_mem_nil, or_false] at ht
  rcases ht with rfl | rfl <;> simp [pxT1, pxT2, DistinctNames, DistinctNamesL]

/-- what the rearranged forest looks like -/
example : pxForest.rearranged =
    [(.dir none [("b", .dir (some []) [("y", .file .reg 3), ("x", .file .reg 2)]), ("a", .file .reg 1)], {}),
     (.dir none [("v", .file .reg 1), ("u", .file .reg 1)], {})] := by
  simp [pxForest, RForest.rearranged, pxT1, pxT2, pxRev, pxTop, permuteTree, permuteEntries]

/-- the relational form holds for the same pair of forests -/
example : Rearranged pxForest.rearranged pxForest.orig :=
  .cons pxRev pxRev_perm (fun _ _ => rfl) (.cons pxTop pxTop_perm (fun _ _ => rfl) .nil)
example : RearrangedDistinct pxForest.rearranged pxForest.orig :=
  .cons pxRev pxRev_perm (fun _ _ => rfl) (by simp [pxT1, DistinctNames, DistinctNamesL])
    (.cons pxTop pxTop_perm (fun _ _ => rfl) (by simp [pxT2, DistinctNames, DistinctNamesL]) .nil)

/-! specification side, by evaluation: the owed calls of the rearranged forest are a DIFFERENT list
but the same multiset (7 calls) -/
example : (mustExtract pxCfg pxForest.orig).map (fun cl => (cl.ext, cl.path)) =
    [(0, ["a"]), (0, ["b", "x"]), (1, ["b", "x"]), (0, ["b", "y"]), (1, ["b", "y"]), (0, ["u"]), (0, ["v"])] := by decide
example : (mustExtract pxCfg pxForest.rearranged).map (fun cl => (cl.ext, cl.path)) =
    [(0, ["b", "y"]), (1, ["b", "y"]), (0, ["b", "x"]), (1, ["b", "x"]), (0, ["a"]), (0, ["v"]), (0, ["u"])] := by decide
example : mustExtract pxCfg pxForest.rearranged ≠ mustExtract pxCfg pxForest.orig := by decide
example : (mustExtract pxCfg pxForest.rearranged).Perm (mustExtract pxCfg pxForest.orig) := by decide
example : (mustExtract pxCfg pxForest.orig).length = 7 := by decide
/-! the same with requested paths (the missing path `zz` owes nothing; root 2 has none of the paths) -/
example : (mustExtract pxCfgP pxForest.orig).map (fun cl => (cl.ext, cl.path)) =
    [(0, ["b", "x"]), (1, ["b", "x"]), (0, ["b", "y"]), (1, ["b", "y"]), (0, ["a"])] := by decide
example : (mustExtract pxCfgP pxForest.rearranged).map (fun cl => (cl.ext, cl.path)) =
    [(0, ["b", "y"]), (1, ["b", "y"]), (0, ["b", "x"]), (1, ["b", "x"]), (0, ["a"])] := by decide
/-- statuses are not trivially `ok`: in root 1 extractor 1 fails on the depth-2 files while producing
packages (`part`) -/
example : (List.range 2).map (statusSpec pxCfg {} pxT1) = [.ok, .part] := by decide

/-- the theorems apply to the example (engine side, no evaluation of `run`) -/
example (nm : Naming) :
    (scan nm pxCfg pxForest.rearranged).pkgs.map nm.key = (scan nm pxCfg pxForest.orig).pkgs.map nm.key ∧
    (scan nm pxCfg pxForest.rearranged).statuses = (scan nm pxCfg pxForest.orig).statuses :=
  let h := scan_perm nm pxCfg pxCfg_benign pxCfg_giOK (Rearranged.sameOwed pxCfg rfl
    (.cons (f := {}) pxRev pxRev_perm (fun _ _ => rfl) (.cons (f := {}) pxTop pxTop_perm (fun _ _ => rfl) .nil)))
  ⟨h.2.2.2.1, h.2.2.2.2.1⟩
example (nm : Naming) :
    (scan nm pxCfgP pxForest.rearranged).pkgs.map nm.key = (scan nm pxCfgP pxForest.orig).pkgs.map nm.key ∧
    (scan nm pxCfgP pxForest.rearranged).statuses = (scan nm pxCfgP pxForest.orig).statuses :=
  let h := scan_perm nm pxCfgP pxCfgP_benign pxCfgP_giOK (RearrangedDistinct.sameOwed pxCfgP
    (.cons (r := pxT1) (f := {}) pxRev pxRev_perm (fun _ _ => rfl) (by simp [pxT1, DistinctNames, DistinctNamesL])
      (.cons (r := pxT2) (f := {}) pxTop pxTop_perm (fun _ _ => rfl) (by simp [pxT2, DistinctNames, DistinctNamesL]) .nil)))
  ⟨h.2.2.2.1, h.2.2.2.2.1⟩

/-! ### the two remaining tree/fault hypotheses cannot be dropped

Both counterexamples are about the ENGINE (`run`); they are decided on the specification side after
rewriting with `run_results`. -/

/-- two entries called `a`: a file and a directory.  Requesting `a` resolves to whichever comes first. -/
def pxDup : Node := .dir none [("a", .file .reg 1), ("a", .dir none [("x", .file .reg 1)])]
def pxCfgA : Cfg := { pxCfg with paths := [["a"]] }

/-- without `DistinctNames`, `C08_perm_scan_paths_partial` fails: not even the package multisets agree -/
theorem perm_scan_paths_needs_distinct :
    ¬ (run pxCfgA [(permuteTree pxRev [] pxDup, {})]).pkgs.Perm (run pxCfgA [(pxDup, {})]).pkgs := by
  rw [(run_results pxCfgA ⟨rfl, rfl, rfl, rfl, fun _ _ => rfl⟩ _ (fun _ _ _ _ _ => rfl)).1,
      (run_results pxCfgA ⟨rfl, rfl, rfl, rfl, fun _ _ => rfl⟩ _ (fun _ _ _ _ _ => rfl)).1]
  decide

/-- the second `ReadDir(1)` call on the root directory fails: only the FIRST listed entry is seen -/
def pxFault : Faults := { readEntryFail := fun p k => p = [] && k = 1 }

/-- with a failing directory read, `C08_perm_scan_roots_partial` fails (whole-tree scan, distinct names) -/
theorem perm_scan_needs_noReadFaults :
    ¬ (run pxCfg [(permuteTree pxRev [] pxT2, pxFault)]).pkgs.Perm (run pxCfg [(pxT2, pxFault)]).pkgs := by
  rw [(run_results pxCfg pxCfg_benign _ pxCfg_giOK).1, (run_results pxCfg pxCfg_benign _ pxCfg_giOK).1]
  decide

end Scalibr.Walk
