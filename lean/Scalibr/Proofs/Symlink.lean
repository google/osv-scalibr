/-
Helper lemmas for C17: algebra of `chain`, the "slow pointer is behind the fast one" invariant of the
tortoise/hare loop, what each answer of `loop` says about the chain (`loop_sound`) and which answer a chain that
ends within the budget gets (`loop_of_end`), the fuel form, the specification walk, and the segment-level lemmas
for `TargetOutsideRoot` / `handleSymlink`.
-/
import Scalibr.Spec.Symlink
namespace Scalibr.Symlink
set_option linter.unusedSectionVars false

variable {α : Type} [DecidableEq α] (g : Graph α)

/-! ### chain algebra -/

theorem chain_add : ∀ a b p, chain g (a+b) p = (chain g a p).bind (chain g b)
  | 0, b, p => by simp [chain]
  | a+1, b, p => by
    rw [Nat.add_right_comm]
    simp only [chain]
    cases hg : g p with
    | none => simp
    | some n =>
      cases n with
      | link t => simpa using chain_add a b t
      | term k => simp

theorem chain_one_link (p t : α) (h : g p = some (.link t)) : chain g 1 p = some t := by
  simp [chain, h]

theorem chain_succ_link (k : Nat) (p t : α) (h : g p = some (.link t)) :
    chain g (k+1) p = chain g k t := by
  simp only [chain, h]

theorem chain_none_mono (k k' : Nat) (p : α) (h : chain g k p = none) (hk : k ≤ k') :
    chain g k' p = none := by
  obtain ⟨d, rfl⟩ := Nat.exists_eq_add_of_le hk
  rw [chain_add, h]; rfl

theorem isLink_iff (q : α) : isLink g q = true ↔ ∃ t, g q = some (.link t) := by
  unfold isLink
  cases g q with
  | none => simp
  | some n => cases n <;> simp

/-- the successor of something that is not a link does not exist -/
theorem chain_stop (k : Nat) (p q : α) (h : chain g k p = some q) (hq : isLink g q = false) :
    chain g (k+1) p = none := by
  rw [chain_add, h, Option.bind_some, chain]
  split
  · rename_i t hg; rw [(isLink_iff g q).mpr ⟨t, hg⟩] at hq; cases hq
  · rfl

/-- everything strictly before a reached hop is a link -/
theorem chain_prefix_link (b k : Nat) (p q : α) (h : chain g (b+1) p = some q) (hk : k ≤ b) :
    ∃ n, chain g k p = some n ∧ isLink g n = true := by
  cases hc : chain g k p with
  | none => rw [chain_none_mono g k (b+1) p hc (by omega)] at h; cases h
  | some n =>
    refine ⟨n, rfl, ?_⟩
    cases hl : isLink g n with
    | true => rfl
    | false => rw [chain_none_mono g (k+1) (b+1) p (chain_stop g k p n hc hl) (by omega)] at h; cases h

theorem isTerm_not_link (n : α) (h : isTerm g n = true) : isLink g n = false := by
  unfold isTerm at h; unfold isLink
  cases hg : g n with
  | none => rfl
  | some x => cases x with
    | link t => simp [hg] at h
    | term k => rfl

theorem isTerm_ne_none (n : α) (h : isTerm g n = true) : g n ≠ none := by
  intro hn; rw [isTerm, hn] at h; cases h

theorem isLink_not_term (n : α) (h : isLink g n = true) : isTerm g n = false := by
  cases ht : isTerm g n with
  | false => rfl
  | true => rw [isTerm_not_link g n ht] at h; cases h

theorem isLink_some (n : α) (h : isLink g n = true) : g n ≠ none := by
  obtain ⟨t, ht⟩ := (isLink_iff g n).mp h
  rw [ht]; exact nofun

/-- a chain that returns to its start never stops -/
theorem chain_periodic (d : Nat) (p : α) (h : chain g d p = some p) :
    ∀ m, chain g (m*d) p = some p
  | 0 => by simp [chain]
  | m+1 => by
    rw [Nat.succ_mul, chain_add, chain_periodic d p h m]; simpa using h

theorem chain_periodic_never_stops (d : Nat) (p : α) (hd : 0 < d) (h : chain g d p = some p) :
    ∀ k, chain g k p ≠ none := by
  intro k hk
  have := chain_none_mono g k (k*d) p hk (Nat.le_mul_of_pos_right k hd)
  rw [chain_periodic g d p h k] at this
  cases this

theorem chain_end_unique (p : α) (k k' : Nat) (n n' : α)
    (h : chain g k p = some n) (hn : isLink g n = false)
    (h' : chain g k' p = some n') (hn' : isLink g n' = false) : k = k' ∧ n = n' := by
  have key : ∀ a b x y, chain g a p = some x → isLink g x = false → chain g b p = some y → b ≤ a :=
    fun a b x y ha hx hb => Nat.le_of_not_lt fun hab => by
      have := chain_none_mono g (a+1) b p (chain_stop g a p x ha hx) hab
      rw [hb] at this; cases this
  obtain rfl := Nat.le_antisymm (key k' k n' n h' hn' h) (key k k' n n' h hn h')
  exact ⟨rfl, Option.some.inj (h.symm.trans h')⟩

/-! ### the invariant: the slow pointer is on the chain, behind the current node -/

def Behind (slow node : α) : Prop := ∃ j, chain g j slow = some node

theorem behind_refl (p : α) : Behind g p p := ⟨0, rfl⟩

theorem chain_snoc (j : Nat) (s n t : α) (h : chain g j s = some n) (hn : g n = some (.link t)) :
    chain g (j+1) s = some t := by
  rw [chain_add, h]; simpa using chain_one_link g n t hn

theorem behind_step_keep (slow node t : α) (hb : Behind g slow node)
    (hn : g node = some (.link t)) : Behind g slow t := by
  obtain ⟨j, hj⟩ := hb
  exact ⟨j+1, chain_snoc g j slow node t hj hn⟩

/-- when the fast pointer catches the slow one, the current node lies on a cycle -/
theorem caught_is_cycle (slow node : α) (hb : Behind g slow node)
    (hn : g node = some (.link slow)) : ∀ k, chain g k node ≠ none := by
  obtain ⟨j, hj⟩ := hb
  apply chain_periodic_never_stops g (1 + j) node (by omega)
  rw [chain_add, chain_one_link g node slow hn]
  simpa using hj

theorem chain_target_some (j : Nat) (s t : α) (h : chain g j s = some t)
    (ht : (g t).isSome = true) : (g s).isSome = true := by
  cases j with
  | zero => cases h; exact ht
  | succ j =>
    rw [chain] at h
    cases hg : g s with
    | none => rw [hg] at h; cases h
    | some _ => rfl

/-- advancing the slow pointer never fails and keeps it behind -/
theorem behind_step_adv (slow node t : α) (hb : Behind g slow node)
    (hn : g node = some (.link t)) (ht : (g t).isSome = true) :
    ∃ s', slowNext g slow = some s' ∧ Behind g s' t := by
  obtain ⟨j, hj⟩ := hb
  have hj := chain_snoc g j slow node t hj hn
  rw [chain] at hj
  unfold slowNext
  cases hg : g slow with
  | none => rw [hg] at hj; cases hj
  | some x =>
    cases x with
    | term k => rw [hg] at hj; cases hj
    | link s =>
      rw [hg] at hj
      exact ⟨s, by simp [chain_target_some g j s t hj ht], j, hj⟩

/-! ### the loop against the chain -/

/-- what an answer of the loop with `m` iterations left says about the chain from `node` -/
def Sound (m : Nat) (node : α) : Res α → Prop
  | .ok n => ∃ k, k < m ∧ chain g k node = some n ∧ isTerm g n = true
  | .notExist => ∃ j q, j < m ∧ chain g j node = some q ∧ g q = none
  | .cycle => ∀ k, chain g k node ≠ none
  | .depth => ∃ q, chain g m node = some q

theorem Sound.step {g : Graph α} {m : Nat} {node t : α} {r : Res α} (hg : g node = some (.link t))
    (h : Sound g m t r) : Sound g (m+1) node r := by
  cases r with
  | ok n =>
    obtain ⟨k, hk, hc, hn⟩ := h
    exact ⟨k+1, Nat.succ_lt_succ hk, (chain_succ_link g k node t hg).trans hc, hn⟩
  | notExist =>
    obtain ⟨j, q, hj, hc, hq⟩ := h
    exact ⟨j+1, q, Nat.succ_lt_succ hj, (chain_succ_link g j node t hg).trans hc, hq⟩
  | cycle =>
    intro k
    cases k with
    | zero => exact nofun
    | succ k => rw [chain_succ_link g k node t hg]; exact h k
  | depth =>
    obtain ⟨q, hc⟩ := h
    exact ⟨q, (chain_succ_link g m node t hg).trans hc⟩

/-- **Every answer of the loop is true of the chain**: a node it returns is the first non-symlink, within the budget;
not-exist is a missing entry within the budget; a cycle is a real one; a depth error means the chain is still running
after the last permitted hop. -/
theorem loop_sound (m : Nat) (node slow : α) (adv : Bool) (hb : Behind g slow node) :
    Sound g m node (loop g m node slow adv) := by
  fun_induction loop g m node slow adv
  case case1 => exact ⟨_, rfl⟩
  case case2 hg => exact ⟨0, _, Nat.succ_pos _, rfl, hg⟩
  case case3 hg => exact ⟨0, Nat.succ_pos _, rfl, by simp [isTerm, hg]⟩
  case case4 => exact ⟨_, chain_one_link g _ _ ‹_›⟩
  case case5 => exact ⟨1, _, by omega, chain_one_link g _ _ ‹g _ = some (.link _)›, ‹_›⟩
  case case6 => exact caught_is_cycle g _ _ hb ‹_›
  case case7 =>
    -- the slow pointer has a successor: it is behind the current node
    obtain ⟨s', hs', _⟩ := behind_step_adv g _ _ _ hb ‹g _ = some (.link _)› (by simp [*])
    simp [*] at hs'
  case case8 =>
    rename_i hs ih
    obtain ⟨s'', hs', hb'⟩ := behind_step_adv g _ _ _ hb ‹g _ = some (.link _)› (by simp [*])
    rw [hs] at hs'; cases hs'
    exact (ih hb').step ‹_›
  case case9 => rename_i ih; exact (ih (behind_step_keep g _ _ _ hb ‹_›)).step ‹_›

/-- **… and a chain that ends within the budget gets the answer for its end**: the entry it ends at, or not-exist when
that entry is missing.  (The four answers exclude each other on such a chain, so soundness decides.) -/
theorem loop_of_end (m : Nat) (node slow : α) (adv : Bool) (hb : Behind g slow node) (k : Nat) (q : α)
    (hc : chain g k node = some q) (hq : isLink g q = false) (hk : k < m) :
    loop g m node slow adv = if g q = none then .notExist else .ok q := by
  have hs := loop_sound g m node slow adv hb
  have hstop := chain_stop g k node q hc hq
  generalize loop g m node slow adv = r at hs ⊢
  cases r with
  | ok n =>
    obtain ⟨k', _, hc', hn⟩ := hs
    obtain ⟨_, rfl⟩ := chain_end_unique g node k k' q n hc hq hc' (isTerm_not_link g n hn)
    rw [if_neg (isTerm_ne_none g q hn)]
  | notExist =>
    obtain ⟨j, q', _, hc', hq'⟩ := hs
    obtain ⟨_, rfl⟩ := chain_end_unique g node k j q q' hc hq hc' (by simp [isLink, hq'])
    rw [if_pos hq']
  | cycle => exact absurd hstop (hs (k+1))
  | depth =>
    obtain ⟨q', hc'⟩ := hs
    rw [chain_none_mono g (k+1) m node hstop hk] at hc'
    cases hc'

theorem resolve_sound (D : Nat) (p : α) : Sound g (D+1) p (resolve g D p) :=
  loop_sound g (D+1) p p false (behind_refl g p)

theorem resolve_of_end (D : Nat) (p : α) (k : Nat) (q : α) (hc : chain g k p = some q)
    (hq : isLink g q = false) (hk : k ≤ D) : resolve g D p = if g q = none then .notExist else .ok q :=
  loop_of_end g (D+1) p p false (behind_refl g p) k q hc hq (Nat.lt_succ_of_le hk)

theorem resolve_err (D : Nat) (p : α)
    (h1 : ∀ k n, k ≤ D → chain g k p = some n → isTerm g n = false)
    (h2 : ∀ j q, j ≤ D → chain g j p = some q → g q ≠ none) :
    resolve g D p = .cycle ∨ resolve g D p = .depth := by
  have hs := resolve_sound g D p
  generalize resolve g D p = r at hs ⊢
  cases r with
  | ok n =>
    obtain ⟨k, hk, hc, hn⟩ := hs
    rw [h1 k n (Nat.le_of_lt_succ hk) hc] at hn; cases hn
  | notExist =>
    obtain ⟨j, q, hj, hc, hq⟩ := hs
    exact absurd hq (h2 j q (Nat.le_of_lt_succ hj) hc)
  | cycle => exact .inl rfl
  | depth => exact .inr rfl

/-- the Go loop with an `Int` counter and explicit fuel computes `loop` as soon as fuel > m: at every step both take
the same branch -/
theorem loopF_eq_loop (m fuel : Nat) (node slow : α) (adv : Bool) (hf : m < fuel) :
    loopF g fuel node slow adv ((m : Int) - 1) = some (loop g m node slow adv) := by
  have hI : ∀ m : Nat, ¬ (((m + 1 : Nat) : Int) - 1 < 0) ∧ ((m + 1 : Nat) : Int) - 1 - 1 = (m : Int) - 1 ∧
      ((((m + 1 : Nat) : Int) - 1 = 0) ↔ m = 0) := fun m => by omega
  fun_induction loop g m node slow adv generalizing fuel
  all_goals (cases fuel with | zero => omega | succ f => ?_)
  case case1 => simp [loopF]
  all_goals simp only [loopF, *, ↓reduceIte]
  all_goals (rename_i ih; exact ih _ (Nat.lt_of_succ_lt_succ hf))

/-! ### the specification walk, read on the chain -/

theorem isReal_isTerm (n : α) (h : isReal g n = true) : isTerm g n = true := by
  unfold isReal at h; unfold isTerm
  cases hg : g n with
  | none => simp [hg] at h
  | some x => cases x with
    | link t => simp [hg] at h
    | term k => rfl

theorem specWalk_spec (b : Nat) (p : α) :
    match specWalk g b p with
    | .mustOk n => ∃ k, k ≤ b ∧ chain g k p = some n ∧ isReal g n = true
    | .mustNotExist => ∃ k q, k ≤ b ∧ chain g k p = some q ∧ isGone g q = true
    | .cycleOrDepth => ∃ q, chain g (b+1) p = some q := by
  fun_induction specWalk g b p
  case case1 => exact ⟨0, _, Nat.zero_le _, rfl, by simp [isGone, *]⟩
  case case2 => exact ⟨0, _, Nat.zero_le _, rfl, by simp [isGone, *]⟩
  case case3 => rename_i k hk _; exact ⟨0, Nat.zero_le _, rfl, by cases k <;> simp_all [isReal]⟩
  case case4 => exact ⟨_, chain_one_link g _ _ ‹_›⟩
  case case5 =>
    rename_i ih
    have hg := ‹g _ = some (.link _)›
    split at ih
    · obtain ⟨k, hk, hc, hr⟩ := ih; exact ⟨k+1, Nat.succ_le_succ hk, (chain_succ_link g k _ _ hg).trans hc, hr⟩
    · obtain ⟨k, q, hk, hc, hq⟩ := ih; exact ⟨k+1, q, Nat.succ_le_succ hk, (chain_succ_link g k _ _ hg).trans hc, hq⟩
    · obtain ⟨q, hc⟩ := ih; exact ⟨q, (chain_succ_link g _ _ _ hg).trans hc⟩

theorem specWalk_congr (g' : Graph α) (b : Nat) (p : α)
    (h : ∀ k q, k ≤ b → chain g k p = some q → g' q = g q) : specWalk g' b p = specWalk g b p := by
  fun_induction specWalk g b p
  all_goals rw [specWalk, h 0 _ (Nat.zero_le _) rfl]
  all_goals simp only [*]
  rename_i ih
  exact ih fun k q hk hc => h (k+1) q (Nat.succ_le_succ hk) ((chain_succ_link g k _ _ ‹_›).trans hc)

theorem chain_reaches_link_or_end (b k : Nat) (p q : α) (h : chain g (b+1) p = some q) (hk : k ≤ b) :
    ∀ n, chain g k p = some n → isTerm g n = false ∧ g n ≠ none := by
  intro n hn
  obtain ⟨n', hn', hl⟩ := chain_prefix_link g b k p q h hk
  rw [hn] at hn'
  cases hn'
  exact ⟨isLink_not_term g n hl, isLink_some g n hl⟩

/-! ### the final view under a file requirer -/

theorem markFrom_covers (D : Nat) (r : α) (k : Nat) (q : α)
    (hc : chain g (k+1) r = some q) (hk : k < D) (hq : g q ≠ none) : q ∈ markFrom g D r := by
  fun_induction markFrom g D r generalizing k
  case case1 => cases hk
  case case2 =>
    -- the link's target is missing: the chain stops there
    have hgt := ‹g _ = none›
    rw [chain_succ_link g k _ _ ‹_›] at hc
    cases k with
    | zero => cases hc; exact absurd hgt hq
    | succ k => rw [chain, hgt] at hc; cases hc
  case case3 =>
    rename_i ih
    rw [chain_succ_link g k _ _ ‹_›] at hc
    cases k with
    | zero => cases hc; exact List.mem_cons_self
    | succ k => exact List.mem_cons_of_mem _ (ih k hc (Nat.lt_of_succ_lt_succ hk))
  case case4 =>
    rename_i hnl
    rw [chain] at hc
    split at hc
    · rename_i t hg; exact absurd hg (hnl t)
    · cases hc

theorem allowed_congr (g' : Graph α) (v : Verdict α) (s : StatRes α) (h : ∀ n, v = .mustOk n → g' n = g n) :
    allowed g' v s = allowed g v s := by
  cases v <;> cases s <;> simp [allowed, h]

/-! ### load time: `TargetOutsideRoot` on segments -/

def plain (s : String) : Bool := s ≠ "." && s ≠ "" && s ≠ ".."

theorem isDot_some (s : String) : isDot (some s) = (decide (s = ".") || decide (s = "")) := by simp [isDot]
theorem isDotDot_some (s : String) : isDotDot (some s) = decide (s = "..") := by simp [isDotDot]

theorem cleanRelAux_no_marker (st segs : List Seg) (h1 : none ∉ st) (h2 : none ∉ segs) : none ∉ cleanRelAux st segs := by
  fun_induction cleanRelAux st segs
  case case1 => exact h1
  all_goals
    rename_i ih
    simp only [List.mem_cons, not_or] at h1 h2
    exact ih (by simp [h1, h2]) h2.2

/-- with the marker at the bottom of the stack and only ordinary names above it, the marker survives
exactly when the remaining segments never climb above it -/
theorem cleanRelAux_marker (rest ns : List String) (hns : ∀ n ∈ ns, n ≠ "..") :
    (cleanRelAux (ns.map some ++ [none]) (rest.map some)).contains none = !escapes ns.length rest := by
  generalize hd : ns.length = d
  fun_induction escapes d rest generalizing ns
  case case1 => simp [cleanRelAux]
  case case2 ih =>
    rename_i h
    simp only [List.map_cons, cleanRelAux, isDot_some, h, if_true]
    exact ih ns hns hd
  case case3 =>
    rename_i h
    obtain rfl : ns = [] := List.eq_nil_of_length_eq_zero hd
    simp only [List.map_cons, cleanRelAux, isDot_some, h, isDotDot, List.map_nil, List.nil_append,
      decide_true, reduceCtorEq, decide_false, Bool.false_eq_true, if_false, if_true, Bool.not_true]
    simpa using cleanRelAux_no_marker [] _ (by simp) (by simp)
  case case4 =>
    rename_i h ih
    cases ns with
    | nil => cases hd
    | cons n ns' =>
      have hn : n ≠ ".." := hns n (by simp)
      simp only [List.map_cons, List.cons_append, cleanRelAux, isDot_some, h, isDotDot_some, hn, decide_true,
        decide_false, Bool.false_eq_true, if_false, if_true]
      exact ih ns' (fun x hx => hns x (by simp [hx])) (Nat.succ.inj hd)
  case case5 =>
    rename_i h hdd ih
    simp only [List.map_cons, cleanRelAux, isDot_some, h, isDotDot_some, hdd, decide_false, Bool.false_eq_true, if_false]
    refine ih (_ :: ns) (fun x hx => ?_) (by simp [hd])
    rcases List.mem_cons.mp hx with rfl | hx
    · exact hdd
    · exact hns x hx
theorem escapes_plain_prefix : ∀ (dir tgt : List String) (d : Nat), (∀ n ∈ dir, plain n = true) →
    escapes d (dir ++ tgt) = escapes (d + dir.length) tgt
  | [], tgt, d, _ => by simp
  | s :: dir, tgt, d, h => by
    have hs := h s (by simp)
    simp only [plain, Bool.and_eq_true, decide_eq_true_eq, ne_eq] at hs
    simp only [List.cons_append, escapes, hs.1.1, hs.1.2, hs.2, Bool.or_self, if_false,
      List.length_cons]
    rw [escapes_plain_prefix dir tgt (d+1) (fun n hn => h n (by simp [hn]))]
    rw [show d + 1 + dir.length = d + (dir.length + 1) by omega]
    simp

theorem canonical_cleanAbsAux (rest st : List String) (h : canonical st = true) : canonical (cleanAbsAux st rest) = true := by
  fun_induction cleanAbsAux st rest
  case case1 => exact h
  case case2 ih => exact ih h
  case case3 ih =>
    rename_i st _ _
    exact ih (by cases st with | nil => rfl | cons a st' => simp only [canonical, List.all_cons, Bool.and_eq_true] at h; exact h.2)
  case case4 ih =>
    rename_i h1 h2
    simp only [Bool.or_eq_true, decide_eq_true_eq, not_or] at h1
    exact ih (by simp only [canonical, List.all_cons, Bool.and_eq_true] at h ⊢; exact ⟨by simp [h1.1, h1.2, h2], h⟩)

/-- the specification's own lexical resolver agrees with "does not escape, then `path.Clean`" -/
theorem resolveLex_eq (segs cur : List String) :
    resolveLex cur segs = if escapes cur.length segs then none else some (cleanAbsAux cur.reverse segs).reverse := by
  fun_induction resolveLex cur segs
  case case1 => simp [escapes, cleanAbsAux]
  case case2 ih => rename_i h; simp only [escapes, cleanAbsAux, h, if_true]; exact ih
  case case3 => simp [escapes]
  case case4 ih =>
    rename_i cur _ hne h
    obtain ⟨d, hd⟩ : ∃ d, cur.length = d + 1 := Nat.exists_eq_succ_of_ne_zero (by simpa using hne)
    simp only [escapes, cleanAbsAux, h, if_false, if_true, hd, Bool.false_eq_true, List.tail_reverse]
    rw [ih, List.length_dropLast, hd]; rfl
  case case5 ih =>
    rename_i h hdd
    simp only [escapes, cleanAbsAux, h, hdd, if_false, Bool.false_eq_true]
    rw [ih]; simp
end Scalibr.Symlink
