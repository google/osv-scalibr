/-
C13, `writeString` on tokens (`Model/PomTokens`): an element whose addressed children already hold exactly their values
is written back token for token, and `write`'s loop bound `length + 1` is never what ends the loop.
-/
import Scalibr.Model.PomTokens
namespace Scalibr.PomTok

theorem writeString_simple (values : Str → Option Str) (f : Nat) (ts : List Tok) (hf : ts.length < f)
    (hs : simple values ts = true) : writeString values f ts = ts := by
  fun_induction simple values ts generalizing f with
  | case1 => cases f <;> rfl
  | case2 n attrs m r hv ih =>
    -- `<n></n>` for the empty value: written back as it is
    simp only [Bool.and_eq_true, decide_eq_true_eq] at hs
    obtain ⟨g, rfl⟩ := Nat.exists_eq_add_one_of_ne_zero (Nat.ne_zero_of_lt hf)
    rw [writeString, hv]
    simp only [skipElem, if_true, List.nil_append]
    rw [ih g (by simp only [List.length_cons] at hf; omega) hs.2, hs.1]
  | case3 => cases hs
  | case4 n attrs v hv hne s m r ih =>
    -- `<n>v</n>`
    simp only [Bool.and_eq_true, decide_eq_true_eq] at hs
    obtain ⟨g, rfl⟩ := Nat.exists_eq_add_one_of_ne_zero (Nat.ne_zero_of_lt hf)
    rw [writeString, hv]
    simp only [skipElem, if_neg hne, List.singleton_append]
    rw [ih g (by simp only [List.length_cons] at hf; omega) hs.2, hs.1.1, hs.1.2]
  | case5 => cases hs
  | case6 n attrs ts hv ih =>
    obtain ⟨g, rfl⟩ := Nat.exists_eq_add_one_of_ne_zero (Nat.ne_zero_of_lt hf)
    rw [writeString, hv]
    simp only
    rw [ih g (by simp only [List.length_cons] at hf; omega) hs]
  | case7 head ts hh ih =>
    obtain ⟨g, rfl⟩ := Nat.exists_eq_add_one_of_ne_zero (Nat.ne_zero_of_lt hf)
    rw [writeString, ih g (by simp only [List.length_cons] at hf; omega) hs]
    exact hh
theorem write_simple (values : Str → Option Str) (ts : List Tok) (hs : simple values ts = true) :
    write values ts = ts := writeString_simple values _ ts (by omega) hs


/-- adequacy of the loop bound: any two bounds above the number of tokens give the same result, so `write`'s
`length + 1` never cuts the output short -/
theorem writeString_fuel (values : Str → Option Str) (f g : Nat) (ts : List Tok) (hf : ts.length < f) (hg : ts.length < g) :
    writeString values f ts = writeString values g ts := by
  fun_induction writeString values f ts generalizing g with
  | case1 ts => cases hf
  | case2 f => cases g <;> rfl
  | case3 f n a ts v hv ih =>
    obtain ⟨g, rfl⟩ := Nat.exists_eq_add_one_of_ne_zero (Nat.ne_zero_of_lt hg)
    have := skipElem_length 0 ts
    rw [List.length_cons] at hf hg
    rw [writeString, hv, ih g (by omega) (by omega)]
  | case4 f n a ts hv ih =>
    obtain ⟨g, rfl⟩ := Nat.exists_eq_add_one_of_ne_zero (Nat.ne_zero_of_lt hg)
    rw [List.length_cons] at hf hg
    rw [writeString, hv, ih g (by omega) (by omega)]
  | case5 f t ts ht ih =>
    obtain ⟨g, rfl⟩ := Nat.exists_eq_add_one_of_ne_zero (Nat.ne_zero_of_lt hg)
    rw [List.length_cons] at hf hg
    rw [writeString, ih g (by omega) (by omega)]
    exact ht
end Scalibr.PomTok
