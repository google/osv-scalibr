/-
C04: from "what one layer does to a later view" (`revLayer_apply`) to "every view is the OCI visibility rule"
under the hypothesis `H`.  One layer at a time: the loader turns the view `v` into `under v (mention i l)`, the rule
turns `visible ls` into `visible ((i, l) :: ls)`, and `layer_agrees` says that, seen through `v`, the two steps show
the same (`obsOf`) at every path — by the kind of mention the layer makes of the path: its own entry, an implied
directory, or none.
-/
import Scalibr.Proofs.Overlay
import Scalibr.Proofs.Lists
namespace Scalibr.Overlay

/-! ### distinct paths inside a fresh tar -/

variable (i : Nat)

theorem freshB_distinct : ∀ (rest done : Layer), freshB done rest = true →
    (∀ a ∈ done, ∀ b ∈ rest, a.p ≠ b.p) ∧ rest.Pairwise (fun a b => a.p ≠ b.p) ∧ ∀ b ∈ rest, b.p ≠ [] := by
  intro rest
  induction rest with
  | nil => intro done _; simp
  | cons e rest ih =>
    intro done hf
    obtain ⟨hne, hf', hnone, _⟩ := freshB_cons hf
    obtain ⟨h1, h2, h3⟩ := ih (done ++ [e]) hf'
    refine ⟨?_, List.pairwise_cons.mpr ⟨fun b hb => h1 e (by simp) b hb, h2⟩, ?_⟩
    · intro a ha b hb
      rcases List.mem_cons.mp hb with rfl | hb
      · exact hnone a ha
      · exact h1 a (by simp [ha]) b hb
    · intro b hb
      rcases List.mem_cons.mp hb with rfl | hb
      · exact hne
      · exact h3 b hb

theorem fresh_unique {l : Layer} (hf : freshB [] l = true) {x y : Entry} (hx : x ∈ l) (hy : y ∈ l) (h : x.p = y.p) :
    x = y :=
  Lists.eq_of_key_eq (f := Entry.p) (List.pairwise_map.mpr (freshB_distinct l [] hf).2.1) hx hy h

theorem fresh_ne_nil {l : Layer} (hf : freshB [] l = true) : ∀ x ∈ l, x.p ≠ [] :=
  (freshB_distinct l [] hf).2.2

theorem find?_unique {α : Type} (p : α → Bool) : ∀ (l : List α) (e : α), e ∈ l → p e = true →
    (∀ x ∈ l, p x = true → x = e) → l.find? p = some e
  | a :: l, e, he, hp, hu => by
    rw [List.find?_cons]
    cases ha : p a with
    | true => rw [hu a List.mem_cons_self ha]
    | false =>
      have hel : e ∈ l := (List.mem_cons.mp he).resolve_left fun h => by rw [h, ha] at hp; cases hp
      exact find?_unique p l e hel hp fun x hx => hu x (List.mem_cons_of_mem a hx)

theorem explicitFirst_of_mem {l : Layer} (hf : freshB [] l = true) {e : Entry} (he : e ∈ l) :
    explicitFirst i l e.p = some (e.node i) := by
  unfold explicitFirst
  rw [find?_unique _ l e he (by simp) (fun x hx hp => fresh_unique hf hx he (by simpa using hp))]
  rfl

theorem explicitReal_of_mem {l : Layer} (hf : freshB [] l = true) {e : Entry} (he : e ∈ l)
    (hw : e.wh = false) : explicitReal i l e.p = some (e.node i) := by
  unfold explicitReal
  rw [find?_unique _ l.reverse e (by simp [he]) (by simp [hw])
    (fun x hx hp => fresh_unique hf (by simpa using hx) he (by simp at hp; exact hp.2))]
  rfl

theorem explicitReal_some {i : Nat} {l : Layer} {q : Path} {n : Node} (h : explicitReal i l q = some n) :
    ∃ e ∈ l, e.wh = false ∧ e.p = q ∧ n = e.node i := by
  obtain ⟨e, he, rfl⟩ := Option.map_eq_some_iff.mp h
  have hp := List.find?_some he
  simp only [Bool.and_eq_true, Bool.not_eq_true', beq_iff_eq] at hp
  exact ⟨e, by simpa using List.mem_of_find?_eq_some he, hp.1, hp.2, rfl⟩

theorem explicitReal_none_of_wh {l : Layer} (hf : freshB [] l = true) {e : Entry} (he : e ∈ l)
    (hw : e.wh = true) : explicitReal i l e.p = none :=
  Option.eq_none_iff_forall_ne_some.mpr fun n h => by
    obtain ⟨x, hx, hxw, hxp, _⟩ := explicitReal_some h
    rw [fresh_unique hf hx he hxp, hw] at hxw
    cases hxw

theorem explicitReal_none_of_absent {l : Layer} {q : Path} (h : ∀ e ∈ l, e.p ≠ q) :
    explicitReal i l q = none :=
  Option.eq_none_iff_forall_ne_some.mpr fun n hx => by
    obtain ⟨x, hxl, _, hxp, _⟩ := explicitReal_some hx
    exact h x hxl hxp

theorem mention_cases {l : Layer} (hf : freshB [] l = true) (q : Path) :
    (∃ e ∈ l, e.p = q ∧ mention i l q = some (e.node i)) ∨
    ((∀ e ∈ l, e.p ≠ q) ∧ impliedDir l q = true ∧ mention i l q = some (implDir i)) ∨
    (mentionedBy l q = false ∧ mention i l q = none) := by
  by_cases h : ∃ e ∈ l, e.p = q
  · obtain ⟨e, he, hp⟩ := h
    exact .inl ⟨e, he, hp, by rw [mention, ← hp, explicitFirst_of_mem i hf he]⟩
  · have h' : ∀ e ∈ l, e.p ≠ q := fun e he hp => h ⟨e, he, hp⟩
    have hx := (explicitFirst_none_iff i l q).mpr h'
    cases hi : impliedDir l q with
    | true => exact .inr (.inl ⟨h', rfl, by simp [mention, hx, hi]⟩)
    | false =>
      have hm := (mentionedBy_false_iff l q).mpr ⟨h', hi⟩
      exact .inr (.inr ⟨hm, (mention_none_iff i l q).mpr hm⟩)

/-! ### the clauses of `H` as statements about entries -/

theorem Hfrom_cons {later : List Layer} {l : Layer} {older : List Layer} (h : Hfrom later (l :: older) = true) :
    layerOK l = true ∧ noOpaque l = true ∧ noRecreateAt later l older = true ∧
    noImplicitOverExplicitAt l older = true ∧ Hfrom (l :: later) older = true := by
  simp only [Hfrom, Bool.and_eq_true] at h
  obtain ⟨⟨⟨⟨h1, h2⟩, h3⟩, h4⟩, h5⟩ := h
  exact ⟨h1, h2, h3, h4, h5⟩

theorem not_isOpq {l : Layer} (hno : noOpaque l = true) {b : Entry} (hb : b ∈ l) : b.isOpq = false := by
  simpa using List.all_eq_true.mp hno b hb

theorem noRecreateAt_apply {later : List Layer} {l : Layer} {older : List Layer} (h : noRecreateAt later l older = true)
    {b : Entry} (hb : b ∈ l) (hbl : b.blocker = true) {l' : Layer} (hl' : l' ∈ later) (hd : dirMention l' b.p = true)
    {l0 : Layer} (hl0 : l0 ∈ older) {x : Entry} (hx : x ∈ l0) : isUnder b.p x.p = false := by
  have h1 := List.all_eq_true.mp h b hb
  have hany : (later.any fun l' => dirMention l' b.p) = true := List.any_eq_true.mpr ⟨l', hl', hd⟩
  simp only [hbl, hany, Bool.not_true, Bool.false_or, List.all_eq_true, Bool.not_eq_true'] at h1
  exact h1 l0 hl0 x hx

theorem noImplicitOverExplicitAt_apply {l : Layer} {older : List Layer} (h : noImplicitOverExplicitAt l older = true)
    {e : Entry} (he : e ∈ l) {d : Path} (hd : d ∈ parents e.p) (hnr : explicitRealAt l d = false)
    {l0 : Layer} (hl0 : l0 ∈ older) :
    (if realImplied l d then !explicitDirAt l0 d else !explicitRealAt l0 d) = true := by
  have h1 := List.all_eq_true.mp (List.all_eq_true.mp h e he) d hd
  simp only [hnr, Bool.false_or, List.all_eq_true] at h1
  exact h1 l0 hl0

theorem explicitRealAt_false_of_absent {l : Layer} {q : Path} (h : ∀ e ∈ l, e.p ≠ q) : explicitRealAt l q = false := by
  unfold explicitRealAt
  rw [List.any_eq_false]
  intro x hx
  simp [h x hx]

theorem implied_split (l : Layer) (q : Path) : impliedDir l q = (realImplied l q || whImplied l q) := by
  unfold impliedDir realImplied whImplied
  induction l with
  | nil => rfl
  | cons e l ih => simp only [List.any_cons, ih]; cases e.wh <;> cases isUnder q e.p <;> simp

theorem blocker_covers {l : Layer} (hno : noOpaque l = true) {b : Entry} (hb : b ∈ l) (hbl : b.blocker = true)
    {q : Path} (hu : isUnder b.p q = true) : covers l q = true := by
  unfold covers
  rw [List.any_eq_true]
  refine ⟨b, hb, ?_⟩
  have hopq := not_isOpq hno hb
  unfold Entry.blocker at hbl
  cases hw : b.wh with
  | true => simp [hopq, hu]
  | false => simp [hw] at hbl; simp [hu, hbl]

theorem covers_blocker {l : Layer} (hno : noOpaque l = true) {q : Path} (habs : ∀ e ∈ l, e.p ≠ q)
    (hc : covers l q = true) : ∃ b ∈ l, b.blocker = true ∧ isUnder b.p q = true := by
  unfold covers at hc
  rw [List.any_eq_true] at hc
  obtain ⟨b, hb, h⟩ := hc
  have hopq := not_isOpq hno hb
  have hne := habs b hb
  refine ⟨b, hb, ?_⟩
  unfold Entry.blocker
  cases hw : b.wh with
  | true => simp [hw, hopq, hne] at h; simp [h]
  | false => simp [hw, hopq] at h; simp [h.1, h.2]

/-! ### one step of the visibility rule, by what the layer says about the path -/

theorem visible_origin (ls : List (Nat × Layer)) (q : Path) (n : Node) (h : visible ls q = some n) :
    (∃ x ∈ ls, ∃ e ∈ x.2, e.wh = false ∧ e.p = q ∧ n = e.node x.1) ∨ ∃ i, n = implDir i := by
  fun_induction visible ls q generalizing n
  case case2 hx =>
    cases h
    obtain ⟨e, he, hw, hp, rfl⟩ := explicitReal_some hx
    exact .inl ⟨_, List.mem_cons_self, e, he, hw, hp, rfl⟩
  case case3 ih =>
    rename_i hb _
    cases h
    split at hb
    · cases hb
    · exact (ih _ hb).imp_left fun ⟨y, hy, r⟩ => ⟨y, List.mem_cons_of_mem _ hy, r⟩
  case case7 ih =>
    rename_i hv
    cases h
    exact (ih _ hv).imp_left fun ⟨y, hy, r⟩ => ⟨y, List.mem_cons_of_mem _ hy, r⟩
  case case4 => cases h; exact .inr ⟨_, rfl⟩
  case case5 => cases h; exact .inr ⟨_, rfl⟩
  case case8 => cases h; exact .inr ⟨_, rfl⟩
  all_goals cases h

theorem visible_not_wh : ∀ (ls : List (Nat × Layer)) (q : Path) (n : Node), visible ls q = some n → n.wh = false := by
  intro ls q n h
  rcases visible_origin ls q n h with ⟨_, _, e, _, hw, _, rfl⟩ | ⟨i, rfl⟩
  · exact hw
  · rfl

/-- a directory the rule finds at a path that no listed layer has a directory entry for is a made-up one -/
theorem visible_dir_synthetic (ls : List (Nat × Layer)) (q : Path) (n : Node)
    (hno : ∀ x ∈ ls, explicitDirAt x.2 q = false) (h : visible ls q = some n) (hk : n.kind = .dir) :
    n.obs = .dir 0 := by
  rcases visible_origin ls q n h with ⟨x, hx, e, he, hw, hp, rfl⟩ | ⟨i, rfl⟩
  · have h' := List.any_eq_false.mp (hno x hx) e he
    have hk' : e.kind = .dir := hk
    simp [hw, hp, hk'] at h'
  · rfl

/-- whatever the rule finds at a path that no listed layer has an entry for is a made-up directory -/
theorem visible_synthetic (ls : List (Nat × Layer)) (q : Path) (n : Node)
    (hno : ∀ x ∈ ls, explicitRealAt x.2 q = false) (h : visible ls q = some n) : n.obs = .dir 0 := by
  rcases visible_origin ls q n h with ⟨x, hx, e, he, hw, hp, rfl⟩ | ⟨i, rfl⟩
  · have h' := List.any_eq_false.mp (hno x hx) e he
    simp [hw, hp] at h'
  · rfl

theorem visible_cons_explicit {l : Layer} (ls : List (Nat × Layer)) (hf : freshB [] l = true) {e : Entry}
    (he : e ∈ l) (hw : e.wh = false) : visible ((i, l) :: ls) e.p = some (e.node i) := by
  rw [visible, explicitReal_of_mem i hf he hw]

theorem visible_cons_whiteout {l : Layer} (ls : List (Nat × Layer)) (hf : freshB [] l = true)
    (hnub : ∀ b ∈ l, b.blocker = true → ∀ e ∈ l, isUnder b.p e.p = false) (hno : noOpaque l = true) {e : Entry}
    (he : e ∈ l) (hw : e.wh = true) : visible ((i, l) :: ls) e.p = none := by
  have hbl : e.blocker = true := by simp [Entry.blocker, hw]
  have hi : realImplied l e.p = false := by
    have : impliedDir l e.p = false := List.any_eq_false.mpr fun x hx => by simp [hnub e he hbl x hx]
    rw [implied_split, Bool.or_eq_false_iff] at this
    exact this.1
  have hc : covers l e.p = true := by
    unfold covers
    rw [List.any_eq_true]
    exact ⟨e, he, by simp [hw, not_isOpq hno he]⟩
  rw [visible, explicitReal_none_of_wh i hf he hw]
  simp [hi, hc]

theorem visible_cons_unmentioned {l : Layer} (ls : List (Nat × Layer)) {q : Path}
    (h : mentionedBy l q = false) :
    visible ((i, l) :: ls) q = if covers l q = true then none else visible ls q := by
  obtain ⟨ha, hi⟩ := (mentionedBy_false_iff l q).mp h
  rw [implied_split, Bool.or_eq_false_iff] at hi
  rw [visible, explicitReal_none_of_absent i ha]
  simp only [hi.1, hi.2, Bool.false_eq_true, if_false]
  split
  · rfl
  · cases visible ls q <;> rfl

theorem visible_none_of_unmentioned : ∀ (ls : List (Nat × Layer)) (q : Path),
    (∀ x ∈ ls, mentionedBy x.2 q = false) → visible ls q = none := by
  intro ls
  induction ls with
  | nil => intro q _; simp [visible]
  | cons x ls ih =>
    obtain ⟨i, l⟩ := x
    intro q h
    rw [visible_cons_unmentioned i ls (h (i, l) (by simp)), ih q fun x hx => h x (by simp [hx])]
    simp

theorem visible_cons_implied {l : Layer} (ls : List (Nat × Layer)) {q : Path} (hq : q ≠ [])
    (hnub : ∀ b ∈ l, b.blocker = true → ∀ e ∈ l, isUnder b.p e.p = false) (hno : noOpaque l = true)
    (himp : noImplicitOverExplicitAt l (ls.map (·.2)) = true)
    (habs : ∀ e ∈ l, e.p ≠ q) (hi : impliedDir l q = true) :
    obsOf (visible ((i, l) :: ls) q) = .dir 0 := by
  obtain ⟨e, he, hu⟩ := List.any_eq_true.mp hi
  have h2 : ∀ x ∈ ls, (if realImplied l q then !explicitDirAt x.2 q else !explicitRealAt x.2 q) = true :=
    fun x hx => noImplicitOverExplicitAt_apply himp he ((mem_parents e.p q).mpr ⟨hq, hu⟩)
      (explicitRealAt_false_of_absent habs) (List.mem_map.mpr ⟨x, hx, rfl⟩)
  rw [visible, explicitReal_none_of_absent i habs]
  dsimp only
  cases hr : realImplied l q with
  | true =>
    -- something real beneath: a directory; an older directory would keep its metadata, but there is none
    simp only [hr, if_true, Bool.not_eq_true'] at h2 ⊢
    cases hin : (if covers l q = true then none else visible ls q) with
    | none => rfl
    | some m =>
      dsimp only
      split
      · rename_i hk
        split at hin
        · cases hin
        · exact visible_dir_synthetic ls q m h2 hin hk
      · rfl
  | false =>
    -- only whiteouts beneath: nothing of this tar lies above them, so the path is not covered
    simp only [hr, Bool.false_eq_true, if_false, Bool.not_eq_true'] at h2 ⊢
    have hwi : whImplied l q = true := by rw [implied_split, hr] at hi; simpa using hi
    have hc : covers l q = false := by
      cases hcc : covers l q with
      | false => rfl
      | true =>
        obtain ⟨b, hb, hbl, hub⟩ := covers_blocker hno habs hcc
        have := hnub b hb hbl e he
        rw [isUnder_trans hub hu] at this
        cases this
    simp only [hc, Bool.false_eq_true, if_false, hwi, if_true]
    cases hv : visible ls q with
    | none => rfl
    | some m => exact visible_synthetic ls q m h2 hv

/-! ### the views -/

/-- non-blocking nodes of a view come from a directory mention of one of the layers already read -/
def Prov (v : Tree) (later : List Layer) : Prop :=
  ∀ q, q ≠ [] → ∀ n, v.get q = some n → n.blocks = false → ∃ l' ∈ later, dirMention l' q = true

theorem under_get_some {v : Tree} {m : Path → Option Node} {q : Path} {n : Node} (h : (under v m).get q = some n) :
    v.get q = some n ∨ (v.get q = none ∧ inWhDir v q = false ∧ m q = some n) := by
  rw [under_get] at h
  cases hv : v.get q with
  | some x => rw [hv] at h; exact .inl h
  | none =>
    rw [hv] at h
    cases hw : inWhDir v q with
    | true => simp [hw] at h
    | false => simp [hw] at h; exact .inr ⟨rfl, rfl, h⟩

theorem Prov_under {v : Tree} {later : List Layer} (hprov : Prov v later) {l : Layer}
    (hf : freshB [] l = true) : Prov (under v (mention i l)) (l :: later) := by
  intro q hq n hn hnb
  rcases under_get_some hn with hv | ⟨_, _, hm⟩
  · obtain ⟨l', hl', hd⟩ := hprov q hq n hv hnb
    exact ⟨l', by simp [hl'], hd⟩
  · refine ⟨l, by simp, ?_⟩
    unfold dirMention
    rcases mention_cases i hf q with ⟨e, he, hp, hm'⟩ | ⟨_, hi, _⟩ | ⟨_, hm'⟩
    · rw [hm] at hm'; cases hm'
      simp only [node_blocks, Entry.blocker, Bool.or_eq_false_iff, bne_eq_false_iff_eq] at hnb
      have : explicitDirAt l q = true := List.any_eq_true.mpr ⟨e, he, by simp [hnb.1, hnb.2, hp]⟩
      simp [this]
    · simp [hi]
    · rw [hm] at hm'; cases hm'

/-- the made-up directories of a view carry the index of the layer that made them up -/
theorem virt_under {v : Tree} {k : Nat} (hvirt : ∀ q n, v.get q = some n → n.virt = true → k + 1 ≤ n.layer)
    {l : Layer} (hf : freshB [] l = true) :
    ∀ q n, (under v (mention k l)).get q = some n → n.virt = true → k ≤ n.layer := by
  intro q n hn hv
  rcases under_get_some hn with h | ⟨_, _, hm⟩
  · exact Nat.le_of_succ_le (hvirt q n h hv)
  · rcases mention_cases k hf q with ⟨e, _, _, hm'⟩ | ⟨_, _, hm'⟩ | ⟨_, hm'⟩ <;> rw [hm] at hm' <;> cases hm'
    · cases hv
    · exact Nat.le_refl k

theorem mention_open_of_uncovered {l : Layer} (hf : freshB [] l = true) (hno : noOpaque l = true)
    {q : Path} (hc : covers l q = false) : OpenAbove (mention i l) q := by
  intro d hd n hn
  rcases mention_cases i hf d with ⟨e, he, hp, hm⟩ | ⟨_, _, hm⟩ | ⟨_, hm⟩ <;> rw [hn] at hm <;> cases hm
  · rw [node_blocks]
    cases hbl : e.blocker with
    | false => rfl
    | true => rw [blocker_covers hno he hbl (hp ▸ hd)] at hc; cases hc
  · rfl

/-- **One layer.**  Seen through the view `v` built from the layers after it, what the loader makes of layer `i`
(`mention`) followed by the rule for the older layers shows the same at every path as the rule for layer `i` and the
older layers. -/
theorem layer_agrees (l : Layer) (ls : List (Nat × Layer)) (later : List Layer) (v : Tree)
    (hroot : (v.get []).isSome = true) (hok : layerOK l = true) (hno : noOpaque l = true)
    (hrec : noRecreateAt later l (ls.map (·.2)) = true) (himp : noImplicitOverExplicitAt l (ls.map (·.2)) = true)
    (hprov : Prov v later) (q : Path) :
    obsOf ((under (under v (mention i l)) (visible ls)).get q) = obsOf ((under v (visible ((i, l) :: ls))).get q) := by
  obtain ⟨hf, hnub⟩ := (layerOK_iff l).mp hok
  by_cases hq : q = []
  · subst hq
    rw [under_get_nil _ _ (by rw [under_get_nil _ _ hroot]; exact hroot), under_get_nil _ _ hroot, under_get_nil _ _ hroot]
  rw [under_get, under_get v, under_get v]
  cases hvq : v.get q with
  | some n => rfl
  | none =>
  cases hw : inWhDir v q with
  | true => simp [inWhDir_under_of_inWhDir _ hw]
  | false =>
  have hvnb : ∀ d, isUnder d q = true → blocksAt v d = false := (inWhDir_false_iff v q).mp hw
  simp only [Option.none_or, Bool.false_eq_true, if_false]
  rcases mention_cases i hf q with ⟨e, he, hp, hm⟩ | ⟨habs, hi, hm⟩ | ⟨hmb, hm⟩ <;> rw [hm]
  · -- the layer lists `q` itself
    subst hp
    cases hwh : e.wh with
    | false => rw [visible_cons_explicit i ls hf he hwh]; rfl
    | true => rw [visible_cons_whiteout i ls hf hnub hno he hwh]; simp [obsOf, Node.obs, Entry.node, hwh]
  · -- `q` is only implied by the layer
    rw [visible_cons_implied i ls hq hnub hno himp habs hi]; rfl
  · -- the layer says nothing about `q` itself
    rw [visible_cons_unmentioned i ls hmb, Option.none_or]
    have habs := ((mentionedBy_false_iff l q).mp hmb).1
    cases hc : covers l q with
    | false => rw [inWhDir_under (mention_open_of_uncovered i hf hno hc), hw]
    | true =>
      obtain ⟨b, hb, hbl, hu⟩ := covers_blocker hno habs hc
      have hbne : b.p ≠ [] := fresh_ne_nil hf b hb
      simp only [if_true]
      cases hvd : v.get b.p with
      | none =>
        -- the whiteout / file lands in the view and hides `q`
        have : inWhDir (under v (mention i l)) q = true := by
          refine (inWhDir_iff _ q).mpr ⟨b.p, hu, ?_⟩
          unfold blocksAt
          rw [under_get, hvd, inWhDir_false_of_under hu hw, mention, explicitFirst_of_mem i hf hb]
          exact hbl
        simp [this]
      | some m =>
        -- re-created by a later layer: allowed only when nothing older lies beneath
        have hmnb : m.blocks = false := by have := hvnb b.p hu; rwa [blocksAt, hvd] at this
        obtain ⟨l', hl', hdm⟩ := hprov b.p hbne m hvd hmnb
        have hvis : visible ls q = none := by
          apply visible_none_of_unmentioned
          intro x hx
          rw [mentionedBy_false_iff]
          have h3 := fun y hy => noRecreateAt_apply hrec hb hbl hl' hdm (List.mem_map.mpr ⟨x, hx, rfl⟩) (x := y) hy
          refine ⟨fun y hy hyq => ?_, List.any_eq_false.mpr fun y hy => ?_⟩
          · rw [← hyq] at hu; rw [h3 y hy] at hu; cases hu
          · cases hyu : isUnder q y.p with
            | false => simp
            | true => have := h3 y hy; rw [isUnder_trans hu hyu] at this; cases this
        rw [hvis]; simp

/-- The induction over the layers of one view, newest first.  `v` = the view after the layers already read
(`later`), `k` = number of layers still to read. -/
theorem view_gen (layers : List Layer) : ∀ (k : Nat) (later : List Layer) (v : Tree), (v.get []).isSome = true →
    Prov v later → (∀ q n, v.get q = some n → n.virt = true → k ≤ n.layer) →
    Hfrom later ((newestFirst layers k).map (·.2)) = true →
    ∀ q, obsOf ((revFrom layers k v).get q) = obsOf ((under v (visible (newestFirst layers k))).get q) := by
  intro k
  induction k with
  | zero =>
    intro later v _ _ _ _ q
    rw [show visible (newestFirst layers 0) = fun _ => none from rfl, under_empty]
    rfl
  | succ k ih =>
    intro later v hroot hprov hvirt hH q
    obtain ⟨hok, hno, hrec, himp, hrest⟩ := Hfrom_cons hH
    have hf := ((layerOK_iff _).mp hok).1
    rw [revFrom, revLayer_apply k v _ hroot hok fun q n hn hv => Nat.ne_of_gt (hvirt q n hn hv)]
    rw [ih (layers.getD k [] :: later) _ (by rw [under_get_nil _ _ hroot]; exact hroot) (Prov_under k hprov hf)
      (virt_under hvirt hf) hrest q]
    exact layer_agrees k _ _ later v hroot hok hno hrec himp hprov q

end Scalibr.Overlay
