/-
Helper lemmas for C05.  Everything is said in terms of `viewBelow h i`, the file as layer `i` finds it: the origin is the
layer that finds the package absent while every later layer finds it present (`isOrigin_iff`), and the backwards loop may
skip exactly the layers that leave the file as they found it (`SkipSound`).  Then: validity of the extraction cache, the
invariant of the loop, inserting a layer that does not touch the file, and the history alignment.
-/
import Scalibr.Spec.Trace
namespace Scalibr.Trace

/-- membership in an optional package list (an absent file holds no packages) -/
def has (v : Option (List Pkg)) (p : Pkg) : Bool := (v.getD []).contains p

/-- the file as layer `i` finds it: nothing below layer 0, the view up to layer `i-1` otherwise -/
def viewBelow (h : History) (i : Nat) : Option (List Pkg) := (h.take i).foldl applyOp none

theorem viewAt_eq (h : History) (i : Nat) : viewAt h i = viewBelow h (i+1) := rfl

theorem viewAt_step (h : History) (i : Nat) (hi : i < h.length) : viewAt h i = applyOp (viewBelow h i) h[i] := by
  unfold viewAt viewBelow
  rw [List.take_succ_eq_append_getElem hi, List.foldl_append]
  rfl

theorem viewAt_beyond (h : History) (i : Nat) (hi : h.length ≤ i) : viewAt h i = viewBelow h i := by
  unfold viewAt viewBelow
  rw [List.take_of_length_le (by omega), List.take_of_length_le hi]

/-- The specification's downward scan and the model's upward fold describe the same views. -/
theorem lastTouch_view (h : History) : ∀ i,
    viewAt h i = (match lastTouch h i with
      | some (.write ps) => some ps
      | some (.link ps) => some ps
      | _ => none)
  | 0 => by
    unfold lastTouch
    by_cases h0 : 0 < h.length
    · rw [viewAt_step h 0 h0, List.getElem?_eq_getElem h0]
      cases h[0] <;> rfl
    · rw [List.getElem?_eq_none (by omega), viewAt_beyond h 0 (by omega)]
      rfl
  | i+1 => by
    unfold lastTouch
    by_cases hi : i + 1 < h.length
    · rw [viewAt_step h (i+1) hi, List.getElem?_eq_getElem hi]
      cases h[i+1] with
      | keep => exact lastTouch_view h i
      | _ => rfl
    · rw [List.getElem?_eq_none (by omega), viewAt_beyond h (i+1) (by omega)]
      exact lastTouch_view h i

theorem present_eq (h : History) (i : Nat) (p : Pkg) : present h i p = has (viewAt h i) p := by
  unfold present
  rw [lastTouch_view h i]
  cases lastTouch h i with
  | none => rfl
  | some op => cases op <;> rfl

def PresentFrom (h : History) (p : Pkg) (L : Nat) : Prop := ∀ j, L ≤ j → j < h.length → present h j p = true

/-- The origin, locally: the layer that finds the package absent, while every later layer — and the final view — finds it
present. -/
theorem isOrigin_iff (h : History) (p : Pkg) (L : Nat) : IsOrigin h p L ↔
    L < h.length ∧ has (viewBelow h L) p = false ∧ ∀ j, L < j → j ≤ h.length → has (viewBelow h j) p = true := by
  constructor
  · rintro ⟨hL, hfrom, hleast⟩
    refine ⟨hL, ?_, fun j h1 h2 => ?_⟩
    · cases L with
      | zero => rfl
      | succ L =>
        -- were the package in view `L` as well, `L` would be a smaller candidate
        apply Bool.eq_false_iff.mpr
        intro hb
        have := hleast L (by omega) fun j h1 h2 => by
          rcases Nat.eq_or_lt_of_le h1 with rfl | h1
          · rw [present_eq]; exact hb
          · exact hfrom j h1 h2
        omega
    · obtain ⟨j, rfl⟩ : ∃ j', j = j' + 1 := ⟨j - 1, by omega⟩
      rw [← viewAt_eq, ← present_eq]
      exact hfrom j (by omega) (by omega)
  · rintro ⟨hL, hb, hfrom⟩
    refine ⟨hL, fun j h1 h2 => by rw [present_eq]; exact hfrom (j+1) (by omega) (by omega), fun L' _ hfrom' => ?_⟩
    apply Nat.le_of_not_lt
    intro hlt
    obtain ⟨m, rfl⟩ : ∃ m, L = m + 1 := ⟨L - 1, by omega⟩
    have := hfrom' m (by omega) (by omega)
    rw [present_eq, viewAt_eq, hb] at this
    cases this

theorem all_from_iff (h : History) (p : Pkg) (L : Nat) :
    ((List.range h.length).all fun j => j < L || present h j p) = true ↔ PresentFrom h p L := by
  simp only [List.all_eq_true, List.mem_range, Bool.or_eq_true, decide_eq_true_eq]
  constructor
  · intro H j h1 h2
    exact (H j h2).resolve_left (by omega)
  · intro H j hj
    by_cases hlt : j < L
    · exact .inl hlt
    · exact .inr (H j (by omega) hj)

theorem originSpec_iff (h : History) (p : Pkg) (L : Nat) : originSpec h p = some L ↔ IsOrigin h p L := by
  unfold originSpec IsOrigin
  simp only [List.find?_range_eq_some, all_from_iff, List.mem_range, Bool.not_eq_true']
  constructor
  · rintro ⟨hfrom, hL, hleast⟩
    refine ⟨hL, hfrom, fun L' _ hfrom' => Nat.le_of_not_lt fun hlt => ?_⟩
    have := hleast L' hlt
    rw [(all_from_iff h p L').2 hfrom'] at this
    cases this
  · rintro ⟨hL, hfrom, hleast⟩
    refine ⟨hfrom, hL, fun L' hlt => Bool.eq_false_iff.mpr fun hall => ?_⟩
    have := hleast L' (by omega) ((all_from_iff h p L').1 hall)
    omega

theorem isOrigin_unique (h : History) (p : Pkg) (L1 L2 : Nat) (h1 : IsOrigin h p L1) (h2 : IsOrigin h p L2) :
    L1 = L2 :=
  Option.some.inj (((originSpec_iff h p L1).2 h1).symm.trans ((originSpec_iff h p L2).2 h2))

/-! ### the skip and the extraction cache -/

/-- what the loop needs of `filesExistInLayer`: a layer it lets the loop skip leaves the file as it found it -/
def SkipSound (h : History) (diff : Nat → Bool) : Prop :=
  ∀ i, diff i = false → (viewAt h i).isSome = true → viewAt h i = viewBelow h i

/-- a layer whose own diff lacks the file, in whose view the file exists, keeps it (a whiteout would have removed it);
in particular layer 0 is never skipped -/
theorem skipSound_inDiff (h : History) : SkipSound h (inDiff h) := by
  intro i hnd hs
  by_cases hi : i < h.length
  · unfold inDiff at hnd
    rw [viewAt_step h i hi] at hs ⊢
    rw [List.getElem?_eq_getElem hi] at hnd
    cases hop : h[i] with
    | keep => rfl
    | delete => rw [hop] at hs; cases hs
    | write q => rw [hop] at hnd; cases hnd
    | link q => rw [hop] at hnd; cases hnd
  · exact viewAt_beyond h i (by omega)

/-- every cached entry is what re-extraction would give: the packages of that file in that view
([] when the file is absent) -/
def CacheOK (img : Nat → History) (c : Cache) : Prop :=
  ∀ f i ps, c (f, i) = some ps → ps = (viewAt (img f) i).getD []

theorem cacheOK_empty (img : Nat → History) : CacheOK img Cache.empty := by
  intro f i ps h; simp [Cache.empty] at h

theorem cacheOK_insert {img : Nat → History} {c : Cache} (hc : CacheOK img c) (f i : Nat) {ps : List Pkg}
    (hps : ps = (viewAt (img f) i).getD []) : CacheOK img (c.insert (f, i) ps) := by
  intro f' i' qs h
  unfold Cache.insert at h
  split at h
  · rename_i heq
    cases heq
    cases h
    exact hps
  · exact hc f' i' qs h

/-- the outcomes of `fetch` on a valid cache: the packages of view `i` (cached or re-extracted), a skip
(file present in the view, `diff` says the layer has no entry for it), or a failed run (only when cancelled) -/
theorem fetch_cases {img : Nat → History} {diff : Nat → Bool} {cancelAt : Option Nat} {f i : Nat} {s : St}
    (hc : CacheOK img s.cache) {r : Fetch} : fetch (img f) diff cancelAt f i s = r →
    match r with
    | .pkgs ps s' => ps = (viewAt (img f) i).getD [] ∧ CacheOK img s'.cache
    | .skip => diff i = false ∧ (viewAt (img f) i).isSome = true
    | .err => cancelled cancelAt s.runs = true := by
  rintro rfl
  fun_cases fetch (img f) diff cancelAt f i s
  case case1 ps hcache => exact ⟨hc f i ps hcache, hc⟩
  case case2 hv => exact ⟨by rw [hv]; rfl, cacheOK_insert hc f i (by rw [hv]; rfl)⟩
  case case3 hcan => exact hcan
  case case4 ps hv _ _ => exact ⟨by rw [hv]; rfl, cacheOK_insert hc f i (by rw [hv]; rfl)⟩
  case case5 ps hv hnd => exact ⟨by simpa using hnd, by rw [hv]; rfl⟩

theorem cancelled_iff (cancelAt : Option Nat) (runs : Nat) :
    cancelled cancelAt runs = true ↔ ∃ k, cancelAt = some k ∧ k ≤ runs := by
  cases cancelAt <;> simp [cancelled]

/-- what the trace of one package may return: THE origin, or nothing at all when a re-extraction failed
(which only a cancelled context causes) -/
def Traced (img : Nat → History) (cancelAt : Option Nat) (f : Nat) (p : Pkg) (r : Option Nat × St) : Prop :=
  ((∃ L, r.1 = some L ∧ IsOrigin (img f) p L) ∨ (r.1 = none ∧ cancelled cancelAt r.2.runs = true)) ∧
  CacheOK img r.2.cache

theorem Traced.spec {img : Nat → History} {cancelAt : Option Nat} {f : Nat} {p : Pkg} {r : Option Nat × St}
    (ht : Traced img cancelAt f p r) :
    r.1 = originSpec (img f) p ∨ (r.1 = none ∧ cancelled cancelAt r.2.runs = true) :=
  ht.1.imp_left fun ⟨L, h1, h2⟩ => h1.trans ((originSpec_iff _ p L).2 h2).symm

/-- Main invariant of the backwards loop. `cnt` layers remain (indices `cnt-1 … 0`); `last` is
`lastScannedLayerIndex`: every layer above it finds the package present, and the layers `cnt … last-1` between were
skipped, so all of `cnt … last` find the file as layer `cnt` does — existing, if a layer was skipped at all. -/
theorem loop_traced (img : Nat → History) (diff : Nat → Bool) (cancelAt : Option Nat) (f : Nat) (p : Pkg)
    (hd : SkipSound (img f) diff) (cnt last : Nat) (s : St)
    (hle : cnt ≤ last) (hlast : last < (img f).length) (hc : CacheOK img s.cache)
    (hP : ∀ j, last < j → j ≤ (img f).length → has (viewBelow (img f) j) p = true)
    (hC : ∀ j, cnt ≤ j → j ≤ last → viewBelow (img f) j = viewBelow (img f) cnt)
    (hS : cnt < last → (viewBelow (img f) cnt).isSome = true) :
    Traced img cancelAt f p (loop (img f) diff cancelAt f p cnt last s) := by
  fun_induction loop (img f) diff cancelAt f p cnt last s
  case case1 last s =>
    refine ⟨.inl ⟨0, rfl, (isOrigin_iff _ p 0).2 ⟨by omega, rfl, fun j h1 h2 => ?_⟩⟩, hc⟩
    rcases Nat.eq_zero_or_pos last with rfl | hpos
    · exact hP j h1 h2
    · cases hS hpos
  case case2 i last s heq => exact ⟨.inr ⟨rfl, fetch_cases hc heq⟩, hc⟩
  case case3 i last s heq ih =>
    obtain ⟨hnd, hsome⟩ := fetch_cases hc heq
    have hv := hd i hnd hsome
    refine ih (by omega) hlast hc hP (fun j h1 h2 => ?_) (fun _ => hv ▸ hsome)
    rcases Nat.eq_or_lt_of_le h1 with rfl | h1
    · rfl
    · exact (hC j h1 h2).trans hv
  case case4 i last s ps s' heq hin ih =>
    obtain ⟨rfl, hc'⟩ := fetch_cases hc heq
    refine ih (Nat.le_refl _) (by omega) hc' (fun j h1 h2 => ?_) (fun j h1 h2 => Nat.le_antisymm h1 h2 ▸ rfl)
      (fun h => absurd h (Nat.lt_irrefl _))
    by_cases hj : last < j
    · exact hP j hj h2
    · rw [hC j h1 (by omega)]
      exact hin
  case case5 i last s ps s' heq hin =>
    obtain ⟨rfl, hc'⟩ := fetch_cases hc heq
    refine ⟨.inl ⟨last, rfl, (isOrigin_iff _ p last).2 ⟨hlast, ?_, hP⟩⟩, hc'⟩
    rw [hC last hle (Nat.le_refl _)]
    exact Bool.eq_false_iff.mpr hin

theorem traceC_traced (img : Nat → History) (diff : Nat → Bool) (cancelAt : Option Nat) (f : Nat) (p : Pkg) (s : St)
    (hd : SkipSound (img f) diff)
    (hc : CacheOK img s.cache) (hp : present (img f) ((img f).length - 1) p = true) :
    Traced img cancelAt f p (traceC (img f) diff cancelAt f p s) := by
  have hn : 0 < (img f).length := Nat.pos_of_ne_zero fun h0 => by
    rw [List.length_eq_zero_iff.1 h0] at hp
    cases hp
  refine loop_traced img diff cancelAt f p hd _ _ s (Nat.le_refl _) (by omega) hc (fun j h1 h2 => ?_)
    (fun j h1 h2 => Nat.le_antisymm h2 h1 ▸ rfl) (fun h => absurd h (Nat.lt_irrefl _))
  obtain rfl : j = (img f).length - 1 + 1 := by omega
  rw [← viewAt_eq, ← present_eq]
  exact hp

/-! ### inserting a layer that does not touch the file -/

theorem viewBelow_insertKeep (h : History) (k : Nat) (hk : k ≤ h.length) (j : Nat) :
    viewBelow (insertKeep h k) j = viewBelow h (if j ≤ k then j else j - 1) := by
  unfold viewBelow insertKeep
  rw [List.take_append, List.take_take, List.length_take, Nat.min_eq_left hk]
  split
  · rename_i hj
    rw [Nat.sub_eq_zero_of_le hj, Nat.min_eq_left hj, List.take_zero, List.append_nil]
  · obtain ⟨d, rfl⟩ : ∃ d, j = k + d + 1 := ⟨j - k - 1, by omega⟩
    rw [show k + d + 1 - k = d + 1 by omega, List.take_succ_cons, Nat.min_eq_right (by omega), List.foldl_append,
      List.foldl_cons, Nat.add_sub_cancel, List.take_add, List.foldl_append]
    rfl

theorem length_insertKeep (h : History) (k : Nat) (hk : k ≤ h.length) : (insertKeep h k).length = h.length + 1 := by
  simp only [insertKeep, List.length_append, List.length_take, List.length_cons, List.length_drop]; omega

theorem isOrigin_insertKeep (h : History) (p : Pkg) (k L : Nat) (hk : k ≤ h.length) (ho : IsOrigin h p L) :
    IsOrigin (insertKeep h k) p (shift k L) := by
  obtain ⟨hL, hb, hfrom⟩ := (isOrigin_iff h p L).1 ho
  rw [isOrigin_iff, length_insertKeep h k hk]
  refine ⟨by unfold shift; split <;> omega, ?_, fun j h1 h2 => ?_⟩
  · rw [viewBelow_insertKeep h k hk, show (if shift k L ≤ k then shift k L else shift k L - 1) = L by
      unfold shift; split <;> split <;> omega]
    exact hb
  · rw [viewBelow_insertKeep h k hk]
    unfold shift at h1
    exact hfrom _ (by split at h1 <;> split <;> omega) (by split <;> omega)

/-! ### history alignment -/

theorem alignLoop_spec (nLayers : Nat) (hist : List HEntry) (v hi : Nat) (acc : List ChainMeta)
    (hle : v + (hist.filter (fun e => !e.empty)).length ≤ nLayers) :
    alignLoop nLayers hist v hi acc =
      some (acc ++ alignSpec hist v hi, v + (hist.filter (fun e => !e.empty)).length, hi + hist.length) := by
  fun_induction alignLoop nLayers hist v hi acc
  case case1 => simp [alignSpec]
  case case2 he ih =>
    simp only [List.filter_cons, he, Bool.not_true, Bool.false_eq_true, if_false] at hle ⊢
    simp [ih hle, alignSpec, he, Nat.add_assoc, Nat.add_comm 1]
  -- a non-empty entry with the v1 layers used up: excluded by the count
  case case3 he hv =>
    simp [he] at hle
    omega
  case case4 he _ ih =>
    simp only [List.filter_cons, he, Bool.not_false, if_true, List.length_cons] at hle ⊢
    simp [ih (by omega), alignSpec, he, Nat.add_assoc, Nat.add_comm 1]

theorem alignRest_done (nLayers : Nat) : ∀ fuel v hi acc, nLayers ≤ v → alignRest nLayers fuel v hi acc = acc
  | 0, _, _, _, _ => rfl
  | fuel+1, v, hi, acc, h => by
    have : ¬ v < nLayers := by omega
    simp [alignRest, this]

theorem alignSpec_length (hist : List HEntry) (v hi : Nat) : (alignSpec hist v hi).length = hist.length := by
  fun_induction alignSpec hist v hi
  case case1 => rfl
  all_goals rename_i ih; rw [List.length_cons, List.length_cons, ih]

theorem alignSpec_getElem? (hist : List HEntry) (v hi i : Nat) :
    (alignSpec hist v hi)[i]? = hist[i]?.map fun e =>
      ⟨hi + i, if e.empty then none else some (v + ((hist.take i).filter (fun e => !e.empty)).length), e.cmd⟩ := by
  fun_induction alignSpec hist v hi generalizing i
  case case1 => rfl
  all_goals
    rename_i he ih
    cases i with
    | zero => simp [he]
    | succ i => simp [ih, he, Nat.add_assoc, Nat.add_comm 1]

end Scalibr.Trace
