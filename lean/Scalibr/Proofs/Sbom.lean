/-
Helper lemmas for C15: the purl the importer reads from one exported entry is the parse of the printed purl
(`convert_entry`, `convert_component_purl`), so exporter loop + importer loop give the specification's filter and map in
inventory order (`spdx_loop_import`, `cdx_loop_import`); with purls that parse back this is the `norm` form.
-/
import Scalibr.Spec.Sbom
import Scalibr.Proofs.Lists
namespace Scalibr.Sbom

variable {Purl : Type}

theorem purlsOf_nil : purlsOf ([] : List (ImpPkg Purl)) = [] := rfl

theorem purlsOf_filterMap {α : Type} (f : α → Option (ImpPkg Purl)) (l : List α) :
    purlsOf (l.filterMap f) = l.filterMap fun x => (f x).bind (·.purl) := by
  unfold purlsOf
  rw [List.filterMap_filterMap]

/-! ### SPDX -/

/-- the "main" package ToSPDX23 prepends has no external reference and is skipped by the importer -/
theorem convert_main (ops : PurlOps Purl) (path : String) (m : SpdxPackage) (h : m.extRefs = []) :
    convertSpdxPackage ops path m = none := by
  simp [convertSpdxPackage, h]

/-- an entry carrying exactly one `purl` reference is kept iff the locator parses, with the parsed purl -/
theorem convert_entry (ops : PurlOps Purl) (path : String) (e : SpdxPackage) (cat loc : String)
    (h : e.extRefs = [{ category := cat, refType := "purl", locator := loc }]) :
    (convertSpdxPackage ops path e).bind (·.purl) = ops.parse loc := by
  have h1 : ¬ ("purl" = "cpe23Type" ∨ "purl" = "http://spdx.org/rdf/references/cpe23Type") := by decide
  simp only [convertSpdxPackage, h, List.foldl, refStep, if_neg h1, true_or, if_true]
  cases hp : ops.parse loc <;> simp

theorem exportedSpdx_none (ops : PurlOps Purl) (p : Pkg Purl) (h : p.purl = none) : exportedSpdx ops p = false := by
  simp [exportedSpdx, h]

theorem exportedSpdx_some (ops : PurlOps Purl) (p : Pkg Purl) (u : Purl) (h : p.purl = some u) :
    exportedSpdx ops p = (ops.name u ≠ "" && ops.version u ≠ "") := by
  simp [exportedSpdx, h]

/-- the loop of ToSPDX23 followed by the importer's loop: exactly the specification, in order -/
theorem spdx_loop_import (ops : PurlOps Purl) (env : Env) (mainId path : String) (inv : List (Pkg Purl)) (k : Nat) :
    purlsOf ((spdxLoop ops env mainId k inv).1.filterMap (convertSpdxPackage ops path)) = specSpdx ops inv := by
  rw [purlsOf_filterMap]
  induction inv generalizing k with
  | nil => simp [spdxLoop, specSpdx, specPurls]
  | cons pkg rest ih =>
    unfold spdxLoop
    cases hp : pkg.purl with
    | none =>
      simp only []
      rw [ih k]
      simp [specSpdx, specPurls, exportedSpdx_none ops pkg hp]
    | some u =>
      simp only []
      by_cases hne : ops.name u = "" ∨ ops.version u = ""
      · rw [if_pos hne, ih k]
        have : exportedSpdx ops pkg = false := by
          rw [exportedSpdx_some ops pkg u hp]
          rcases hne with h | h <;> simp [h]
        simp [specSpdx, specPurls, this]
      · rw [if_neg hne]
        have hex : exportedSpdx ops pkg = true := by
          rw [exportedSpdx_some ops pkg u hp]
          simpa using hne
        simp only [List.filterMap_cons]
        rw [convert_entry ops path _ "PACKAGE-MANAGER" (ops.str u) rfl, ih (k + 1)]
        simp only [specSpdx, specPurls, List.filter_cons, hex, if_true, List.filterMap_cons, hp, Option.bind_some, normP]

/-- document level -/
theorem spdx_doc_import (ops : PurlOps Purl) (env : Env) (cfg : SPDXConfig) (path : String) (inv : List (Pkg Purl)) :
    purlsOf (convertSpdxDocToPackage ops (toSpdx ops env cfg inv) path) = specSpdx ops inv := by
  unfold convertSpdxDocToPackage toSpdx
  simp only [List.filterMap_cons]
  rw [convert_main ops path _ rfl]
  exact spdx_loop_import ops env _ path inv 1

/-! ### CycloneDX -/

theorem enumerate_cons (ops : PurlOps Purl) (c : Component) (cs : List Component) :
    enumerateComponents ops (c :: cs) = enumerateComponent ops c ++ enumerateComponents ops cs := by
  rw [enumerateComponents]

theorem enumerate_leaf (ops : PurlOps Purl) (r t n v p c : String) (o : List String) :
    enumerateComponent ops (.mk r t n v p c o []) = (convertComponentToInventory ops (.mk r t n v p c o [])).toList := by
  rw [enumerateComponent, enumerateComponents]; simp

/-- the purl of what the importer makes of one component -/
theorem convert_component_purl (ops : PurlOps Purl) (c : Component) (hempty : ops.parse "" = none) :
    (convertComponentToInventory ops c).bind (·.purl) = ops.parse c.purl := by
  unfold convertComponentToInventory
  by_cases hp : c.purl = ""
  · simp [hp, hempty]
  · simp only [ne_eq, hp, not_false_eq_true, if_true]
    cases ops.parse c.purl <;> simp

theorem purlsOf_append (a b : List (ImpPkg Purl)) : purlsOf (a ++ b) = purlsOf a ++ purlsOf b := by
  simp [purlsOf, List.filterMap_append]

theorem purlsOf_toList (o : Option (ImpPkg Purl)) : purlsOf o.toList = (o.bind (·.purl)).toList := by
  cases o with
  | none => rfl
  | some x => cases h : x.purl <;> simp [purlsOf, h]

theorem purlsOf_relocate (path : String) (l : List (ImpPkg Purl)) :
    purlsOf (l.map fun p => { p with locations := [path] }) = purlsOf l := by
  simp [purlsOf, List.filterMap_map, Function.comp_def]

theorem cdx_loop_import (ops : PurlOps Purl) (env : Env) (hempty : ops.parse "" = none) (inv : List (Pkg Purl)) (k : Nat) :
    purlsOf (enumerateComponents ops (cdxLoop ops env k inv)) = specCdx ops inv := by
  induction inv generalizing k with
  | nil => simp [cdxLoop, enumerateComponents, specCdx, specPurls, purlsOf]
  | cons pkg rest ih =>
    unfold cdxLoop
    rw [enumerate_cons, purlsOf_append, ih (k + 1)]
    unfold cdxComponent
    rw [enumerate_leaf, purlsOf_toList, convert_component_purl ops _ hempty]
    simp only [Component.purl]
    cases hp : pkg.purl with
    | none => simp [hempty, specCdx, specPurls, exportedCdx, hasPurl, hp]
    | some u =>
      have he : exportedCdx pkg = true := by simp [exportedCdx, hasPurl, hp]
      simp only [specCdx, specPurls, List.filter_cons, he, if_true, List.filterMap_cons, hp, Option.bind_some, normP]
      cases ops.parse (ops.str u) <;> simp

theorem cdx_doc_import (ops : PurlOps Purl) (env : Env) (cfg : CDXConfig) (path : String)
    (hempty : ops.parse "" = none) (inv : List (Pkg Purl)) :
    purlsOf (convertCdxBomToPackage ops (toCdx ops env cfg inv) path) = specCdx ops inv := by
  unfold convertCdxBomToPackage toCdx
  simp only []
  rw [purlsOf_relocate]
  exact cdx_loop_import ops env hempty inv 1

/-! ### from the general specification to the `norm` form -/

theorem specPurls_eq_specNorm (ops : PurlOps Purl) (norm : Purl → Purl) (exported : Pkg Purl → Bool)
    (inv : List (Pkg Purl)) (h : ParsesBack ops norm inv) :
    specPurls ops exported inv = specNorm norm exported inv := by
  unfold specPurls specNorm
  rw [List.map_filterMap]
  refine Lists.filterMap_congr fun p hp => ?_
  cases hu : p.purl with
  | none => rfl
  | some u => simp [normP, h p (List.mem_filter.mp hp).1 u hu]

/-- with a total normalisation nothing is lost -/
theorem lostOf_zero (ops : PurlOps Purl) (norm : Purl → Purl) (exported : Pkg Purl → Bool)
    (inv : List (Pkg Purl)) (h : ParsesBack ops norm inv) : lostOf ops exported inv = 0 := by
  unfold lostOf
  rw [List.length_eq_zero_iff, List.filter_eq_nil_iff]
  intro p hp
  have hm : p ∈ inv := (List.mem_filter.mp hp).1
  cases hu : p.purl with
  | none => simp
  | some u => simp [normP, h p hm u hu]

/-! ### file-name dispatch -/

theorem spdx_dispatch (f : SpdxFormat) (hf : f ≠ .rdf) : findSpdxExtractor (spdxFileName f) = some f := by
  cases f <;> first | exact absurd rfl hf | decide +kernel

theorem cdx_dispatch (f : CdxFormat) : findCdxExtractor (cdxFileName f) = some f := by
  cases f <;> decide +kernel

end Scalibr.Sbom
