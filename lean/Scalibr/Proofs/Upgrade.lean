/-
C11: what each strategy model (`Model/Upgrade`, `Relax`, `Override`, `OverrideMulti`, `SuggestMaven`) can answer.
Every search is characterised by its result: the value it started from, or a candidate that passed `allows` and lies
above it.  The override loops terminate because a round that patches lowers the number of known versions ranked above
the package's requirement; the cumulative bound rests on each level's class of differences being transitive.
-/
import Scalibr.Spec.Upgrade
import Scalibr.Proofs.Lists
namespace Scalibr.Upgrade

theorem allows_iff (lvl d : Nat) :
    allows lvl d = true ↔
      match lvl with
      | 0 => True
      | 1 => d ≠ dMajor
      | 2 => d ≠ dMajor ∧ d ≠ dMinor
      | _ => d = dSame := by
  unfold allows dMajor dMinor dSame
  by_cases hd : d = 0
  · subst hd; rw [if_pos rfl]; split <;> simp
  · rw [if_neg hd]; split <;> simp [hd]

theorem allows_major_all (lvl d : Nat) (h : allows lvl dMajor = true) : allows lvl d = true := by
  rw [allows_iff] at *
  match lvl with
  | 0 => trivial
  | 1 => exact absurd rfl h
  | 2 => exact absurd rfl h.1
  | n + 3 => cases h

theorem allows_trans (diff : Nat → Nat → Nat) (L : DiffClassLaws diff) (lvl a b c : Nat)
    (h1 : allows lvl (diff a b) = true) (h2 : allows lvl (diff b c) = true) : allows lvl (diff a c) = true := by
  rw [allows_iff] at *
  match lvl with
  | 0 => trivial
  | 1 => exact L.major a b c h1 h2
  | 2 => exact L.minor a b c h1 h2
  | n + 3 => exact L.same a b c h1 h2

theorem allows_refl (diff : Nat → Nat → Nat) (L : DiffClassLaws diff) (lvl a : Nat) : allows lvl (diff a a) = true := by
  rw [L.refl]; rfl

end Scalibr.Upgrade

namespace Scalibr.Relax
open Scalibr.Upgrade

theorem scanTop_spec (t : T) (k : Nat) (next : Option Nat) (pre : Bool) (l nx : Nat) (p : Bool)
    (h : scanTop t k next pre = (some l, some nx, p)) (hn : ∀ x, next = some x → k ≤ x) :
    l < k ∧ l < nx := by
  fun_induction scanTop t k next pre with
  | case1 next pre => cases h
  | case2 i next pre hm =>
    obtain ⟨rfl, hnx, -⟩ := Prod.mk.inj h |>.imp Option.some.inj Prod.mk.inj
    exact ⟨Nat.lt_succ_self _, hn nx hnx⟩
  | case3 i next pre hm hp ih =>
    have := ih h fun x hx => Option.some.inj hx ▸ Nat.le_refl _
    omega
  | case4 i next pre hm hp ih =>
    have := ih h fun x hx => Nat.le_of_succ_le (hn x hx)
    omega

/-- the upward search returns the start value or a later index whose difference was allowed -/
theorem best_spec (t : T) (level cmp diff : Nat) (nip : Bool) (fuel i cur : Nat) (hci : cur < i) :
    let r := best t level cmp diff nip fuel i cur
    (r = cur ∨ (cur < r ∧ ∃ d, t.diff cmp r = some d ∧ allows level d = true)) := by
  fun_induction best t level cmp diff nip fuel i cur with
  | case1 i cur => exact Or.inl rfl
  | case2 fuel i cur hi => exact Or.inl rfl
  | case3 fuel i cur hi hd ih => exact ih (by omega)
  | case4 fuel i cur hi d hd ha => exact Or.inl rfl
  | case5 fuel i cur hi d hd ha hdd => exact Or.inl rfl
  | case6 fuel i cur hi d hd ha hdd ih =>
    by_cases hp : (!t.isPre i || nip) = true
    · rw [if_pos hp] at ih ⊢
      right
      rcases ih (by omega) with e | ⟨h1, h2⟩
      · rw [e]; exact ⟨hci, d, hd, by simpa using ha⟩
      · exact ⟨by omega, h2⟩
    · rw [if_neg hp] at ih ⊢
      exact ih (by omega)
end Scalibr.Relax

namespace Scalibr.Override
open Scalibr.Upgrade Scalibr.Lists

theorem dropWhile_head_le (rank : Nat → Nat) (p : Nat → Bool) (l : List Nat) (hs : Sorted rank l) :
    ∀ r ∈ l.dropWhile p, ∃ y ∈ l.dropWhile p, p y = false ∧ rank y ≤ rank r := by
  have hs' : Sorted rank (l.dropWhile p) := hs.sublist (List.dropWhile_sublist p)
  have hh := List.head?_dropWhile_not p l
  cases hd : l.dropWhile p with
  | nil => exact fun r hr => nomatch hr
  | cons y ys =>
    rw [hd] at hs' hh
    refine fun r hr => ⟨y, List.mem_cons_self, hh, ?_⟩
    rcases List.mem_cons.mp hr with rfl | hr
    · exact Nat.le_refl _
    · exact (List.pairwise_cons.mp hs').1 r hr

theorem versionsGreater_gt (rank : Nat → Nat) (vs : List Nat) (vk : Nat) (hs : Sorted rank vs) :
    ∀ r ∈ versionsGreater rank vs vk, rank vk < rank r := by
  intro r hr
  rw [versionsGreater, drop_takeWhile] at hr
  -- the first version not below `vk`, then the first one not equal to it: `r` is at or above both
  obtain ⟨z, hz, hpz, hzr⟩ := dropWhile_head_le rank _ _ (hs.sublist (List.dropWhile_sublist _)) r hr
  obtain ⟨y, -, hpy, hyz⟩ := dropWhile_head_le rank _ vs hs z ((List.dropWhile_sublist _).subset hz)
  simp only [decide_eq_false_iff_not] at hpz hpy
  omega
theorem versionsGreater_sub (rank : Nat → Nat) (vs : List Nat) (vk : Nat) : ∀ r ∈ versionsGreater rank vs vk, r ∈ vs :=
  fun _ hr => List.mem_of_mem_drop ((List.dropWhile_sublist _).subset hr)

/-- what the scan hands back: the incoming best, or a candidate that was reached through allowed
differences only and lowered the count -/
theorem scan_spec (level : Nat) (cs : List Cand) (best : Option Cand) (bc : Nat) :
    let r := scan level cs best bc
    (r = (best, bc)) ∨ (∃ b, r.1 = some b ∧ b ∈ cs ∧ allows level b.diff = true ∧ b.count = r.2 ∧ r.2 < bc) := by
  fun_induction scan level cs best bc with
  | case1 best bc => exact Or.inl rfl
  | case2 c cs best bc h => exact Or.inl rfl
  | case3 c cs best bc h hc h0 => exact Or.inr ⟨c, rfl, List.mem_cons_self, by simpa using h, h0, by omega⟩
  | case4 c cs best bc h hc h0 ih =>
    right
    rcases ih with e | ⟨b, h1, h2, h3, h4, h5⟩
    · rw [e]; exact ⟨c, rfl, List.mem_cons_self, by simpa using h, rfl, hc⟩
    · exact ⟨b, h1, List.mem_cons_of_mem c h2, h3, h4, by omega⟩
  | case5 c cs best bc h hc ih =>
    rcases ih with e | ⟨b, h1, h2, h3, h4, h5⟩
    · exact Or.inl e
    · exact Or.inr ⟨b, h1, List.mem_cons_of_mem c h2, h3, h4, h5⟩

theorem pick_spec (level : Nat) (cs : List Cand) (n0 : Nat) (b : Cand) (h : pick level cs n0 = some b) :
    level ≠ lNone ∧ b ∈ cs ∧ allows level b.diff = true ∧ b.count < n0 := by
  unfold pick at h
  split at h
  · cases h
  rename_i hl
  have hs := scan_spec level cs none n0
  generalize scan level cs none n0 = r at h hs
  rcases hs with rfl | ⟨b', h1, h2, h3, h4, h5⟩
  · cases h
  · obtain ⟨r1, r2⟩ := r
    obtain rfl : r1 = some b' := h1
    simp only at h h4 h5
    rw [if_pos h5] at h
    exact Option.some.inj h ▸ ⟨hl, h2, h3, h4 ▸ h5⟩

theorem round_spec (u : U) (level vk b : Nat) (h : round u level vk = some b) :
    level ≠ lNone ∧ b ∈ versionsGreater u.rank u.vs vk ∧ allows level (u.diff vk b) = true ∧
    ((vulnsAt u vk).filter (u.aff · b)).length < (vulnsAt u vk).length := by
  unfold round at h
  split at h
  · cases h
  · obtain ⟨c, hp, rfl⟩ := Option.map_eq_some_iff.mp h
    obtain ⟨h1, h2, h3, h4⟩ := pick_spec _ _ _ _ hp
    obtain ⟨r, hr, rfl⟩ := List.mem_map.mp h2
    exact ⟨h1, hr, h3, h4⟩

/-- versions of `vs` ranked strictly above `x`: the termination measure -/
def above (rank : Nat → Nat) (vs : List Nat) (x : Nat) : Nat := (vs.filter (fun y => rank x < rank y)).length

theorem above_le (rank : Nat → Nat) (vs : List Nat) (x : Nat) : above rank vs x ≤ vs.length := by
  unfold above; exact List.length_filter_le _ _

theorem above_lt (rank : Nat → Nat) (vs : List Nat) (vk b : Nat) (hb : b ∈ vs) (hlt : rank vk < rank b) :
    above rank vs b < above rank vs vk := by
  unfold above
  apply filter_length_lt _ _ vs _ b hb
  · simp
  · simp [hlt]
  · intro y _ hy
    simp only [decide_eq_true_eq] at hy ⊢
    omega

theorem round_above (u : U) (level vk b : Nat) (h : round u level vk = some b) (hs : Sorted u.rank u.vs) :
    above u.rank u.vs b < above u.rank u.vs vk :=
  have hb := (round_spec u level vk b h).2.1
  above_lt _ _ _ _ (versionsGreater_sub _ _ _ b hb) (versionsGreater_gt _ _ _ hs b hb)

end Scalibr.Override

namespace Scalibr.OverrideMulti
open Scalibr.Upgrade Scalibr.Override Scalibr.Lists

def pkg (u : MU) (p : Nat) : U := ⟨u.vs p, u.rank p, u.diff p, u.nv, fun v x => u.aff v p x⟩

theorem pickP_eq_round (u : MU) (p vk : Nat) : pickP u p vk = Override.round (pkg u p) (u.level p) vk := rfl

/-- termination measure of one package: versions still above its requirement (all of them, and one more, while it has none) -/
def slack (u : MU) (p : Nat) : Option Nat → Nat
  | none => (u.vs p).length + 1
  | some b => above (u.rank p) (u.vs p) b

def measure (u : MU) (pins : Pins) : Nat := ((List.range u.np).map fun p => slack u p (pins.getD p none)).sum

theorem round_getD (u : MU) (res : Res) (pins : Pins) (p : Nat) (hp : p < u.np) :
    (round u res pins).getD p none = stepP u res pins p := by
  unfold round
  simp [List.getD, List.getElem?_map, List.getElem?_range hp]

theorem stepP_cases (u : MU) (res : Res) (pins : Pins) (p : Nat) :
    (stepP u res pins p = pins.getD p none ∧ patchedP u res p = false) ∨
    ∃ r b, res.getD p none = some r ∧ pickP u p r = some b ∧ stepP u res pins p = some b ∧ patchedP u res p = true := by
  unfold stepP patchedP
  cases hr : res.getD p none with
  | none => exact Or.inl ⟨rfl, rfl⟩
  | some r =>
    simp only
    cases hp : pickP u p r with
    | none => exact Or.inl ⟨rfl, rfl⟩
    | some b => exact Or.inr ⟨r, b, rfl, hp, rfl, rfl⟩

theorem resolved_pin {res : Res} {pins : Pins} {p b r : Nat}
    (hpin : pins.getD p none = some b → res.getD p none = some b ∨ res.getD p none = none)
    (hb : pins.getD p none = some b) (hr : res.getD p none = some r) : r = b := by
  rcases hpin hb with h | h <;> rw [hr] at h
  · exact Option.some.inj h
  · cases h

/-- one package's slack never grows in a round and shrinks when the package is patched -/
theorem slack_step (u : MU) (res : Res) (pins : Pins) (p : Nat)
    (hpin : ∀ b, pins.getD p none = some b → res.getD p none = some b ∨ res.getD p none = none)
    (hs : Sorted (u.rank p) (u.vs p)) :
    slack u p (stepP u res pins p) ≤ slack u p (pins.getD p none) ∧
    (patchedP u res p = true → slack u p (stepP u res pins p) < slack u p (pins.getD p none)) := by
  rcases stepP_cases u res pins p with ⟨e1, e2⟩ | ⟨r, b, hr, hp, e1, -⟩ <;> rw [e1]
  · exact ⟨Nat.le_refl _, fun h => absurd (e2.symm.trans h) Bool.false_ne_true⟩
  · have key : slack u p (some b) < slack u p (pins.getD p none) := by
      cases hpp : pins.getD p none with
      | none => exact Nat.lt_succ_of_le (above_le (u.rank p) (u.vs p) b)
      | some b0 => exact resolved_pin (hpin b0) hpp hr ▸ round_above (pkg u p) (u.level p) r b hp hs
    exact ⟨Nat.le_of_lt key, fun _ => key⟩

theorem round_measure_lt (u : MU) (res : Res) (pins : Pins)
    (hpin : ∀ p b, pins.getD p none = some b → res.getD p none = some b ∨ res.getD p none = none)
    (hs : ∀ p, Sorted (u.rank p) (u.vs p)) (hd : didPatch u res = true) :
    measure u (round u res pins) < measure u pins := by
  obtain ⟨q, hq, hpq⟩ := List.any_eq_true.mp hd
  apply sum_map_lt (q := q) _ hq
  · rw [round_getD u res pins q (List.mem_range.mp hq)]
    exact (slack_step u res pins q (hpin q) (hs q)).2 hpq
  · intro p hp
    rw [round_getD u res pins p (List.mem_range.mp hp)]
    exact (slack_step u res pins p (hpin p) (hs p)).1

theorem loop_done (u : MU) (resolve : Pins → Res) (hh : HonoursPinsM resolve)
    (hs : ∀ p, Sorted (u.rank p) (u.vs p)) (fuel : Nat) (pins : Pins) (k : Nat) (hf : measure u pins < fuel) :
    (loop u resolve fuel pins k).done = true := by
  fun_induction loop u resolve fuel pins k with
  | case1 pins k => cases hf
  | case2 fuel pins k res hd ih =>
    exact ih (by have := round_measure_lt u res pins (fun p b h => hh pins p b h) hs hd; omega)
  | case3 fuel pins k res hd => rfl

theorem measure_le (u : MU) (pins : Pins) : measure u pins ≤ ((List.range u.np).map fun p => (u.vs p).length + 1).sum := by
  apply sum_map_le
  intro p _
  cases pins.getD p none with
  | none => exact Nat.le_refl _
  | some b => exact Nat.le_succ_of_le (above_le (u.rank p) (u.vs p) b)

/-- invariant of the loop for the packages the manifest pinned from the start (direct dependencies) -/
def Within (u : MU) (pins0 pins : Pins) : Prop :=
  ∀ p, p < u.np → ∀ a, pins0.getD p none = some a →
    ∃ b, pins.getD p none = some b ∧ u.rank p a ≤ u.rank p b ∧ allows (u.level p) (u.diff p a b) = true

theorem within_round (u : MU) (res : Res) (pins0 pins : Pins)
    (L : ∀ p, DiffClassLaws (u.diff p)) (hs : ∀ p, Sorted (u.rank p) (u.vs p))
    (hpin : ∀ p b, pins.getD p none = some b → res.getD p none = some b ∨ res.getD p none = none)
    (hw : Within u pins0 pins) : Within u pins0 (round u res pins) := by
  intro p hp a ha
  obtain ⟨b, hb, hle, hal⟩ := hw p hp a ha
  rw [round_getD u res pins p hp]
  rcases stepP_cases u res pins p with ⟨e1, -⟩ | ⟨r, b', hr, hpk, e1, -⟩ <;> rw [e1]
  · exact ⟨b, hb, hle, hal⟩
  · obtain rfl := resolved_pin (hpin p b) hb hr
    obtain ⟨-, hvg, hal', -⟩ := round_spec (pkg u p) (u.level p) r b' hpk
    exact ⟨b', rfl, Nat.le_trans hle (Nat.le_of_lt (versionsGreater_gt _ _ _ (hs p) b' hvg)),
      allows_trans (u.diff p) (L p) (u.level p) a r b' hal hal'⟩

theorem within_loop (u : MU) (resolve : Pins → Res) (hh : HonoursPinsM resolve)
    (L : ∀ p, DiffClassLaws (u.diff p)) (hs : ∀ p, Sorted (u.rank p) (u.vs p))
    (pins0 : Pins) (fuel : Nat) (pins : Pins) (k : Nat) (hw : Within u pins0 pins) :
    Within u pins0 (loop u resolve fuel pins k).pins := by
  fun_induction loop u resolve fuel pins k with
  | case1 pins k => exact hw
  | case2 fuel pins k res hd ih => exact ih (within_round u res pins0 pins L hs (fun p b h => hh pins p b h) hw)
  | case3 fuel pins k res hd => exact hw

end Scalibr.OverrideMulti

namespace Scalibr.Suggest
open Scalibr.Upgrade

/-- invariant of the loop's `newReq` once it is set -/
def Eligible (level : Nat) (cur : V) (vs : List V) (w : V) : Prop :=
  w ∈ vs ∧ allows level w.diff = true ∧ cur.rank < w.rank

theorem step_cases (level : Nat) (cur : V) (acc : Option V) (v : V) :
    step level cur acc v = acc ∨ (step level cur acc v = some v ∧ allows level v.diff = true ∧ cur.rank < v.rank) := by
  unfold step
  split
  · exact Or.inl rfl
  · split
    · exact Or.inl rfl
    · split
      · exact Or.inl rfl
      · rename_i h2 h3
        exact Or.inr ⟨rfl, by simpa using h2, by omega⟩

theorem foldl_step_eligible (level : Nat) (cur : V) (all vs : List V) (acc : Option V) (hsub : ∀ v ∈ vs, v ∈ all)
    (hacc : ∀ w, acc = some w → Eligible level cur all w) :
    ∀ w, vs.foldl (step level cur) acc = some w → Eligible level cur all w := by
  induction vs generalizing acc with
  | nil => exact hacc
  | cons v vs ih =>
    refine ih _ (fun x hx => hsub x (List.mem_cons_of_mem v hx)) fun w hw => ?_
    rcases step_cases level cur acc v with e | ⟨e, ha, hr⟩ <;> rw [e] at hw
    · exact hacc w hw
    · exact Option.some.inj hw ▸ ⟨hsub v List.mem_cons_self, ha, hr⟩

end Scalibr.Suggest
