/-
C16(a) helper lemmas: `slices.SortFunc` (modelled by `isort`) and `slices.CompactFunc` on a list whose elements all
satisfy a predicate `P` need the comparator laws only among `P`-elements.  `WeakOn` is that requirement; the Boolean
`less` of a three-way comparator meets it.
-/
import Scalibr.Proofs.PatchCmp
import Scalibr.Proofs.Worklist
namespace Scalibr.Worklist
open Scalibr

structure WeakOn {α} (P : α → Prop) (lt : α → α → Bool) : Prop where
  asymm : ∀ a b, P a → P b → lt a b = true → lt b a = false
  negTrans : ∀ a b c, P a → P b → P c → lt b a = false → lt c b = false → lt c a = false

theorem WeakOn.irrefl {α} {P : α → Prop} {lt : α → α → Bool} (h : WeakOn P lt) {a : α} (ha : P a) : lt a a = false :=
  Bool.eq_false_iff.mpr fun e => Bool.noConfusion ((h.asymm a a ha ha e).symm.trans e)

theorem Cmp3.weakOn {α} {P : α → Prop} {c : α → α → Int} (h : Cmp3 (fun a b => P a ∧ P b) c) :
    WeakOn P (fun a b => decide (c a b < 0)) where
  asymm a b ha hb := by
    have := h.flip a b ⟨ha, hb⟩
    simp only [decide_eq_true_eq, decide_eq_false_iff_not]; omega
  negTrans a b d ha hb hd := by
    simp only [decide_eq_false_iff_not]
    exact h.negTrans a b d ⟨ha, hb⟩ ⟨hb, hd⟩ ⟨ha, hd⟩

theorem collected_patchOK {patchFn : Task → Option Patch} {grouped : Bool} {vulns : List Str} {σ : List Nat} {c : List Patch}
    (h : exec (outCP patchFn) (spawnCP patchFn grouped) σ (initCP vulns) = some ⟨[], c⟩)
    {V : Str → Prop} (hV : ∀ p ∈ c, ∀ u ∈ p.updates, V u.vto) : ∀ p ∈ c, PatchOK V p :=
  fun p hp => ⟨collected_ok patchFn grouped vulns σ c h p hp, hV p hp⟩

end Scalibr.Worklist
