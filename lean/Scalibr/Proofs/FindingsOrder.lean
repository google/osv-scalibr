/-
Helper lemmas for the findings / plugin-status clause of C08 (`sortResults`): the comparators are strict
weak orders obtained by pulling a strict total order on byte-string keys back along the key function.
-/
import Scalibr.Model.Detector
namespace Scalibr.Detector

theorem keyLt_strictTotal : StrictTotal keyLt := prodLt_strictTotal ltBytes_strictTotal ltBytes_strictTotal

theorem optKeyLt_strictTotal : StrictTotal optKeyLt where
  irrefl := by
    intro a; cases a with
    | none => rfl
    | some x => simpa [optKeyLt] using keyLt_strictTotal.irrefl x
  trans := by
    intro a b c hab hbc
    cases a <;> cases b <;> cases c <;> simp_all [optKeyLt]
    exact keyLt_strictTotal.trans _ _ _ hab hbc
  total := by
    intro a b hab hba
    cases a <;> cases b <;> simp_all [optKeyLt]
    exact keyLt_strictTotal.total _ _ hab hba

/-- sortedness for a pulled-back comparator -/
theorem isort_sorted_of_key {α κ} {lt : κ → κ → Bool} (h : StrictTotal lt) (k : α → κ) (l : List α) :
    (isort (fun a b => lt (k a) (k b)) l).Pairwise (fun a b => lt (k b) (k a) = false) :=
  isort_pairwise _ (fun a b => h.asymm (k a) (k b)) (fun a b c => h.negTrans (k a) (k b) (k c)) l

end Scalibr.Detector
