/-
The regenerated registry (`Scalibr.Gen.Registry`, rewritten from /repo on every run) passes `tableCheck`: the one
evaluation behind the statements of C19 about the registry.
-/
import Scalibr.Proofs.Registry
import Scalibr.Gen.Registry
namespace Scalibr.Registry
open Scalibr.Gen.Registry

/-- Everything that is evaluated about the three registries, in ONE kernel run — what is dear is reading a name
(`strKey`), and this way each name is read once: the three pairs of tables pass `tableCheck`, plugin names are distinct
across the registries, and the detectors' required extractors pass `requiredOKB`. -/
theorem registry_checked :
    tableCheck fsNames fsAll = true ∧ tableCheck stNames stAll = true ∧ tableCheck detNames detAll = true ∧
    keysDistinct (((allPlugins fsAll ++ allPlugins stAll ++ allPlugins detAll).map (·.name)).map strKey) = true ∧
    ∀ d ∈ allPlugins detAll, ∀ e ∈ d.required, requiredOKB fsNames stNames d.req e = true := by
  decide +kernel

theorem fs_ok : TableOK fsNames fsAll := .of_check registry_checked.1
theorem st_ok : TableOK stNames stAll := .of_check registry_checked.2.1
theorem det_ok : TableOK detNames detAll := .of_check registry_checked.2.2.1

end Scalibr.Registry
