/-
Index lemmas: adding a package changes exactly one bucket (exactly, for `GetSpecific`; up to
permutation for the map-iterating queries).
-/
import Scalibr.Spec.Index
namespace Scalibr.Index

/-- update the value under a key, or insert one: the shape `innerAdd` and `outerAdd` share -/
def upsert {β : Type} (g : Option β → β) : List (String × β) → String → List (String × β)
  | [], k => [(k, g none)]
  | (k', v) :: rest, k => if k' = k then (k', g (some v)) :: rest else (k', v) :: upsert g rest k

theorem innerAdd_eq (m : Inner) (n : String) (p : Pkg) : innerAdd m n p = upsert (fun o => o.getD [] ++ [p]) m n := by
  induction m with
  | nil => rfl
  | cons e rest ih => simp [innerAdd, upsert, ih]

theorem outerAdd_eq (m : PkgMap) (t n : String) (p : Pkg) :
    outerAdd m t n p = upsert (fun o => innerAdd (o.getD []) n p) m t := by
  induction m with
  | nil => rfl
  | cons e rest ih => simp [outerAdd, upsert, ih]

theorem look_upsert {β : Type} (g : Option β → β) (m : List (String × β)) (k x : String) :
    look (upsert g m k) x = if x = k then some (g (look m k)) else look m x := by
  induction m with
  | nil => simp only [upsert, look, eq_comm]
  | cons e rest ih =>
    obtain ⟨k', v⟩ := e
    unfold upsert
    by_cases h1 : k' = k
    · subst h1
      simp only [if_true, look, eq_comm]
      split <;> rfl
    · simp only [if_neg h1, look, ih]
      by_cases h2 : x = k
      · subst h2; simp only [if_neg h1, if_true]
      · simp only [if_neg h2]

theorem flatMap_upsert {β : Type} (c : β → List Pkg) (g : Option β → β) (p : Pkg)
    (hg : ∀ o : Option β, (c (g o)).Perm ((o.map c).getD [] ++ [p])) (m : List (String × β)) (k : String) :
    ((upsert g m k).flatMap fun e => c e.2).Perm ((m.flatMap fun e => c e.2) ++ [p]) := by
  induction m with
  | nil => simpa [upsert] using hg none
  | cons e rest ih =>
    obtain ⟨k', v⟩ := e
    unfold upsert
    split
    · refine ((hg (some v)).append_right _).trans ?_
      show ((c v ++ [p]) ++ _).Perm ((c v ++ _) ++ [p])
      rw [List.append_assoc, List.append_assoc]
      exact List.perm_append_comm.append_left (c v)
    · show (c v ++ _).Perm ((c v ++ _) ++ [p])
      rw [List.append_assoc]
      exact ih.append_left (c v)

theorem innerAll_innerAdd (m : Inner) (n : String) (p : Pkg) :
    (innerAll (innerAdd m n p)).Perm (innerAll m ++ [p]) := by
  rw [innerAdd_eq]
  exact flatMap_upsert id _ p (fun o => by cases o <;> exact .refl _) m n

theorem getAll_outerAdd (m : PkgMap) (t n : String) (p : Pkg) :
    (getAll (outerAdd m t n p)).Perm (getAll m ++ [p]) := by
  rw [outerAdd_eq]
  exact flatMap_upsert innerAll _ p (fun o => by cases o <;> exact innerAll_innerAdd _ n p) m t

theorem getSpecific_addPkg (m : PkgMap) (p : Pkg) (n t : String) :
    getSpecific (addPkg m p) n t = getSpecific m n t ++ (if p.purl = some (t, n) then [p] else []) := by
  unfold addPkg
  cases hp : p.purl with
  | none => simp
  | some tn =>
    obtain ⟨t', n'⟩ := tn
    simp only [getSpecific, outerAdd_eq, look_upsert, Option.some.injEq, Prod.mk.injEq]
    by_cases ht : t = t'
    · subst ht
      simp only [if_true, true_and, innerAdd_eq, look_upsert]
      by_cases hn : n = n'
      · subst hn
        cases look m t with
        | none => simp [look]
        | some inner => cases h2 : look inner n <;> simp [h2]
      · have : ¬ n' = n := fun e => hn e.symm
        simp only [hn, this, if_false, List.append_nil]
        cases look m t <;> simp [look]
    · have : ¬ t' = t := fun e => ht e.symm
      simp [ht, this]

theorem getAllOfType_addPkg (m : PkgMap) (p : Pkg) (t : String) :
    (getAllOfType (addPkg m p) t).Perm (getAllOfType m t ++ [p].filter fun p => purlType p = some t) := by
  unfold addPkg
  cases hp : p.purl with
  | none => simp [purlType, hp]
  | some tn =>
    obtain ⟨t', n'⟩ := tn
    simp only [getAllOfType, outerAdd_eq, look_upsert, purlType, hp, Option.map_some, List.filter_cons, List.filter_nil]
    by_cases ht : t = t'
    · subst ht
      simp only [if_true]
      cases h1 : look m t with
      | none => simp [innerAdd, innerAll]
      | some inner => simpa using innerAll_innerAdd inner n' p
    · have : ¬ t' = t := fun e => ht e.symm
      simp [ht, this]

theorem getAll_addPkg (m : PkgMap) (p : Pkg) : (getAll (addPkg m p)).Perm (getAll m ++ [p].filter hasPurl) := by
  unfold addPkg
  cases hp : p.purl with
  | none => simp [hasPurl, hp]
  | some tn => obtain ⟨t', n'⟩ := tn; simpa [hasPurl, hp] using getAll_outerAdd m t' n' p

theorem getSpecific_foldl (pkgs : List Pkg) (m : PkgMap) (n t : String) :
    getSpecific (pkgs.foldl addPkg m) n t = getSpecific m n t ++ specSpecific pkgs n t := by
  induction pkgs generalizing m with
  | nil => simp [specSpecific]
  | cons p ps ih =>
    rw [List.foldl_cons, ih, getSpecific_addPkg]
    unfold specSpecific
    by_cases h : p.purl = some (t, n)
    · simp [h]
    · simp [h]

theorem foldl_addPkg_perm (query : PkgMap → List Pkg) (sel : Pkg → Bool)
    (h : ∀ m p, (query (addPkg m p)).Perm (query m ++ [p].filter sel)) (pkgs : List Pkg) (m : PkgMap) :
    (query (pkgs.foldl addPkg m)).Perm (query m ++ pkgs.filter sel) := by
  induction pkgs generalizing m with
  | nil => simp
  | cons p ps ih =>
    refine (ih (addPkg m p)).trans (((h m p).append_right _).trans ?_)
    rw [List.append_assoc, ← List.filter_append]
    exact .refl _

/-! ### the laws of the finished index -/

/-- `GetSpecific` of the index built from `pkgs` is the list of packages whose purl has that type and
name, in extraction order. -/
theorem new_getSpecific (pkgs : List Pkg) (n t : String) :
    getSpecific (new pkgs) n t = specSpecific pkgs n t := by
  unfold new
  rw [getSpecific_foldl]
  simp [getSpecific, look]

/-- `GetAllOfType` returns, in some order (Go map iteration), exactly the packages whose purl has that type. -/
theorem new_getAllOfType (pkgs : List Pkg) (t : String) :
    (getAllOfType (new pkgs) t).Perm (specOfType pkgs t) :=
  foldl_addPkg_perm (getAllOfType · t) _ (getAllOfType_addPkg · · t) pkgs []

/-- `GetAll` returns, in some order, exactly the packages that have a purl. -/
theorem new_getAll (pkgs : List Pkg) : (getAll (new pkgs)).Perm (specAll pkgs) :=
  foldl_addPkg_perm getAll _ getAll_addPkg pkgs []

/-- A package with a purl is found when queried by that purl's type and name. -/
theorem new_has (pkgs : List Pkg) (p : Pkg) (t n : String) (hp : p ∈ pkgs) (hu : p.purl = some (t, n)) :
    p ∈ getSpecific (new pkgs) n t ∧ p ∈ getAllOfType (new pkgs) t ∧ p ∈ getAll (new pkgs) := by
  refine ⟨?_, ?_, ?_⟩
  · rw [new_getSpecific]; simp [specSpecific, hp, hu]
  · rw [(new_getAllOfType pkgs t).mem_iff]; simp [specOfType, purlType, hp, hu]
  · rw [(new_getAll pkgs).mem_iff]; simp [specAll, hasPurl, hp, hu]

/-- A package without a purl is in no query result; nothing that was not extracted is ever returned. -/
theorem new_only (pkgs : List Pkg) (p : Pkg) (h : p ∈ getAll (new pkgs)) :
    p ∈ pkgs ∧ p.purl.isSome = true := by
  rw [(new_getAll pkgs).mem_iff] at h
  simpa [specAll, hasPurl] using h

end Scalibr.Index
