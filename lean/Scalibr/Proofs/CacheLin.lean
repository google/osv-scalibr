/-
C16(b): the ghost linearization of Model/CacheLin.lean is a legal sequential history of the map-with-fetch-on-miss
specification, contains every completed call with the result it really returned, at a time inside the call's interval.

`LStep` is `Step` for the instrumented step.  The invariant has three parts, proved one after the other:
`LSpec` (the history is legal and ends in the actual cache), the table of `Row`s (what the ghosts record about each
caller: only the acting caller's row changes in a step, the others are carried over by `Row.frame` because clock and
history only grow), and the order `LInv2`.
-/
import Scalibr.Model.CacheLin
import Scalibr.Proofs.Cache
namespace Scalibr.Cache

theorem SpecRun.append {m m' m'' : K → Option V} {xs ys : List LinOp} (h1 : SpecRun m xs m') (h2 : SpecRun m' ys m'') :
    SpecRun m (xs ++ ys) m'' := by
  induction h1 with
  | nil => exact h2
  | cons hs _ ih => exact SpecRun.cons hs (ih h2)

theorem SpecRun.single {m m' : K → Option V} {op : LinOp} (h : SpecStep m op m') : SpecRun m [op] m' :=
  SpecRun.cons h SpecRun.nil

theorem SpecRun.of_fixed {m : K → Option V} : ∀ {ops : List LinOp}, (∀ op ∈ ops, SpecStep m op m) → SpecRun m ops m
  | [], _ => SpecRun.nil
  | op :: _, h => SpecRun.cons (h op List.mem_cons_self) (SpecRun.of_fixed fun o ho => h o (List.mem_cons_of_mem _ ho))

theorem lstep_base (l : LSt) (a : Act) : (lstep l a).base = step l.base a := by
  simp only [lstep]
  repeat' split
  all_goals rfl

theorem lrunFrom_base (l : LSt) (as : List Act) : (lrunFrom l as).base = runFrom l.base as := by
  unfold lrunFrom runFrom
  induction as generalizing l with
  | nil => rfl
  | cons a as ih => simp only [List.foldl_cons]; rw [ih, lstep_base]

/-- the instrumented run is the run of Model/Cache.lean -/
theorem lrun_base (keyOf) (as : List Act) : (lrun keyOf as).base = run keyOf as := lrunFrom_base _ as

inductive LStep (l : LSt) : Act → LSt → Prop
  | idle (a : Act) : a.ofGet → LStep l a { l with now := l.now + 1 }
  | hit (t : Nat) (k : K) (v : V) : l.base.pcs t = .start k → l.base.cache k = some v →
      LStep l (.lookup t)
        { l with base := step l.base (.lookup t), now := l.now + 1, lin := l.lin ++ [(l.now + 1, .get t k (.ok v))],
                 tLook := upd l.tLook t (some (l.now + 1)), tRet := upd l.tRet t (some (l.now + 1)) }
  | wait (t : Nat) (k : K) (c : Cid) : l.base.pcs t = .start k → l.base.cache k = none → l.base.calls k = some c →
      LStep l (.lookup t)
        { l with base := step l.base (.lookup t), now := l.now + 1, waiters := upd l.waiters c (l.waiters c ++ [t]),
                 tLook := upd l.tLook t (some (l.now + 1)) }
  | miss (t : Nat) (k : K) : l.base.pcs t = .start k → l.base.cache k = none → l.base.calls k = none →
      LStep l (.lookup t) { l with base := step l.base (.lookup t), now := l.now + 1, tLook := upd l.tLook t (some (l.now + 1)) }
  | publish (t : Nat) (c : Cid) (k : K) (r : R) : l.base.pcs t = .fetching c k →
      LStep l (.publish t r)
        { l with base := step l.base (.publish t r), now := l.now + 1,
                 lin := l.lin ++ (l.now + 1, .get t k r) :: (l.waiters c).map (fun w => (l.now + 1, .get w k r)),
                 tRet := upd l.tRet t (some (l.now + 1)) }
  | wake (t : Nat) (c : Cid) (k : K) (r : R) : l.base.pcs t = .waiting c k → l.base.results c = some r →
      LStep l (.wake t) { l with base := step l.base (.wake t), now := l.now + 1, tRet := upd l.tRet t (some (l.now + 1)) }
  | setMap (m : K → Option V) :
      LStep l (.setMap m) { l with base := step l.base (.setMap m), now := l.now + 1, lin := l.lin ++ [(l.now + 1, .set m)] }
  | getMap :
      LStep l .getMap { l with base := step l.base .getMap, now := l.now + 1, lin := l.lin ++ [(l.now + 1, .snap l.base.cache)] }

theorem lstep_spec (l : LSt) : ∀ a, LStep l a (lstep l a)
  | .lookup t => by
    simp only [lstep]
    split
    next k hp =>
      split
      next v hc => exact .hit t k v hp hc
      next hc =>
        split
        next c hcl => exact .wait t k c hp hc hcl
        next hcl => exact .miss t k hp hc hcl
    next => simp only [step]; exact .idle _ trivial
  | .publish t r => by
    simp only [lstep]
    split
    next c k hp => exact .publish t c k r hp
    next => simp only [step]; exact .idle _ trivial
  | .wake t => by
    simp only [lstep]
    split
    next c k hp =>
      split
      next r hr => exact .wake t c k r hp hr
      next hr => simp only [step, hp, hr]; exact .idle _ trivial
    next => simp only [step]; exact .idle _ trivial
  | .setMap m => .setMap m
  | .getMap => .getMap

structure LSpec (l : LSt) : Prop where
  spec : SpecRun (fun _ => none) (l.lin.map (·.2)) l.base.cache
  fetch_miss : ∀ t c k, l.base.pcs t = .fetching c k → l.base.cache k = none

theorem LSpec.step {l : LSt} (hf : Flight l.base) (h : LSpec l) (a : Act) (hok : stepOK l.base a) : LSpec (lstep l a) := by
  -- where the acting caller ends up somewhere other than fetching, the fetchers are the old ones
  have old : ∀ {t t' c k} {x : PC}, (∀ c k, x ≠ .fetching c k) → upd l.base.pcs t x t' = .fetching c k →
      l.base.cache k = none := fun hx hf' => h.fetch_miss _ _ _ (upd_eq_of_ne hf' (hx _ _)).2
  have hs := lstep_spec l a
  generalize lstep l a = l' at hs
  cases hs with
  | idle => exact ⟨h.spec, h.fetch_miss⟩
  | hit t k v hp hc =>
    simp only [Cache.step, hp, hc]
    refine ⟨?_, fun _ _ _ => old fun _ _ => nofun⟩
    simp only [List.map_append, List.map_cons, List.map_nil]
    exact h.spec.append (.single (.hit hc))
  | wait t k c hp hc hcl =>
    simp only [Cache.step, hp, hc, hcl]
    exact ⟨h.spec, fun _ _ _ => old fun _ _ => nofun⟩
  | miss t k hp hc hcl =>
    simp only [Cache.step, hp, hc, hcl]
    refine ⟨h.spec, fun t' c' k' hf' => ?_⟩
    rcases upd_eq hf' with ⟨_, e⟩ | ⟨_, hf'⟩
    · cases e; exact hc
    · exact h.fetch_miss t' c' k' hf'
  | publish t c k r hp =>
    -- the fetcher's `Get` is a miss with the outcome of its fetch; its waiters follow at once: hits on the value just
    -- stored, or misses that share the error
    have hmiss := h.fetch_miss t c k hp
    simp only [Cache.step, hp]
    constructor
    · simp only [List.map_append, List.map_cons, List.map_map]
      refine h.spec.append ?_
      cases r with
      | ok v =>
        exact .cons (.missOk hmiss) (.of_fixed (List.forall_mem_map.mpr fun _ _ => .hit (upd_same ..)))
      | err => exact .cons (.missErr hmiss) (.of_fixed (List.forall_mem_map.mpr fun _ _ => .missErr hmiss))
    · intro t' c' k' hf'
      obtain ⟨ne, hold⟩ := upd_eq_of_ne hf' nofun
      have hk : k' ≠ k := fun e => ne (hf.fetch_uniq _ _ _ _ _ (e ▸ hold) hp)
      cases r with
      | ok v => exact (upd_ne _ _ hk).trans (h.fetch_miss t' c' k' hold)
      | err => exact h.fetch_miss t' c' k' hold
  | wake t c k r hp hr =>
    simp only [Cache.step, hp, hr]
    exact ⟨h.spec, fun _ _ _ => old fun _ _ => nofun⟩
  | setMap m =>
    -- no fetch is in flight when `SetMap` replaces the cache
    refine ⟨?_, fun t c k hf' => ?_⟩
    · simp only [List.map_append, List.map_cons, List.map_nil]
      exact h.spec.append (.single .set)
    · have := hf.fetch_calls t c k hf'
      rw [hok k] at this; cases this
  | getMap =>
    refine ⟨?_, h.fetch_miss⟩
    simp only [List.map_append, List.map_cons, List.map_nil]
    exact h.spec.append (.single .snap)

def Looked (l : LSt) (t : Nat) : Prop := ∃ a, l.tLook t = some a ∧ a ≤ l.now

def LinAt (l : LSt) (t : Nat) (k : K) (r : R) (hi : Nat) : Prop :=
  ∃ τ a, (τ, LinOp.get t k r) ∈ l.lin ∧ l.tLook t = some a ∧ a ≤ τ ∧ τ ≤ hi

def Real (l : LSt) (t : Nat) (k : K) (r : R) : Prop :=
  l.base.pcs t = .done k r ∨ ∃ c, l.base.pcs t = .waiting c k ∧ l.base.results c = some r

structure RowAt (l : LSt) (t : Nat) (x : PC) : Prop where
  fetching : ∀ c k, x = .fetching c k → Looked l t
  pending  : ∀ c k, x = .waiting c k → l.base.results c = none → t ∈ l.waiters c ∧ Looked l t
  resolved : ∀ c k r, x = .waiting c k → l.base.results c = some r → LinAt l t k r l.now
  done     : ∀ k r, x = .done k r → ∃ b, l.tRet t = some b ∧ LinAt l t k r b
  real     : ∀ τ k r, (τ, LinOp.get t k r) ∈ l.lin → Real l t k r
  queued   : ∀ c, t ∈ l.waiters c → l.base.results c = none → ∃ k, l.base.pcs t = .waiting c k

abbrev Row (l : LSt) (t : Nat) : Prop := RowAt l t (l.base.pcs t)

theorem Row.of_pc {l : LSt} {t : Nat} {x : PC} (hpc : l.base.pcs t = x) (h : RowAt l t x) : Row l t := by
  subst hpc; exact h

theorem Row.frame {l l' : LSt} {t : Nat} (h : Row l t)
    (hp : l'.base.pcs t = l.base.pcs t) (hres : l'.base.results = l.base.results)
    (hlook : l'.tLook t = l.tLook t) (hret : l'.tRet t = l.tRet t)
    (hw : ∀ c, t ∈ l'.waiters c ↔ t ∈ l.waiters c)
    (hlin : ∀ τ k r, (τ, LinOp.get t k r) ∈ l'.lin ↔ (τ, LinOp.get t k r) ∈ l.lin)
    (hnow : l.now ≤ l'.now) : Row l' t := by
  have looked : Looked l t → Looked l' t := fun ⟨a, ha, hle⟩ => ⟨a, hlook.trans ha, Nat.le_trans hle hnow⟩
  have linAt : ∀ {k r hi hi'}, hi ≤ hi' → LinAt l t k r hi → LinAt l' t k r hi' :=
    fun hh ⟨τ, a, hm, ha, h1, h2⟩ => ⟨τ, a, (hlin ..).mpr hm, hlook.trans ha, h1, Nat.le_trans h2 hh⟩
  have res : ∀ {c x}, l'.base.results c = x → l.base.results c = x := fun hr => (congrFun hres _).symm.trans hr
  exact .of_pc hp
    { fetching := fun c k hf => looked (h.fetching c k hf)
      pending := fun c k hw' hr => (h.pending c k hw' (res hr)).imp (hw c).mpr looked
      resolved := fun c k r hw' hr => linAt hnow (h.resolved c k r hw' (res hr))
      done := fun k r hd => (h.done k r hd).imp fun _ hb => ⟨hret.trans hb.1, linAt (Nat.le_refl _) hb.2⟩
      real := fun τ k r hm => (h.real τ k r ((hlin ..).mp hm)).imp hp.trans
        fun ⟨c, hw', hr⟩ => ⟨c, hp.trans hw', (congrFun hres c).trans hr⟩
      queued := fun c hm hr => (h.queued c ((hw c).mp hm) (res hr)).imp fun _ => hp.trans }

theorem mem_append_get {lin new : List (Nat × LinOp)} {t τ : Nat} {k : K} {r : R} (hnew : ∀ e ∈ new, e.2.caller ≠ some t) :
    (τ, LinOp.get t k r) ∈ lin ++ new ↔ (τ, LinOp.get t k r) ∈ lin :=
  ⟨fun h => (List.mem_append.mp h).elim id fun hm => absurd rfl (hnew _ hm), List.mem_append_left _⟩

theorem mem_upd_append {ws : Cid → List Nat} {c c' : Cid} {t t' : Nat} :
    t' ∈ upd ws c (ws c ++ [t]) c' ↔ t' ∈ ws c' ∨ c' = c ∧ t' = t := by
  by_cases e : c' = c
  · subst e; simp only [upd_same, List.mem_append, List.mem_singleton, true_and]
  · simp only [upd_ne _ _ e, e, false_and, or_false]

theorem rows_step {l : LSt} (hf : Flight l.base) (h : ∀ t, Row l t) (a : Act) : ∀ t, Row (lstep l a) t := by
  have fresh : ∀ {t k}, l.base.pcs t = .start k → (∀ τ k' r', (τ, LinOp.get t k' r') ∉ l.lin) ∧
      ∀ c, t ∈ l.waiters c → l.base.results c ≠ none := fun {t _} hp => by
    refine ⟨fun τ k' r' hm => ?_, fun c hm hr => ?_⟩
    · rcases (h t).real τ k' r' hm with e | ⟨_, e, _⟩ <;> cases hp.symm.trans e
    · obtain ⟨_, e⟩ := (h t).queued c hm hr; cases hp.symm.trans e
  have hs := lstep_spec l a
  generalize lstep l a = l' at hs
  intro t'
  cases hs with
  | idle => exact (h t').frame rfl rfl rfl rfl (fun _ => Iff.rfl) (fun _ _ _ => Iff.rfl) (Nat.le_succ _)
  | hit t k v hp hc =>
    simp only [step, hp, hc]
    by_cases e : t' = t
    · subst e
      have hpc := upd_same l.base.pcs t' (PC.done k (.ok v))
      refine .of_pc hpc ⟨nofun, nofun, nofun, fun k' r' hd => ?_, fun τ k' r' hm => ?_, fun c hm hr => absurd hr ((fresh hp).2 c hm)⟩
      · cases hd
        exact ⟨_, upd_same .., _, _, List.mem_append_right _ List.mem_cons_self, upd_same .., Nat.le_refl _, Nat.le_refl _⟩
      · rcases List.mem_append.mp hm with hm | hm
        · exact absurd hm ((fresh hp).1 _ _ _)
        · cases List.mem_singleton.mp hm; exact Or.inl hpc
    · exact (h t').frame (upd_ne _ _ e) rfl (upd_ne _ _ e) (upd_ne _ _ e) (fun _ => Iff.rfl)
        (fun _ _ _ => mem_append_get fun _ hm => by cases List.mem_singleton.mp hm; exact fun e' => e (Option.some.inj e').symm)
        (Nat.le_succ _)
  | wait t k c hp hc hcl =>
    simp only [step, hp, hc, hcl]
    by_cases e : t' = t
    · subst e
      have hpc := upd_same l.base.pcs t' (PC.waiting c k)
      refine .of_pc hpc ⟨nofun, fun c' k' hw _ => ?_, fun c' k' r' hw hr => ?_, nofun,
        fun τ k' r' hm => absurd hm ((fresh hp).1 _ _ _), fun c' hm hr => ?_⟩
      · cases hw
        exact ⟨mem_upd_append.mpr (Or.inr ⟨rfl, rfl⟩), _, upd_same .., Nat.le_refl _⟩
      · cases hw
        cases (hf.calls_nores hcl).symm.trans hr
      · rcases mem_upd_append.mp hm with hm | ⟨rfl, _⟩
        · exact absurd hr ((fresh hp).2 c' hm)
        · exact ⟨k, hpc⟩
    · exact (h t').frame (upd_ne _ _ e) rfl (upd_ne _ _ e) rfl
        (fun _ => mem_upd_append.trans (or_iff_left fun h => e h.2)) (fun _ _ _ => Iff.rfl) (Nat.le_succ _)
  | miss t k hp hc hcl =>
    simp only [step, hp, hc, hcl]
    by_cases e : t' = t
    · subst e
      exact .of_pc (upd_same ..) ⟨fun _ _ _ => ⟨_, upd_same .., Nat.le_refl _⟩, nofun, nofun, nofun,
        fun τ k' r' hm => absurd hm ((fresh hp).1 _ _ _), fun c hm hr => absurd hr ((fresh hp).2 c hm)⟩
    · exact (h t').frame (upd_ne _ _ e) rfl (upd_ne _ _ e) rfl (fun _ => Iff.rfl) (fun _ _ _ => Iff.rfl) (Nat.le_succ _)
  | publish t c k r hp =>
    -- the fetcher returns; it and the callers queued on its call are linearized now, in this order
    simp only [step, hp]
    have hres := hf.fetch_nores t c k hp
    have key : ∀ {w k'}, l.base.pcs w = .waiting c k' → k' = k := fun hw =>
      Option.some.inj ((hf.ckey_wait _ c _ hw).1.symm.trans (hf.ckey_fetch t c k hp))
    by_cases e : t' = t
    · subst e
      have hpc := upd_same l.base.pcs t' (PC.done k r)
      have notq : ∀ c', t' ∈ l.waiters c' → l.base.results c' ≠ none := fun c' hm hr => by
        obtain ⟨_, e⟩ := (h t').queued c' hm hr; cases hp.symm.trans e
      refine .of_pc hpc ⟨nofun, nofun, nofun, fun k' r' hd => ?_, fun τ k' r' hm => ?_, fun c' hm hr => ?_⟩
      · cases hd
        obtain ⟨a, ha, hle⟩ := (h t').fetching c k hp
        exact ⟨_, upd_same .., _, a, List.mem_append_right _ List.mem_cons_self, ha, Nat.le_succ_of_le hle, Nat.le_refl _⟩
      · rcases List.mem_append.mp hm with hm | hm
        · rcases (h t').real τ k' r' hm with e | ⟨_, e, _⟩ <;> cases hp.symm.trans e
        · rcases List.mem_cons.mp hm with hm | hm
          · cases hm; exact Or.inl hpc
          · obtain ⟨w, hw, e⟩ := List.mem_map.mp hm
            cases e; exact absurd hres (notq c hw)
      · exact absurd (upd_eq_of_ne hr nofun).2 (notq c' hm)
    · have hpc := upd_ne l.base.pcs (PC.done k r) e
      refine .of_pc hpc ⟨fun c' k' hf' => ?_, fun c' k' hw hr => ?_, fun c' k' r' hw hr => ?_, fun k' r' hd => ?_,
        fun τ k' r' hm => ?_, fun c' hm hr => ?_⟩
      · obtain ⟨a, ha, hle⟩ := (h t').fetching c' k' hf'
        exact ⟨a, ha, Nat.le_succ_of_le hle⟩
      · obtain ⟨hm, a, ha, hle⟩ := (h t').pending c' k' hw (upd_eq_of_ne hr nofun).2
        exact ⟨hm, a, ha, Nat.le_succ_of_le hle⟩
      · rcases upd_eq hr with ⟨rfl, e⟩ | ⟨_, hr⟩
        · cases e; cases key hw
          obtain ⟨hm, a, ha, hle⟩ := (h t').pending c' k hw hres
          exact ⟨_, a, List.mem_append_right _ (List.mem_cons_of_mem _ (List.mem_map.mpr ⟨t', hm, rfl⟩)), ha,
            Nat.le_succ_of_le hle, Nat.le_refl _⟩
        · obtain ⟨τ, a, hm, ha, h1, h2⟩ := (h t').resolved c' k' r' hw hr
          exact ⟨τ, a, List.mem_append_left _ hm, ha, h1, Nat.le_succ_of_le h2⟩
      · obtain ⟨b, hb, τ, a, hm, ha, h1, h2⟩ := (h t').done k' r' hd
        exact ⟨b, (upd_ne _ _ e).trans hb, τ, a, List.mem_append_left _ hm, ha, h1, h2⟩
      · rcases List.mem_append.mp hm with hm | hm
        · refine ((h t').real τ k' r' hm).imp hpc.trans fun ⟨c', hw, hr⟩ => ⟨c', hpc.trans hw, ?_⟩
          exact (upd_ne _ _ (fun e => by rw [e, hres] at hr; cases hr)).trans hr
        · rcases List.mem_cons.mp hm with hm | hm
          · cases hm; exact absurd rfl e
          · obtain ⟨w, hw, e'⟩ := List.mem_map.mp hm
            cases e'
            obtain ⟨k', hwait⟩ := (h t').queued c hw hres
            cases key hwait
            exact Or.inr ⟨c, hpc.trans hwait, upd_same ..⟩
      · exact ((h t').queued c' hm (upd_eq_of_ne hr nofun).2).imp fun _ => hpc.trans
  | wake t c k r hp hr =>
    -- the waiter returns what its call had when it was linearized
    simp only [step, hp, hr]
    by_cases e : t' = t
    · subst e
      have hpc := upd_same l.base.pcs t' (PC.done k r)
      refine .of_pc hpc ⟨nofun, nofun, nofun, fun k' r' hd => ?_, fun τ k' r' hm => ?_, fun c' hm hr' => ?_⟩
      · cases hd
        obtain ⟨τ, a, hm, ha, h1, h2⟩ := (h t').resolved c k r hp hr
        exact ⟨_, upd_same .., τ, a, hm, ha, h1, Nat.le_succ_of_le h2⟩
      · rcases (h t').real τ k' r' hm with e | ⟨c', e, hr'⟩
        · cases hp.symm.trans e
        · cases hp.symm.trans e; cases hr.symm.trans hr'; exact Or.inl hpc
      · obtain ⟨_, e⟩ := (h t').queued c' hm hr'
        cases hp.symm.trans e; cases hr.symm.trans hr'
    · exact (h t').frame (upd_ne _ _ e) rfl rfl (upd_ne _ _ e) (fun _ => Iff.rfl) (fun _ _ _ => Iff.rfl) (Nat.le_succ _)
  | setMap | getMap =>
    exact (h t').frame rfl rfl rfl rfl (fun _ => Iff.rfl)
      (fun _ _ _ => mem_append_get fun _ hm => by cases List.mem_singleton.mp hm; exact nofun) (Nat.le_succ _)

/-! ### order and uniqueness of the linearization -/

theorem mem_callers {lin : List (Nat × LinOp)} {t : Nat} : t ∈ callers lin ↔ ∃ τ k r, (τ, LinOp.get t k r) ∈ lin := by
  unfold callers
  rw [List.mem_filterMap]
  constructor
  · rintro ⟨⟨τ, op⟩, hm, hc⟩
    cases op with
    | get t' k r => cases hc; exact ⟨τ, k, r, hm⟩
    | set m => cases hc
    | snap m => cases hc
  · rintro ⟨τ, k, r, hm⟩
    exact ⟨_, hm, rfl⟩

theorem callers_append (xs ys : List (Nat × LinOp)) : callers (xs ++ ys) = callers xs ++ callers ys :=
  List.filterMap_append

structure LInv2 (l : LSt) : Prop where
  sorted : l.lin.Pairwise (fun a b => a.1 ≤ b.1)
  nodup : (callers l.lin).Nodup
  wnodup : ∀ c, (l.waiters c).Nodup

def LinLe (l : LSt) : Prop := ∀ e ∈ l.lin, e.1 ≤ l.now

theorem lstep_lin (l : LSt) (a : Act) :
    (lstep l a).now = l.now + 1 ∧ ∃ new, (lstep l a).lin = l.lin ++ new ∧ ∀ e ∈ new, e.1 = l.now + 1 := by
  have hs := lstep_spec l a
  generalize lstep l a = l' at hs
  cases hs with
  | publish t c k r =>
    refine ⟨rfl, _, rfl, fun e he => ?_⟩
    rcases List.mem_cons.mp he with rfl | he
    · rfl
    · obtain ⟨_, _, rfl⟩ := List.mem_map.mp he; rfl
  | hit | setMap | getMap => exact ⟨rfl, _, rfl, fun e he => by cases List.mem_singleton.mp he; rfl⟩
  | _ => exact ⟨rfl, [], (List.append_nil _).symm, nofun⟩

theorem linLe_step {l : LSt} (h : LinLe l) (a : Act) : LinLe (lstep l a) := by
  obtain ⟨e1, new, e2, hn⟩ := lstep_lin l a
  intro e he
  rw [e1]
  rw [e2] at he
  rcases List.mem_append.mp he with he | he
  · exact Nat.le_succ_of_le (h e he)
  · exact Nat.le_of_eq (hn e he)

theorem sorted_step {l : LSt} (h : LinLe l) (hs : l.lin.Pairwise (fun a b => a.1 ≤ b.1)) (a : Act) :
    (lstep l a).lin.Pairwise (fun a b => a.1 ≤ b.1) := by
  obtain ⟨_, new, e2, hn⟩ := lstep_lin l a
  rw [e2, List.pairwise_append]
  refine ⟨hs, ?_, fun x hx y hy => ?_⟩
  · exact List.pairwise_of_forall_mem_list fun x hx y hy => Nat.le_of_eq ((hn x hx).trans (hn y hy).symm)
  · rw [hn y hy]; exact Nat.le_succ_of_le (h x hx)

theorem nodup_step {l : LSt} (hf : Flight l.base) (hr : ∀ t, Row l t) (h2 : LInv2 l) (a : Act) :
    (callers (lstep l a).lin).Nodup ∧ ∀ c, ((lstep l a).waiters c).Nodup := by
  have entered : ∀ {t}, t ∈ callers l.lin → ∃ k r, Real l t k r := fun ht =>
    let ⟨τ, k, r, hm⟩ := mem_callers.mp ht
    ⟨k, r, (hr _).real τ k r hm⟩
  have fresh : ∀ {t k}, l.base.pcs t = .start k → t ∉ callers l.lin := fun hp ht => by
    obtain ⟨_, _, e | ⟨_, e, _⟩⟩ := entered ht <;> cases hp.symm.trans e
  have hs := lstep_spec l a
  generalize lstep l a = l' at hs
  cases hs with
  | hit t k v hp =>
    refine ⟨?_, h2.wnodup⟩
    rw [callers_append, List.nodup_append]
    refine ⟨h2.nodup, List.pairwise_singleton _ t, fun x hx y hy e => ?_⟩
    cases List.mem_singleton.mp hy
    exact fresh hp (e ▸ hx)
  | wait t k c hp _ hcl =>
    refine ⟨h2.nodup, fun c' => ?_⟩
    by_cases e : c' = c
    · subst e
      simp only [upd_same]
      rw [List.nodup_append]
      refine ⟨h2.wnodup c', List.pairwise_singleton _ t, fun x hx y hy e => ?_⟩
      cases List.mem_singleton.mp hy
      obtain ⟨_, hw⟩ := (hr x).queued c' hx (hf.calls_nores hcl)
      rw [e, hp] at hw; cases hw
    · simp only [upd_ne _ _ e]; exact h2.wnodup c'
  | publish t c k r hp =>
    -- the fetcher and the callers queued on its call had no entry: the call had no result
    have hres := hf.fetch_nores t c k hp
    have queued : ∀ {w}, w ∈ l.waiters c → ∃ k', l.base.pcs w = .waiting c k' := fun hw => (hr _).queued c hw hres
    refine ⟨?_, h2.wnodup⟩
    have hc : callers ((l.now + 1, LinOp.get t k r) :: (l.waiters c).map fun w => (l.now + 1, LinOp.get w k r)) = t :: l.waiters c := by
      simp only [callers, List.filterMap_cons, LinOp.caller, List.filterMap_map, Function.comp_def, List.filterMap_some]
    rw [callers_append, hc, List.nodup_append]
    refine ⟨h2.nodup, List.nodup_cons.mpr ⟨fun hm => ?_, h2.wnodup c⟩, fun x hx y hy e => ?_⟩
    · obtain ⟨_, hw⟩ := queued hm
      cases hp.symm.trans hw
    · subst e
      rcases List.mem_cons.mp hy with rfl | hy
      · obtain ⟨_, _, e | ⟨_, e, _⟩⟩ := entered hx <;> cases hp.symm.trans e
      · obtain ⟨_, hw⟩ := queued hy
        obtain ⟨_, _, e | ⟨_, e, hr'⟩⟩ := entered hx <;> cases hw.symm.trans e
        cases hres.symm.trans hr'
  | setMap | getMap => exact ⟨by rw [callers_append]; exact (List.append_nil _).symm ▸ h2.nodup, h2.wnodup⟩
  | _ => exact ⟨h2.nodup, h2.wnodup⟩

structure LInv (l : LSt) : Prop where
  flight : Flight l.base
  spec : LSpec l
  rows : ∀ t, Row l t
  le : LinLe l
  ord : LInv2 l

theorem LInv.step {l : LSt} (h : LInv l) (a : Act) (hok : stepOK l.base a) : LInv (lstep l a) :=
  have hn := nodup_step h.flight h.rows h.ord a
  ⟨(lstep_base l a).symm ▸ h.flight.step a, h.spec.step h.flight a hok, rows_step h.flight h.rows a, linLe_step h.le a,
   sorted_step h.le h.ord.sorted a, hn.1, hn.2⟩

theorem linv_init (keyOf : Nat → Option K) : LInv (linit keyOf) :=
  ⟨(inv_init keyOf).flight, ⟨SpecRun.nil, fun _ _ _ hf => absurd hf (init_pcs_ne keyOf _ nofun nofun)⟩,
   fun _ => ⟨fun _ _ hf => absurd hf (init_pcs_ne keyOf _ nofun nofun), fun _ _ hw => absurd hw (init_pcs_ne keyOf _ nofun nofun),
     fun _ _ _ hw => absurd hw (init_pcs_ne keyOf _ nofun nofun), fun _ _ hd => absurd hd (init_pcs_ne keyOf _ nofun nofun),
     nofun, nofun⟩,
   nofun, ⟨List.Pairwise.nil, List.nodup_nil, fun _ => List.nodup_nil⟩⟩

theorem linv_runFrom : ∀ (as : List Act) (l : LSt), LInv l → RunOK l.base as → LInv (lrunFrom l as)
  | [], _, h, _ => h
  | a :: as, l, h, hok => linv_runFrom as (lstep l a) (h.step a hok.1) ((lstep_base l a).symm ▸ hok.2)

/-! ### the SetMap / GetMap entries of the linearization are the executed calls -/

/-- one step: what is appended to `lin`, projected to its SetMap resp. GetMap entries -/
theorem lstep_lin_proj (f : LinOp → Option (K → Option V)) (hf : ∀ t k r, f (.get t k r) = none) (l : LSt) (a : Act) :
    (lstep l a).lin.filterMap (fun e => f e.2) = l.lin.filterMap (fun e => f e.2) ++
      (match a with
       | .setMap m => (f (.set m)).toList
       | .getMap => (f (.snap l.base.cache)).toList
       | _ => []) := by
  have single : ∀ x : Nat × LinOp, [x].filterMap (fun e => f e.2) = (f x.2).toList := fun x => by
    cases h : f x.2 <;> simp [h]
  have hs := lstep_spec l a
  generalize lstep l a = l' at hs
  cases hs with
  | idle a ha => cases a <;> first | exact (List.append_nil _).symm | cases ha
  | hit => rw [List.filterMap_append, single, hf]; rfl
  | publish t c k r =>
    rw [List.filterMap_append]
    congr 1
    refine List.filterMap_eq_nil_iff.mpr fun e he => ?_
    rcases List.mem_cons.mp he with rfl | he
    · exact hf ..
    · obtain ⟨_, _, rfl⟩ := List.mem_map.mp he; exact hf ..
  | setMap | getMap => rw [List.filterMap_append, single]
  | _ => exact (List.append_nil _).symm

/-- the `snap` entries of the linearization are, in order, exactly what the executed GetMap calls returned (`base.maps`, newest
    first), and the `set` entries are exactly the maps of the executed SetMap actions, in order -/
theorem lin_snaps_sets : ∀ (as : List Act) (l : LSt),
    l.lin.filterMap (fun e => e.2.snapOf) = l.base.maps.reverse →
    (lrunFrom l as).lin.filterMap (fun e => e.2.snapOf) = (lrunFrom l as).base.maps.reverse ∧
    (lrunFrom l as).lin.filterMap (fun e => e.2.setOf) = l.lin.filterMap (fun e => e.2.setOf) ++ as.filterMap Act.setOf
  | [], l, h => ⟨h, by simp [lrunFrom]⟩
  | a :: as, l, h => by
    have h1 : (lstep l a).lin.filterMap (fun e => e.2.snapOf) = (lstep l a).base.maps.reverse := by
      rw [lstep_lin_proj LinOp.snapOf (fun _ _ _ => rfl), lstep_base, step_maps, h]
      cases a <;> simp [LinOp.snapOf]
    obtain ⟨i1, i2⟩ := lin_snaps_sets as (lstep l a) h1
    refine ⟨i1, ?_⟩
    show (lrunFrom (lstep l a) as).lin.filterMap _ = _
    rw [i2, lstep_lin_proj LinOp.setOf (fun _ _ _ => rfl)]
    cases a <;> simp [LinOp.setOf, Act.setOf, List.filterMap_cons]

end Scalibr.Cache
