/-
State invariants of model A that hold for EVERY tree, fault plan, limit and cancellation point.
A predicate kept by the four atomic steps is kept by the whole walk (`walkNode_on` … `runRoots_inv`); and a
predicate that the prologue keeps and that survives "the attempts `cs` were made" is kept by the atomic steps
(`stepInv_of_attempts`).  Instances: the inode bound and the file-size bound (C10), "only required files" and "only
files of the scanned trees" (C01), the per-root books — inventory, error and found lists, hence the statuses
(`statusOfCalls`) — as functions of the root's attempts (C01, C09), the findings as a function of the whole log (C08).
-/
import Scalibr.Proofs.WalkStep
namespace Scalibr.Walk

/-- path, kind and size of a record (what does not depend on the chain of directories above) -/
def lite (r : FileRec) : Path × Kind × Nat := (r.path, r.kind, r.size)

mutual
theorem allFiles_lite (p : Path) : ∀ (n : Node) (anc anc' : List DirInfo),
    (allFiles p anc n).map lite = (allFiles p anc' n).map lite
  | .file k sz, _, _ => by simp [allFiles, lite]
  | .dir gi es, anc, anc' => by
    simp only [allFiles]
    exact allFilesList_lite p gi es anc anc' 0 0
theorem allFilesList_lite (p : Path) (gi : Option PatSet) : ∀ (es : List (String × Node)) (anc anc' : List DirInfo) (i j : Nat),
    (allFilesList p gi anc es i).map lite = (allFilesList p gi anc' es j).map lite
  | [], _, _, _, _ => by simp [allFilesList]
  | (s, n) :: rest, anc, anc', i, j => by
    simp only [allFilesList, List.map_append]
    rw [allFiles_lite (p ++ [s]) n (anc ++ [(⟨p, gi, i⟩ : DirInfo)]) (anc' ++ [(⟨p, gi, j⟩ : DirInfo)]),
        allFilesList_lite p gi rest anc anc' (i+1) (j+1)]
end

theorem mem_lite {L L' : List FileRec} (h : L.map lite = L'.map lite) (r : FileRec) (hr : r ∈ L) :
    ∃ r' ∈ L', lite r' = lite r := by
  have : lite r ∈ L'.map lite := by rw [← h]; exact List.mem_map_of_mem hr
  obtain ⟨r', hr', he⟩ := List.mem_map.mp this
  exact ⟨r', hr', he⟩

theorem allFilesList_mem (p : Path) (gi : Option PatSet) (s : String) (ch : Node) (A : List DirInfo) :
    ∀ (es : List (String × Node)) (anc : List DirInfo) (k : Nat), (s, ch) ∈ es →
      ∀ r ∈ allFiles (p ++ [s]) A ch, ∃ r' ∈ allFilesList p gi anc es k, lite r' = lite r
  | [], _, _, h, _, _ => by cases h
  | (t, n) :: rest, anc, k, h, r, hr => by
    simp only [allFilesList, List.mem_append]
    rcases List.mem_cons.mp h with h | h
    · injection h with h1 h2
      subst h1 h2
      obtain ⟨r', hr', he⟩ := mem_lite (allFiles_lite (p ++ [s]) ch A (anc ++ [(⟨p, gi, k⟩ : DirInfo)])) r hr
      exact ⟨r', Or.inl hr', he⟩
    · obtain ⟨r', hr', he⟩ := allFilesList_mem p gi s ch A rest anc (k+1) h r hr
      exact ⟨r', Or.inr hr', he⟩

theorem allFiles_of_lookup : ∀ (q : Path) (p : Path) (anc anc' : List DirInfo) (n m : Node), lookup n q = some m →
    ∀ r ∈ allFiles (p ++ q) anc' m, ∃ r' ∈ allFiles p anc n, lite r' = lite r
  | [], p, anc, anc', n, m, hl, r, hr => by
    have : n = m := by cases n <;> simpa [lookup] using hl
    subst this
    rw [List.append_nil] at hr
    exact mem_lite (allFiles_lite p n anc' anc) r hr
  | s :: q, p, anc, anc', n, m, hl, r, hr => by
    cases n with
    | file k sz => simp [lookup] at hl
    | dir gi es =>
      simp only [lookup] at hl
      cases hf : es.find? (·.1 = s) with
      | none => rw [hf] at hl; cases hl
      | some x =>
        obtain ⟨t, ch⟩ := x
        rw [hf] at hl
        simp only [] at hl
        have hts : t = s := by simpa using List.find?_some hf
        subst hts
        have hmem : (t, ch) ∈ es := List.mem_of_find?_eq_some hf
        have hpq : p ++ t :: q = (p ++ [t]) ++ q := by simp
        rw [hpq] at hr
        obtain ⟨r1, hr1, he1⟩ := allFiles_of_lookup q (p ++ [t]) [] anc' ch m hl r hr
        obtain ⟨r2, hr2, he2⟩ := allFilesList_mem p gi t ch [] es anc 0 hmem r1 hr1
        exact ⟨r2, by simpa [allFiles] using hr2, he2.trans he1⟩


theorem sub_of_lookup {root m : Node} {q : Path} (hl : lookup root q = some m) :
    ∀ r ∈ allFiles q [] m, ∃ r' ∈ allFiles [] [] root, r'.path = r.path ∧ r'.size = r.size := fun r hr => by
  obtain ⟨r', hr', he⟩ := allFiles_of_lookup q [] [] [] root m hl r (by simpa using hr)
  simp only [lite, Prod.mk.injEq] at he
  exact ⟨r', hr', he.1, he.2.2⟩

/-- the atomic state transformers of the walk -/
structure StepInv (c : Cfg) (f : Faults) (P : St → Prop) : Prop where
  prologue : ∀ s, P s → P (prologue c s).1
  leaf : ∀ s p k sz, P s → P (handleLeaf c f s p k sz).1
  push : ∀ s p gi, P s → P (pushGi c f s p gi).1
  pop : ∀ s p e, P s → P (popOnExit c s p e).1

/-- … with the file step required only for the files of the list `L` (under any kind: a requested symlink is
handled as the file it points to) -/
structure StepInvOn (c : Cfg) (f : Faults) (L : List FileRec) (P : St → Prop) : Prop where
  prologue : ∀ s, P s → P (prologue c s).1
  leaf : ∀ r ∈ L, ∀ s k, P s → P (handleLeaf c f s r.path k r.size).1
  push : ∀ s p gi, P s → P (pushGi c f s p gi).1
  pop : ∀ s p e, P s → P (popOnExit c s p e).1

theorem StepInv.on {c : Cfg} {f : Faults} {P : St → Prop} (h : StepInv c f P) (L : List FileRec) : StepInvOn c f L P :=
  ⟨h.prologue, fun r _ s k => h.leaf s r.path k r.size, h.push, h.pop⟩

theorem StepInvOn.mono {c : Cfg} {f : Faults} {P : St → Prop} {L L' : List FileRec} (h : StepInvOn c f L P)
    (hsub : ∀ r ∈ L', ∃ r' ∈ L, r'.path = r.path ∧ r'.size = r.size) : StepInvOn c f L' P :=
  ⟨h.prologue, fun r hr s k hs => by
    obtain ⟨r', hr', he⟩ := hsub r hr
    rw [← he.1, ← he.2]; exact h.leaf r' hr' s k hs, h.push, h.pop⟩

theorem fserrCall_inv {c : Cfg} {f : Faults} {L : List FileRec} {P : St → Prop} (h : StepInvOn c f L P) (s : St)
    (hs : P s) : P (fserrCall c s).1 := by
  rw [fserrCall_fst]; exact h.prologue s hs

mutual
theorem walkNode_on {c : Cfg} {f : Faults} {P : St → Prop} (p : Path) (anc : List DirInfo) :
    ∀ (n : Node) (s : St), StepInvOn c f (allFiles p anc n) P → P s → P (walkNode c f s p n).1
  | .file k size, s, h, hs => by
    simp only [walkNode]
    have hp := h.prologue s hs
    generalize prologue c s = r at hp ⊢
    obtain ⟨s1, e1⟩ := r
    cases e1 with
    | some e => exact hp
    | none => exact h.leaf ⟨p, k, size, anc⟩ (List.mem_singleton.mpr rfl) s1 k hp
  | .dir gi es, s, h, hs => by
    simp only [walkNode]
    have hp := h.prologue s hs
    generalize prologue c s = r at hp ⊢
    obtain ⟨s1, e1⟩ := r
    cases e1 with
    | some e => exact h.pop _ _ _ hp
    | none =>
      simp only []
      have hg := h.push s1 p gi hp
      generalize pushGi c f s1 p gi = r2 at hg ⊢
      obtain ⟨s2, e2⟩ := r2
      cases e2 with
      | some e => exact h.pop _ _ _ hg
      | none =>
        simp only []
        split
        · exact h.pop _ _ _ hg
        · split
          · exact h.pop _ _ _ (fserrCall_inv h s2 hg)
          · exact h.pop _ _ _ (walkEntries_on p gi anc es 0 s2 h hg)
theorem walkEntries_on {c : Cfg} {f : Faults} {P : St → Prop} (p : Path) (gi : Option PatSet) (anc : List DirInfo) :
    ∀ (es : List (String × Node)) (k : Nat) (s : St), StepInvOn c f (allFilesList p gi anc es k) P → P s →
      P (walkEntries c f s p es k).1
  | [], k, s, h, hs => by
    simp only [walkEntries]
    split
    · exact fserrCall_inv h s hs
    · exact hs
  | (name, n) :: rest, k, s, h, hs => by
    simp only [walkEntries]
    split
    · exact fserrCall_inv h s hs
    · have h1 := walkNode_on (p ++ [name]) (anc ++ [⟨p, gi, k⟩]) n s
        (h.mono fun r hr => ⟨r, List.mem_append_left _ hr, rfl, rfl⟩) hs
      generalize walkNode c f s (p ++ [name]) n = r at h1 ⊢
      obtain ⟨s1, e1⟩ := r
      simp only []
      split
      · exact h1
      · exact walkEntries_on p gi anc rest (k+1) s1 (h.mono fun r hr => ⟨r, List.mem_append_right _ hr, rfl, rfl⟩) h1
end

theorem walkNode_inv {c : Cfg} {f : Faults} {P : St → Prop} (h : StepInv c f P) (p : Path) :
    ∀ (n : Node) (s : St), P s → P (walkNode c f s p n).1 :=
  fun n s hs => walkNode_on p [] n s (h.on _) hs

theorem walkEntries_inv {c : Cfg} {f : Faults} {P : St → Prop} (h : StepInv c f P) (p : Path) :
    ∀ (es : List (String × Node)) (k : Nat) (s : St), P s → P (walkEntries c f s p es k).1 :=
  fun es k s hs => walkEntries_on p none [] es k s (h.on _) hs

/-! ### lifting to a whole scan

Between walks the engine resets the gitignore stack (`hset`), between roots the books (`hreset`). -/

theorem walkRequested_inv {c : Cfg} {f : Faults} {P : St → Prop} {root : Node} (h : StepInvOn c f (allFiles [] [] root) P)
    (hset : ∀ s gs, P s → P { s with gis := gs }) (p : Path) (s : St) (hs : P s) :
    P (walkRequested c f s root p).1 := by
  rw [walkRequested_eq]
  split
  · exact fserrCall_inv h s hs
  · cases hl : lookup root p with
    | none => exact fserrCall_inv h s hs
    | some n =>
      cases n with
      | file k sz =>
        exact walkNode_on p [] _ s (h.mono fun r hr => by
          rw [List.mem_singleton.mp hr]
          exact sub_of_lookup hl ⟨p, k, sz, []⟩ (List.mem_singleton.mpr rfl)) hs
      | dir gi es =>
        simp only []
        split
        · exact hs
        · refine hset _ _ (walkNode_on p [] _ _ (h.mono fun r hr => sub_of_lookup hl r hr) ?_)
          split
          · exact hset _ _ hs
          · exact hs

theorem walkPaths_inv {c : Cfg} {f : Faults} {P : St → Prop} {root : Node} (h : StepInvOn c f (allFiles [] [] root) P)
    (hset : ∀ s gs, P s → P { s with gis := gs }) :
    ∀ (ps : List Path) (s : St), P s → P (walkPaths c f root s ps).1
  | [], s, hs => hs
  | p :: rest, s, hs => by
    simp only [walkPaths]
    have h1 := walkRequested_inv h hset p s hs
    generalize walkRequested c f s root p = r at h1 ⊢
    obtain ⟨s1, e1⟩ := r
    simp only []
    split
    · exact h1
    · exact walkPaths_inv h hset rest s1 h1

theorem runRoot_inv {c : Cfg} {f : Faults} {P : St → Prop} {root : Node} (h : StepInvOn c f (allFiles [] [] root) P)
    (hset : ∀ s gs, P s → P { s with gis := gs }) (s : St)
    (hs : P { s with pkgs := [], errs := [], found := [] }) : P (runRoot c f s root).1 := by
  rw [runRoot_eq]
  split
  · split
    · exact fserrCall_inv h _ hs
    · exact walkNode_on [] [] root _ h hs
  · exact walkPaths_inv h hset _ _ hs

theorem runRoots_inv {c : Cfg} {P : St → Prop}
    (hset : ∀ s gs, P s → P { s with gis := gs }) (hreset : ∀ s, P s → P { s with pkgs := [], errs := [], found := [] }) :
    ∀ (roots : List (Node × Faults)) (s : St) (acc : List Pkg) (sts : List (Nat × Status)),
      (∀ rf ∈ roots, StepInvOn c rf.2 (allFiles [] [] rf.1) P) → P s →
      ∃ s', P s' ∧ (runRoots c s acc sts roots).calls = s'.calls ∧ (runRoots c s acc sts roots).visited = s'.visited
  | [], s, _, _, _, hs => ⟨s, hs, rfl, rfl⟩
  | (r, f) :: rest, s, acc, sts, h, hs => by
    simp only [runRoots]
    have h1 := runRoot_inv (h (r, f) List.mem_cons_self) hset s (hreset s hs)
    generalize runRoot c f s r = x at h1 ⊢
    obtain ⟨s1, e1⟩ := x
    simp only []
    split
    · exact ⟨s1, h1, rfl, rfl⟩
    · exact runRoots_inv hset hreset rest s1 _ _ (fun rf hrf => h rf (List.mem_cons_of_mem _ hrf)) h1

/-! ### invariants that only look at the counters, the attempt log and the books -/

/-- A predicate is kept by the atomic steps when the prologue keeps it and it survives "attempts `cs` were made":
the machine's part of the state took them as one block, each by an extractor that requires the file and within the
size limit, and — no extractor panicking — the books received what they brought.  (`pushGi` and `popOnExit` are the
case `cs = []`.) -/
theorem stepInv_of_attempts {c : Cfg} {f : Faults} {P : St → Prop} (hpro : ∀ s, P s → P (prologue c s).1)
    (hatt : ∀ s s' cs, P s → abs s' = aBlock c (abs s) cs → (NoExtractorPanic c → Booked c s s' cs) →
      (∀ cl ∈ cs, c.required cl.ext cl.path = true ∧ (c.maxFileSize > 0 → cl.size ≤ c.maxFileSize)) → P s') :
    StepInv c f P where
  prologue := hpro
  leaf s p k sz hs := by
    obtain ⟨cs, hpre, habs, _, hres⟩ := handleLeaf_spec c f s.gis s p k sz (fun _ => rfl)
    refine hatt s _ cs hs habs (fun hx => ?_) (fun cl hcl => ?_)
    · rcases hres with ⟨_, _, hb⟩ | ⟨_, e, he⟩
      · exact hb
      · rw [hx e p] at he; cases he
    · obtain ⟨h1, h2, h3, h4⟩ := mem_mustOne (hpre.subset hcl)
      rw [h1, h2]
      exact ⟨h3, h4⟩
  push s p gi hs := by
    obtain ⟨g, d, h⟩ := pushGi_frame c f s p gi
    rw [h]
    exact hatt s _ [] hs (aBlock_nil c _).symm (fun _ => Booked.same rfl rfl rfl rfl) (fun _ h => nomatch h)
  pop s p e hs := by
    obtain ⟨g, d, h⟩ := popOnExit_frame c s p e
    rw [h]
    exact hatt s _ [] hs (aBlock_nil c _).symm (fun _ => Booked.same rfl rfl rfl rfl) (fun _ h => nomatch h)

/-! ### instance 1: the inode bound (C10) -/

def Bound (c : Cfg) (s : St) : Prop := c.maxInodes > 0 → s.visited ≤ c.maxInodes ∧ s.visited ≤ s.inodes

theorem bound_of_counters (c : Cfg) (s s' : St) (h : Bound c s) (hv : s'.visited = s.visited)
    (hi : s'.inodes = s.inodes) : Bound c s' := by
  unfold Bound at *; rw [hv, hi]; exact h

theorem prologue_bound (c : Cfg) (s : St) (h : Bound c s) : Bound c (prologue c s).1 := by
  intro hm
  have ⟨h1, h2⟩ := h hm
  unfold prologue
  by_cases hgt : s.inodes + 1 > c.maxInodes
  · simp only [hm, hgt, decide_true, Bool.and_self, if_true]
    exact ⟨h1, by show s.visited ≤ s.inodes + 1; omega⟩
  · simp only [hgt, decide_false, Bool.and_false, Bool.false_eq_true, if_false]
    have : s.visited + 1 ≤ c.maxInodes ∧ s.visited + 1 ≤ s.inodes + 1 := by omega
    split <;> exact this

theorem bound_stepInv (c : Cfg) (f : Faults) : StepInv c f (Bound c) :=
  stepInv_of_attempts (prologue_bound c) fun s s' _ h habs _ _ =>
    bound_of_counters c s s' h (congrArg AS.visited habs) (congrArg AS.inodes habs)

theorem runRoots_visited (c : Cfg) (roots : List (Node × Faults)) (s : St) (acc : List Pkg) (sts : List (Nat × Status))
    (hb : Bound c s) (hm : c.maxInodes > 0) : (runRoots c s acc sts roots).visited ≤ c.maxInodes := by
  obtain ⟨s', h, _, hv⟩ := runRoots_inv (fun s _ h => bound_of_counters c s _ h rfl rfl)
    (fun s h => bound_of_counters c s _ h rfl rfl) roots s acc sts (fun rf _ => (bound_stepInv c rf.2).on _) hb
  rw [hv]; exact (h hm).1

/-! ### instances 2 and 3: properties of every logged attempt — within the size limit (C10), by an extractor that
requires the file (C01), on a file of a scanned tree with that file's size (C01) -/

theorem handleLeaf_shape (c : Cfg) (f : Faults) (s : St) (p : Path) (k : Kind) (size : Nat) :
    ∃ cs, (handleLeaf c f s p k size).1.calls = s.calls ++ cs ∧
      ∀ cl ∈ cs, cl.path = p ∧ cl.size = size ∧ c.required cl.ext p = true ∧ (c.maxFileSize > 0 → size ≤ c.maxFileSize) := by
  obtain ⟨cs, hpre, habs, _, _⟩ := handleLeaf_spec c f s.gis s p k size (fun _ => rfl)
  exact ⟨cs, congrArg AS.calls habs, fun cl hcl => mem_mustOne (hpre.subset hcl)⟩

theorem appended_stepOn (c : Cfg) (f : Faults) (L : List FileRec) (base : List Call) (Q : Call → Prop)
    (hQ : ∀ r ∈ L, ∀ cl : Call, cl.path = r.path → cl.size = r.size → c.required cl.ext r.path = true →
      (c.maxFileSize > 0 → r.size ≤ c.maxFileSize) → Q cl) :
    StepInvOn c f L (fun s => ∃ cs, s.calls = base ++ cs ∧ ∀ cl ∈ cs, Q cl) where
  prologue s h := by rw [prologue_calls]; exact h
  push s p gi h := by rw [pushGi_calls]; exact h
  pop s p e h := by rw [popOnExit_calls]; exact h
  leaf r hr s k := fun ⟨cs, h1, h2⟩ => by
    obtain ⟨cs', g1, g2⟩ := handleLeaf_shape c f s r.path k r.size
    refine ⟨cs ++ cs', by rw [g1, h1, List.append_assoc], fun cl hcl => ?_⟩
    rcases List.mem_append.mp hcl with hcl | hcl
    · exact h2 cl hcl
    · exact hQ r hr cl (g2 cl hcl).1 (g2 cl hcl).2.1 (g2 cl hcl).2.2.1 (g2 cl hcl).2.2.2

theorem runRoots_logged (c : Cfg) (Q : Call → Prop) (roots : List (Node × Faults))
    (hQ : ∀ rf ∈ roots, ∀ r ∈ allFiles [] [] rf.1, ∀ cl : Call, cl.path = r.path → cl.size = r.size →
      c.required cl.ext r.path = true → (c.maxFileSize > 0 → r.size ≤ c.maxFileSize) → Q cl)
    (s : St) (acc : List Pkg) (sts : List (Nat × Status)) (hs : ∀ cl ∈ s.calls, Q cl) :
    ∀ cl ∈ (runRoots c s acc sts roots).calls, Q cl := by
  obtain ⟨s', ⟨cs, h1, h2⟩, hc, _⟩ := runRoots_inv (P := fun s => ∃ cs, s.calls = [] ++ cs ∧ ∀ cl ∈ cs, Q cl)
    (fun _ _ h => h) (fun _ h => h) roots s acc sts (fun rf hrf => appended_stepOn c rf.2 _ [] Q (hQ rf hrf))
    ⟨s.calls, rfl, hs⟩
  rw [hc, h1]; exact h2

theorem runRoots_sizeInv (c : Cfg) (roots : List (Node × Faults)) (s : St) (acc : List Pkg) (sts : List (Nat × Status))
    (hs : ∀ cl ∈ s.calls, c.maxFileSize > 0 → cl.size ≤ c.maxFileSize) :
    ∀ cl ∈ (runRoots c s acc sts roots).calls, c.maxFileSize > 0 → cl.size ≤ c.maxFileSize :=
  runRoots_logged c _ roots (fun _ _ _ _ cl _ h2 _ hb => by rw [h2]; exact hb) s acc sts hs

/-- `cl` is an attempt on the file described by some record of `L` -/
def OnFileOf (c : Cfg) (L : List FileRec) (cl : Call) : Prop :=
  ∃ r ∈ L, r.path = cl.path ∧ r.size = cl.size ∧ c.required cl.ext r.path = true

theorem walkEntries_files (c : Cfg) (f : Faults) (p : Path) (gi : Option PatSet) (anc : List DirInfo) :
    ∀ (es : List (String × Node)) (k : Nat) (s : St), ∃ cs, (walkEntries c f s p es k).1.calls = s.calls ++ cs ∧
      ∀ cl ∈ cs, OnFileOf c (allFilesList p gi anc es k) cl :=
  fun es k s => walkEntries_on p gi anc es k s
    (appended_stepOn c f _ s.calls _ fun r hr cl h1 h2 h3 _ => ⟨r, hr, h1.symm, h2.symm, h3⟩)
    ⟨[], (List.append_nil _).symm, fun _ h => nomatch h⟩

/-! ### instance 4: the books are functions of the attempt log (no extractor panics) -/

theorem prologue_keeps (c : Cfg) {P : St → Prop} (h : ∀ s i v, P s → P { s with inodes := i, visited := v }) (s : St)
    (hs : P s) : P (prologue c s).1 := by
  obtain ⟨i, v, e⟩ := prologue_frame c s
  rw [e]; exact h s i v hs

/-- `base` = the attempt log at the moment the current root started -/
def BookInv (c : Cfg) (base : List Call) (s : St) : Prop :=
  ∃ cur, s.calls = base ++ cur ∧ s.pkgs = pkgsOfCalls c cur ∧ s.errs = errsOfCalls c cur ∧ s.found = foundOfCalls c cur

theorem bookInv_stepInv (c : Cfg) (hx : NoExtractorPanic c) (f : Faults) (base : List Call) :
    StepInv c f (BookInv c base) :=
  stepInv_of_attempts (prologue_keeps c fun _ _ _ h => h) fun s s' cs ⟨cur, g1, g2, g3, g4⟩ habs hb _ =>
    have hc : s'.calls = s.calls ++ cs := congrArg AS.calls habs
    ⟨cur ++ cs, by rw [hc, g1, List.append_assoc], by rw [(hb hx).pkgs, g2, pkgsOfCalls_append],
      by rw [(hb hx).errs, g3, errsOfCalls_append], by rw [(hb hx).found, g4, foundOfCalls_append]⟩

/-- after a root: inventory, errors and found flags are functions of the root's own attempts -/
theorem runRoot_book (c : Cfg) (hx : NoExtractorPanic c) (f : Faults) (root : Node) (s : St) :
    BookInv c s.calls (runRoot c f s root).1 :=
  runRoot_inv ((bookInv_stepInv c hx f _).on _) (fun _ _ h => h) s ⟨[], (List.append_nil _).symm, rfl, rfl, rfl⟩

/-- the status of extractor `e` for a root whose extraction attempts were `cur`: failed/partial exactly when
one of its attempts could not open/stat its file or its `Extract` returned an error; partial when, besides,
one of its `Extract` invocations returned a non-empty inventory -/
def statusOfCalls (c : Cfg) (cur : List Call) (e : Nat) : Status :=
  if (errsOfCalls c cur).contains e then (if (foundOfCalls c cur).contains e then .part else .failed) else .ok

theorem runRoots_statuses_of_calls (c : Cfg) (hx : NoExtractorPanic c) :
    ∀ (roots : List (Node × Faults)) (s : St) (acc : List Pkg) (sts : List (Nat × Status)),
      (runRoots c s acc sts roots).err = .none →
      ∃ segs : List (List Call), segs.length = roots.length ∧
        (runRoots c s acc sts roots).calls = s.calls ++ segs.flatten ∧
        (runRoots c s acc sts roots).statuses =
          sts ++ segs.flatMap (fun cur => (List.range c.nExt).map fun e => (e, statusOfCalls c cur e)) ∧
        (runRoots c s acc sts roots).pkgs = acc ++ segs.flatMap (pkgsOfCalls c)
  | [], s, acc, sts, _ => ⟨[], rfl, by simp [runRoots], by simp [runRoots], by simp [runRoots]⟩
  | (r, f) :: rest, s, acc, sts, herr => by
    simp only [runRoots] at herr ⊢
    have h1 := runRoot_book c hx f r s
    generalize runRoot c f s r = x at h1 herr ⊢
    obtain ⟨s1, e1⟩ := x
    simp only [] at herr ⊢ h1
    split
    · rename_i hne; simp [hne] at herr
    · rename_i hne
      simp only [hne, if_false] at herr
      obtain ⟨cur, g1, g2, g3, g4⟩ := h1
      obtain ⟨segs, k1, k2, k3, k4⟩ := runRoots_statuses_of_calls c hx rest s1 _ _ herr
      refine ⟨cur :: segs, by simp [k1], ?_, ?_, ?_⟩
      · rw [k2, g1]; simp [List.append_assoc]
      · rw [k3]
        have : List.map (fun x => (x, statusOf s1 x)) (List.range c.nExt)
             = List.map (fun e => (e, statusOfCalls c cur e)) (List.range c.nExt) :=
          List.map_congr_left (fun e _ => by simp only [statusOf, statusOfCalls, g3, g4])
        rw [this]; simp [List.append_assoc]
      · rw [k4, g2]; simp [List.append_assoc]

/-- whole scan: the inventory is the union of the results of all `Extract` invocations, in order -/
theorem runRoots_pkgs (c : Cfg) (hx : NoExtractorPanic c) (roots : List (Node × Faults)) (s : St) (acc : List Pkg)
    (sts : List (Nat × Status)) (h : acc = pkgsOfCalls c s.calls) (herr : (runRoots c s acc sts roots).err = .none) :
    (runRoots c s acc sts roots).pkgs = pkgsOfCalls c (runRoots c s acc sts roots).calls := by
  obtain ⟨segs, _, k2, _, k4⟩ := runRoots_statuses_of_calls c hx roots s acc sts herr
  rw [k4, k2, pkgsOfCalls_append, h, ← List.flatMap_id]
  exact congrArg _ List.flatMap_assoc.symm

/-! ### instance 5: the findings of a scan are those of its attempt log (no extractor panics) -/

def FindsInv (c : Cfg) (s : St) : Prop := s.finds = findsOfCalls c s.calls

theorem findsInv_stepInv (c : Cfg) (hx : NoExtractorPanic c) (f : Faults) : StepInv c f (FindsInv c) :=
  stepInv_of_attempts (prologue_keeps c fun _ _ _ h => h) fun s s' cs h habs hb _ => by
    have hc : s'.calls = s.calls ++ cs := congrArg AS.calls habs
    unfold FindsInv at *
    rw [(hb hx).finds, hc, h, findsOfCalls_append]

theorem runRoots_finds (c : Cfg) (hx : NoExtractorPanic c) : ∀ (roots : List (Node × Faults)) (s : St) (acc : List Pkg)
    (sts : List (Nat × Status)), FindsInv c s →
      (runRoots c s acc sts roots).finds =
        if (runRoots c s acc sts roots).err = .none then findsOfCalls c (runRoots c s acc sts roots).calls else []
  | [], s, acc, sts, h => by
    unfold FindsInv at h
    simp [runRoots, h]
  | (r, f) :: rest, s, acc, sts, h => by
    simp only [runRoots]
    have h1 := runRoot_inv (root := r) ((findsInv_stepInv c hx f).on _) (fun _ _ h => h) s h
    by_cases hne : (runRoot c f s r).2 = .none
    · simp only [hne, ne_eq, not_true_eq_false, if_false]
      exact runRoots_finds c hx rest _ _ _ h1
    · simp [hne]


end Scalibr.Walk
