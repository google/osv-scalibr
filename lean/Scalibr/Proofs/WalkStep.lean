/-
What each atomic step of model A does, for EVERY configuration.  The engine state has three parts that the
steps touch independently: the part the machine of Spec/WalkMachine.lean talks about (`abs`: inode and visit
counters, `Extract` count, context flag, attempt log), the two gitignore stacks (`SameStack`), and the books
kept per root (`Booked`: inventory, findings, error and found lists).  `prologue` is `aPro` on the first part;
running extractors is `aBlock` on the first and extends the third; `pushGi` / `popOnExit` only move the
stacks.  `handleLeaf` and `pushGi` are also given in the vocabulary of the specification (`mustOne`,
`traversalFault`, `excludedDir`, `giEntryOf`).
-/
import Scalibr.Spec.WalkMachine
import Scalibr.Model.Gitignore
namespace Scalibr.Walk

def NoExtractorPanic (c : Cfg) : Prop := ∀ e p, (c.extract e p).panics = false

/-- the part of the engine state the machine (Spec/WalkMachine.lean) talks about -/
def abs (s : St) : AS := ⟨s.inodes, s.visited, s.extracts, s.cancelled, s.calls⟩

/-- "same stack": the two gitignore lists are untouched -/
def SameStack (s s' : St) : Prop := s'.gis = s.gis ∧ s'.giDirs = s.giDirs

theorem SameStack.refl (s : St) : SameStack s s := ⟨rfl, rfl⟩
theorem SameStack.trans {a b d : St} (h1 : SameStack a b) (h2 : SameStack b d) : SameStack a d :=
  ⟨h2.1.trans h1.1, h2.2.trans h1.2⟩

/-- the packages returned by the `Extract` invocations of a log, tagged with extractor and file -/
def pkgsOfCalls (c : Cfg) (cs : List Call) : List Pkg :=
  cs.flatMap fun cl => if cl.opened then (c.extract cl.ext cl.path).pkgs.map fun i => ⟨i, cl.ext, cl.path⟩ else []

/-- one entry per attempt that failed: file could not be opened/stat'ed, or `Extract` returned an error -/
def errsOfCalls (c : Cfg) (cs : List Call) : List Nat :=
  cs.flatMap fun cl => if !cl.opened || (c.extract cl.ext cl.path).err then [cl.ext] else []

/-- one entry per `Extract` invocation that returned a non-empty inventory (packages, or findings only) -/
def foundOfCalls (c : Cfg) (cs : List Call) : List Nat :=
  cs.flatMap fun cl => if cl.opened && !(c.extract cl.ext cl.path).isEmpty then [cl.ext] else []

/-- the findings returned by the `Extract` invocations of a log, tagged with extractor and file -/
def findsOfCalls (c : Cfg) (cs : List Call) : List Fnd :=
  cs.flatMap fun cl => if cl.opened then (c.extract cl.ext cl.path).finds.map fun i => ⟨i, cl.ext, cl.path⟩ else []

theorem pkgsOfCalls_append (c : Cfg) (a b : List Call) : pkgsOfCalls c (a ++ b) = pkgsOfCalls c a ++ pkgsOfCalls c b :=
  List.flatMap_append
theorem errsOfCalls_append (c : Cfg) (a b : List Call) : errsOfCalls c (a ++ b) = errsOfCalls c a ++ errsOfCalls c b :=
  List.flatMap_append
theorem foundOfCalls_append (c : Cfg) (a b : List Call) : foundOfCalls c (a ++ b) = foundOfCalls c a ++ foundOfCalls c b :=
  List.flatMap_append
theorem findsOfCalls_append (c : Cfg) (a b : List Call) : findsOfCalls c (a ++ b) = findsOfCalls c a ++ findsOfCalls c b :=
  List.flatMap_append

structure Booked (c : Cfg) (s s' : St) (cs : List Call) : Prop where
  pkgs : s'.pkgs = s.pkgs ++ pkgsOfCalls c cs
  errs : s'.errs = s.errs ++ errsOfCalls c cs
  found : s'.found = s.found ++ foundOfCalls c cs
  finds : s'.finds = s.finds ++ findsOfCalls c cs

theorem Booked.same {c : Cfg} {s s' : St} (hp : s'.pkgs = s.pkgs) (he : s'.errs = s.errs) (hf : s'.found = s.found)
    (hn : s'.finds = s.finds) : Booked c s s' [] :=
  ⟨by rw [hp]; exact (List.append_nil _).symm, by rw [he]; exact (List.append_nil _).symm,
   by rw [hf]; exact (List.append_nil _).symm, by rw [hn]; exact (List.append_nil _).symm⟩

theorem Booked.trans {c : Cfg} {a b d : St} {c1 c2 : List Call} (h1 : Booked c a b c1) (h2 : Booked c b d c2) :
    Booked c a d (c1 ++ c2) :=
  ⟨by rw [h2.pkgs, h1.pkgs, pkgsOfCalls_append, List.append_assoc],
   by rw [h2.errs, h1.errs, errsOfCalls_append, List.append_assoc],
   by rw [h2.found, h1.found, foundOfCalls_append, List.append_assoc],
   by rw [h2.finds, h1.finds, findsOfCalls_append, List.append_assoc]⟩

theorem openedCount_nil : openedCount [] = 0 := rfl

theorem openedCount_append (a b : List Call) : openedCount (a ++ b) = openedCount a + openedCount b := by
  simp [openedCount, List.filter_append]

theorem openedCount_single (cl : Call) : openedCount [cl] = if cl.opened then 1 else 0 := by
  cases h : cl.opened <;> simp [openedCount, h]

theorem hits_add (ca : Option Nat) (x m1 m2 : Nat) :
    hits ca x (m1 + m2) = (hits ca x m1 || hits ca (x + m1) m2) := by
  cases ca with
  | none => rfl
  | some k =>
    simp only [hits]
    rw [Bool.eq_iff_iff]
    simp only [decide_eq_true_eq, Bool.or_eq_true]
    omega

theorem hits_zero (ca : Option Nat) (x : Nat) : hits ca x 0 = false := by
  cases ca with
  | none => rfl
  | some k => simp only [hits, decide_eq_false_iff_not]; omega

theorem hits_one (ca : Option Nat) (x : Nat) : hits ca x 1 = decide (ca = some (x + 1)) := by
  cases ca with
  | none => rfl
  | some k =>
    simp only [hits]
    rw [Bool.eq_iff_iff]
    simp only [decide_eq_true_eq, Option.some.injEq]
    omega

theorem aBlock_nil (c : Cfg) (a : AS) : aBlock c a [] = a := by
  simp [aBlock, openedCount_nil, hits_zero]

theorem aBlock_append (c : Cfg) (a : AS) (b1 b2 : List Call) :
    aBlock c (aBlock c a b1) b2 = aBlock c a (b1 ++ b2) := by
  simp [aBlock, openedCount_append, hits_add, Nat.add_assoc, Bool.or_assoc]

theorem prologue_frame (c : Cfg) (s : St) : ∃ i v, (prologue c s).1 = { s with inodes := i, visited := v } := by
  unfold prologue
  simp only []
  split
  · exact ⟨_, _, rfl⟩
  · split <;> exact ⟨_, _, rfl⟩

theorem prologue_abs (c : Cfg) (s : St) : aPro c (abs s) = (abs (prologue c s).1, (prologue c s).2) := by
  unfold prologue aPro abs
  simp only []
  split <;> (try split) <;> rfl

theorem prologue_same (c : Cfg) (s : St) : SameStack s (prologue c s).1 := by
  obtain ⟨i, v, h⟩ := prologue_frame c s
  rw [h]; exact ⟨rfl, rfl⟩

theorem aPro_ok (c : Cfg) (a : AS) (hm : ¬ (c.maxInodes > 0 ∧ a.inodes + 1 > c.maxInodes)) (hc : a.cancelled = false) :
    aPro c a = ({ a with inodes := a.inodes + 1, visited := a.visited + 1 }, none) := by
  unfold aPro; simp [hm, hc]

theorem aPro_err (c : Cfg) (a : AS) : (aPro c a).2 = none ∨ (aPro c a).2 = some .maxInodes ∨ (aPro c a).2 = some .ctx := by
  unfold aPro; simp only []; split <;> (try split) <;> simp

theorem fserrCall_fst (c : Cfg) (s : St) : (fserrCall c s).1 = (prologue c s).1 := by
  unfold fserrCall
  rcases prologue c s with ⟨s1, _ | e⟩
  · simp only []; split <;> rfl
  · rfl

theorem fserrCall_snd (c : Cfg) (s : St) :
    (fserrCall c s).2 = match (prologue c s).2 with
      | some e => e
      | none => if c.errorOnFSErrors then .fs else .none := by
  unfold fserrCall
  rcases prologue c s with ⟨s1, _ | e⟩
  · simp only []; split <;> rfl
  · rfl

theorem prologue_calls (c : Cfg) (s : St) : (prologue c s).1.calls = s.calls := by
  obtain ⟨i, v, h⟩ := prologue_frame c s
  rw [h]

/-- the attempt `runExtractor` logs: `Extract` is really called when the file can be opened and stat'ed -/
def attempt (f : Faults) (p : Path) (sz : Nat) (e : Nat) : Call := ⟨e, p, sz, !f.openFail p && !f.fileStatFail p⟩

theorem aBlock_single (c : Cfg) (a : AS) (cl : Call) :
    aBlock c a [cl] =
      { a with calls := a.calls ++ [cl], extracts := a.extracts + (if cl.opened then 1 else 0),
               cancelled := a.cancelled || (cl.opened && decide (c.cancelAt = some (a.extracts + 1))) } := by
  unfold aBlock
  rw [openedCount_single]
  cases cl.opened
  · simp [hits_zero]
  · simp [hits_one]

theorem booksOfCall (c : Cfg) (cl : Call) :
    pkgsOfCalls c [cl] = (if cl.opened then (c.extract cl.ext cl.path).pkgs.map fun i => ⟨i, cl.ext, cl.path⟩ else []) ∧
    errsOfCalls c [cl] = (if !cl.opened || (c.extract cl.ext cl.path).err then [cl.ext] else []) ∧
    foundOfCalls c [cl] = (if cl.opened && !(c.extract cl.ext cl.path).isEmpty then [cl.ext] else []) ∧
    findsOfCalls c [cl] = (if cl.opened then (c.extract cl.ext cl.path).finds.map fun i => ⟨i, cl.ext, cl.path⟩ else []) :=
  ⟨List.append_nil _, List.append_nil _, List.append_nil _, List.append_nil _⟩

theorem mem_errsOfCalls {c : Cfg} {cs : List Call} {e : Nat} :
    e ∈ errsOfCalls c cs ↔ ∃ cl ∈ cs, cl.ext = e ∧ (cl.opened = false ∨ (c.extract cl.ext cl.path).err = true) := by
  simp only [errsOfCalls, List.mem_flatMap]
  refine exists_congr fun cl => and_congr_right fun _ => ?_
  split
  · rename_i h; exact ⟨fun he => ⟨(List.mem_singleton.mp he).symm, by simpa using h⟩, fun he => List.mem_singleton.mpr he.1.symm⟩
  · rename_i h; exact ⟨fun he => (nomatch he), fun he => absurd (by simpa using he.2) h⟩

theorem mem_foundOfCalls {c : Cfg} {cs : List Call} {e : Nat} :
    e ∈ foundOfCalls c cs ↔ ∃ cl ∈ cs, cl.ext = e ∧ cl.opened = true ∧ (c.extract cl.ext cl.path).isEmpty = false := by
  simp only [foundOfCalls, List.mem_flatMap]
  refine exists_congr fun cl => and_congr_right fun _ => ?_
  split
  · rename_i h; exact ⟨fun he => ⟨(List.mem_singleton.mp he).symm, by simpa using h⟩, fun he => List.mem_singleton.mpr he.1.symm⟩
  · rename_i h; exact ⟨fun he => (nomatch he), fun he => absurd (by simpa using he.2) h⟩

theorem pkgsOfCalls_filter (c : Cfg) (e0 : Nat) (p0 : Path) (cs : List Call) :
    (pkgsOfCalls c cs).filter (fun k => !(k.ext = e0 && k.loc = p0))
      = pkgsOfCalls c (cs.filter fun cl => !(cl.ext = e0 && cl.path = p0)) := by
  induction cs with
  | nil => rfl
  | cons cl cs ih =>
    have hcons : ∀ l, pkgsOfCalls c (cl :: l) = pkgsOfCalls c [cl] ++ pkgsOfCalls c l := pkgsOfCalls_append c [cl]
    have h1 : (pkgsOfCalls c [cl]).filter (fun k => !(k.ext = e0 && k.loc = p0)) =
        if !(cl.ext = e0 && cl.path = p0) then pkgsOfCalls c [cl] else [] := by
      -- every package of the attempt carries the attempt's extractor and file
      rw [(booksOfCall c cl).1]
      cases cl.opened
      · cases (cl.ext = e0 && cl.path = p0 : Bool) <;> rfl
      · cases h : (cl.ext = e0 && cl.path = p0 : Bool)
        · simp only [if_true, Bool.not_false, List.filter_map, Function.comp_def, h]
          rw [List.filter_eq_self.mpr fun _ _ => rfl]
        · simp only [if_true, Bool.not_true, Bool.false_eq_true, if_false, List.filter_map, Function.comp_def, h]
          rw [List.filter_eq_nil_iff.mpr fun _ _ => Bool.false_ne_true]
          rfl
    rw [hcons, List.filter_append, ih, h1, List.filter_cons]
    split
    · exact (hcons _).symm
    · rfl
theorem isEmpty_parts (o : ExtractOut) (h : o.isEmpty = true) : o.pkgs = [] ∧ o.finds = [] := by
  unfold ExtractOut.isEmpty at h
  simp only [Bool.and_eq_true, List.isEmpty_iff] at h
  exact ⟨h.1.1, h.2⟩

theorem unopened_spec (c : Cfg) (s : St) (e : Nat) (p : Path) (sz : Nat) :
    let cl : Call := ⟨e, p, sz, false⟩
    let s' : St := { s with errs := s.errs ++ [e], calls := s.calls ++ [cl] }
    abs s' = aBlock c (abs s) [cl] ∧ SameStack s s' ∧ Booked c s s' [cl] := by
  intro cl s'
  obtain ⟨h1, h2, h3, h4⟩ := booksOfCall c cl
  refine ⟨?_, ⟨rfl, rfl⟩, ?_, ?_, ?_, ?_⟩
  · rw [aBlock_single]; simp [abs, s', cl]
  · rw [h1]; exact (List.append_nil _).symm
  · rw [h2]; rfl
  · rw [h3]; exact (List.append_nil _).symm
  · rw [h4]; exact (List.append_nil _).symm

/-- **What one extraction attempt does**, every configuration: on the machine's part of the state it is the block
step for the one attempt (logged; counted and possibly cancelling when `Extract` runs), the stacks are untouched,
it panics exactly when `Extract` runs and panics, and otherwise the books receive what the attempt brought. -/
theorem runExtractor_spec (c : Cfg) (f : Faults) (s : St) (e : Nat) (p : Path) (sz : Nat) :
    abs (runExtractor c f s e p sz).1 = aBlock c (abs s) [attempt f p sz e] ∧
    SameStack s (runExtractor c f s e p sz).1 ∧
    (runExtractor c f s e p sz).2 = ((attempt f p sz e).opened && (c.extract e p).panics) ∧
    ((runExtractor c f s e p sz).2 = false → Booked c s (runExtractor c f s e p sz).1 [attempt f p sz e]) := by
  have hu := unopened_spec c s e p sz
  unfold runExtractor
  cases h1 : f.openFail p
  · cases h2 : f.fileStatFail p
    · rw [if_neg Bool.false_ne_true, if_neg Bool.false_ne_true,
        show attempt f p sz e = ⟨e, p, sz, true⟩ by simp [attempt, h1, h2]]
      -- `Extract` runs; the state is followed through the function stage by stage, each stage then forgotten
      extract_lets s1 s2 out s3
      obtain ⟨k1, k2, k3, k4⟩ := booksOfCall c ⟨e, p, sz, true⟩
      have e2 : abs s2 = aBlock c (abs s) [⟨e, p, sz, true⟩] ∧ SameStack s s2 ∧
          s2.errs = s.errs ∧ s2.found = s.found ∧ s2.pkgs = s.pkgs ∧ s2.finds = s.finds := by
        rw [aBlock_single]
        by_cases hc : c.cancelAt = some (s.extracts + 1) <;>
          simp [s2, s1, hc, abs, SameStack]
      clear_value s2
      have e3 : abs s3 = abs s2 ∧ SameStack s2 s3 ∧ s3.errs = s2.errs ++ errsOfCalls c [⟨e, p, sz, true⟩] ∧
          s3.found = s2.found ∧ s3.pkgs = s2.pkgs ∧ s3.finds = s2.finds := by
        rw [k2]
        cases he : out.err <;> simp [s3, he, abs, SameStack, out]
      clear_value s3
      obtain ⟨a2, t2, be2, bf2, bp2, bn2⟩ := e2
      obtain ⟨a3, t3, be3, bf3, bp3, bn3⟩ := e3
      cases hp : out.panics
      · rw [if_neg Bool.false_ne_true]
        have e4 : ∀ r : St × Bool, r = (if out.isEmpty = true then (s3, false) else
              ({ s3 with found := s3.found ++ [e], pkgs := s3.pkgs ++ out.pkgs.map fun i => ⟨i, e, p⟩,
                         finds := s3.finds ++ out.finds.map fun i => ⟨i, e, p⟩ }, false)) →
            r.2 = false ∧ abs r.1 = abs s3 ∧ SameStack s3 r.1 ∧ r.1.errs = s3.errs ∧
            r.1.found = s3.found ++ foundOfCalls c [⟨e, p, sz, true⟩] ∧
            r.1.pkgs = s3.pkgs ++ pkgsOfCalls c [⟨e, p, sz, true⟩] ∧
            r.1.finds = s3.finds ++ findsOfCalls c [⟨e, p, sz, true⟩] := by
          intro r hr
          rw [k1, k3, k4]
          cases hi : out.isEmpty
          · rw [hi, if_neg Bool.false_ne_true] at hr
            subst hr
            simp [abs, SameStack, out]
          · rw [hi, if_pos rfl] at hr
            subst hr
            have := isEmpty_parts _ hi
            simp [SameStack, out, this]
        obtain ⟨r2, a4, t4, be4, bf4, bp4, bn4⟩ := e4 _ rfl
        exact ⟨a4.trans (a3.trans a2), t2.trans (t3.trans t4), r2,
          fun _ => ⟨by rw [bp4, bp3, bp2], by rw [be4, be3, be2], by rw [bf4, bf3, bf2], by rw [bn4, bn3, bn2]⟩⟩
      · rw [if_pos rfl]
        exact ⟨a2, t2, rfl, fun h => by cases h⟩
    · rw [show attempt f p sz e = ⟨e, p, sz, false⟩ by simp [attempt, h1, h2]]
      exact ⟨hu.1, hu.2.1, rfl, fun _ => hu.2.2⟩
  · rw [show attempt f p sz e = ⟨e, p, sz, false⟩ by simp [attempt, h1]]
    exact ⟨hu.1, hu.2.1, rfl, fun _ => hu.2.2⟩

def runAll (c : Cfg) (f : Faults) (p : Path) (sz : Nat) : St → List Nat → St × Option Err
  | s, [] => (s, none)
  | s, e :: rest =>
    let (s', pan) := runExtractor c f s e p sz
    if pan then (s', some .panic) else runAll c f p sz s' rest

theorem extractLoop_eq (c : Cfg) (f : Faults) (p : Path) (sz : Nat) : ∀ (rs : List Nat) (s : St) (chk : Bool),
    extractLoop c f p sz s rs chk =
      if rs.any (fun e => c.required e p) && decide (c.maxFileSize > 0) && !chk then
        if f.statFail p then (if c.errorOnFSErrors then (s, some .fs) else (s, none))
        else if sz > c.maxFileSize then (s, none)
        else runAll c f p sz s (rs.filter fun e => c.required e p)
      else runAll c f p sz s (rs.filter fun e => c.required e p)
  | [], s, chk => by simp [extractLoop, runAll]
  | e :: rest, s, chk => by
    unfold extractLoop
    cases hreq : c.required e p
    · rw [if_neg Bool.false_ne_true, extractLoop_eq c f p sz rest s chk]
      simp [hreq]
    · rw [if_pos rfl, List.filter_cons_of_pos (p := fun e => c.required e p) hreq]
      simp only [List.any_cons, hreq, Bool.true_or, Bool.true_and, runAll]
      have hrest : ∀ s', extractLoop c f p sz s' rest true = runAll c f p sz s' (rest.filter fun e => c.required e p) := by
        intro s'; rw [extractLoop_eq c f p sz rest s' true]; simp
      cases hcond : (decide (c.maxFileSize > 0) && !chk)
      · rw [if_neg Bool.false_ne_true, if_neg Bool.false_ne_true]
        have : ∀ s', extractLoop c f p sz s' rest chk = runAll c f p sz s' (rest.filter fun e => c.required e p) := by
          intro s'; rw [extractLoop_eq c f p sz rest s' chk]
          rw [Bool.and_assoc, hcond]; simp
        simp only [this]
      · rw [if_pos rfl, if_pos rfl]
        simp only [hrest]

theorem runAll_spec (c : Cfg) (f : Faults) (p : Path) (sz : Nat) : ∀ (es : List Nat) (s : St), ∃ cs,
    cs <+: es.map (attempt f p sz) ∧
    abs (runAll c f p sz s es).1 = aBlock c (abs s) cs ∧ SameStack s (runAll c f p sz s es).1 ∧
    (((runAll c f p sz s es).2 = none ∧ cs = es.map (attempt f p sz) ∧ Booked c s (runAll c f p sz s es).1 cs) ∨
     ((runAll c f p sz s es).2 = some .panic ∧ ∃ e ∈ es, (c.extract e p).panics = true))
  | [], s => ⟨[], List.prefix_refl _, (aBlock_nil c _).symm, SameStack.refl s,
      Or.inl ⟨rfl, rfl, Booked.same rfl rfl rfl rfl⟩⟩
  | e :: rest, s => by
    obtain ⟨ha, ht, hp, hb⟩ := runExtractor_spec c f s e p sz
    unfold runAll
    generalize runExtractor c f s e p sz = r at ha ht hp hb ⊢
    obtain ⟨s1, pan⟩ := r
    cases pan <;> simp only [Bool.false_eq_true, if_false, if_true] at ha ht hp hb ⊢
    · obtain ⟨cs, h1, h2, h3, h4⟩ := runAll_spec c f p sz rest s1
      refine ⟨attempt f p sz e :: cs, (List.prefix_cons_inj _).mpr h1, ?_, ht.trans h3, ?_⟩
      · rw [h2, ha, aBlock_append]; rfl
      · rcases h4 with ⟨g1, g2, g3⟩ | ⟨g1, x, hx, g2⟩
        · exact Or.inl ⟨g1, by rw [g2]; rfl, (hb trivial).trans g3⟩
        · exact Or.inr ⟨g1, x, List.mem_cons_of_mem _ hx, g2⟩
    · exact ⟨[attempt f p sz e], (List.prefix_cons_inj _).mpr List.nil_prefix, ha, ht,
        Or.inr ⟨trivial, e, List.mem_cons_self, (Bool.and_eq_true_iff.mp hp.symm).2⟩⟩

theorem gi_guard_congr (c : Cfg) (A B : List GiEntry) (t : List String) (d : Bool)
    (h : c.useGitignore = true → A = B) :
    (c.useGitignore && stackMatch c A t d) = (c.useGitignore && stackMatch c B t d) := by
  cases hu : c.useGitignore with
  | false => rfl
  | true => rw [h hu]

def mustExts (c : Cfg) (f : Faults) (G : List GiEntry) (r : FileRec) : List Nat :=
  if reached c f G r && sizeOk c f r then (List.range c.nExt).filter fun e => c.required e r.path else []

theorem mustOne_eq (c : Cfg) (f : Faults) (G : List GiEntry) (r : FileRec) :
    mustOne c f G r = (mustExts c f G r).map (attempt f r.path r.size) := by
  unfold mustOne mustExts
  split <;> rfl

/-- **`handleLeaf` in terms of the specification**, every configuration: under the patterns `G`, a file at which
the walk is told about a filesystem failure (the size stat some extractor needs fails) is left alone — the failure is
returned when errors are fatal —; on any other file the extractors `mustOne` lists take their turns. -/
theorem handleLeaf_eq (c : Cfg) (f : Faults) (G : List GiEntry) (s : St) (p : Path) (k : Kind) (sz : Nat)
    (hg : c.useGitignore = true → s.gis = G) :
    handleLeaf c f s p k sz =
      if traversalFault c f G p (.file k sz) then (if c.errorOnFSErrors then (s, some .fs) else (s, none))
      else runAll c f p sz s (mustExts c f G ⟨p, k, sz, []⟩) := by
  unfold handleLeaf traversalFault mustExts reached fileEligible sizeOk
  rw [gi_guard_congr c s.gis G (tokens p) false hg, extractLoop_eq]
  simp only [List.length_nil, List.range_zero, List.all_nil, List.map_nil, List.append_nil, Bool.true_and, Bool.not_false,
    Bool.and_true]
  cases (k = .special || (k = .symlink && !c.readSymlinks))
  · cases (c.useGitignore && stackMatch c G (tokens p) false)
    · cases hany : (List.range c.nExt).any fun e => c.required e p
      · have : ((List.range c.nExt).filter fun e => c.required e p) = [] :=
          List.filter_eq_nil_iff.mpr (by simpa using hany)
        simp [this, runAll]
      · by_cases hm : c.maxFileSize > 0
        · cases hst : f.statFail p
          · by_cases hz : sz > c.maxFileSize <;> simp [hm, hz, runAll]
          · simp [hm]
        · simp [hm]
    · simp [runAll]
  · simp [runAll]

theorem mem_mustOne {c : Cfg} {f : Faults} {G : List GiEntry} {r : FileRec} {cl : Call} (h : cl ∈ mustOne c f G r) :
    cl.path = r.path ∧ cl.size = r.size ∧ c.required cl.ext r.path = true ∧
      (c.maxFileSize > 0 → r.size ≤ c.maxFileSize) := by
  unfold mustOne at h
  split at h
  · rename_i hc
    simp only [Bool.and_eq_true] at hc
    simp only [List.mem_map, List.mem_filter] at h
    obtain ⟨e, ⟨_, hreq⟩, rfl⟩ := h
    refine ⟨rfl, rfl, hreq, fun hm => ?_⟩
    have := hc.2
    simp only [sizeOk, hm, decide_true, Bool.not_true, Bool.false_or, Bool.and_eq_true, Bool.not_eq_true',
      decide_eq_false_iff_not] at this
    omega
  · cases h

theorem mustOne_of_fault {c : Cfg} {f : Faults} {G : List GiEntry} {p : Path} {k : Kind} {sz : Nat}
    (h : traversalFault c f G p (.file k sz) = true) : mustOne c f G ⟨p, k, sz, []⟩ = [] := by
  unfold traversalFault at h
  simp only [Bool.and_eq_true, decide_eq_true_eq] at h
  unfold mustOne sizeOk
  simp [h.1.2, h.2]

/-- **What `handleFile` does on a file**, every configuration: attempts from the list `mustOne` gives for the file
as the start of its own walk under the patterns `G` — all of them, unless an extractor panics —, taken by the machine's
part of the state as one block; the stacks are untouched; the books receive what the attempts brought; the only
error besides an extractor's panic is the filesystem failure the walk is told about here, when errors are fatal. -/
theorem handleLeaf_spec (c : Cfg) (f : Faults) (G : List GiEntry) (s : St) (p : Path) (k : Kind) (sz : Nat)
    (hg : c.useGitignore = true → s.gis = G) : ∃ cs, cs <+: mustOne c f G ⟨p, k, sz, []⟩ ∧
    abs (handleLeaf c f s p k sz).1 = aBlock c (abs s) cs ∧ SameStack s (handleLeaf c f s p k sz).1 ∧
    (((handleLeaf c f s p k sz).2 =
          (if c.errorOnFSErrors && traversalFault c f G p (.file k sz) then some .fs else none) ∧
        cs = mustOne c f G ⟨p, k, sz, []⟩ ∧ Booked c s (handleLeaf c f s p k sz).1 cs) ∨
     ((handleLeaf c f s p k sz).2 = some .panic ∧ ∃ e, (c.extract e p).panics = true)) := by
  rw [handleLeaf_eq c f G s p k sz hg]
  cases htf : traversalFault c f G p (.file k sz)
  · rw [if_neg Bool.false_ne_true, mustOne_eq, Bool.and_false, if_neg Bool.false_ne_true]
    obtain ⟨cs, h1, h2, h3, h4⟩ := runAll_spec c f p sz (mustExts c f G ⟨p, k, sz, []⟩) s
    refine ⟨cs, h1, h2, h3, ?_⟩
    rcases h4 with h4 | ⟨g1, e, _, g2⟩
    · exact Or.inl h4
    · exact Or.inr ⟨g1, e, g2⟩
  · rw [if_pos rfl, mustOne_of_fault htf, Bool.and_true]
    cases c.errorOnFSErrors <;>
      exact ⟨[], List.prefix_refl _, (aBlock_nil c _).symm, SameStack.refl s,
        Or.inl ⟨rfl, rfl, Booked.same rfl rfl rfl rfl⟩⟩

theorem shouldSkipDir_eq_excluded (c : Cfg) (gis : List GiEntry) (p : Path) :
    shouldSkipDir c gis p = excludedDir c gis p := by
  have h : ∀ a x : Bool, (if a = true then true else x) = (a || x) := by intro a x; cases a <;> rfl
  unfold shouldSkipDir excludedDir
  simp only [h, Bool.or_false, Bool.or_assoc]
  rfl

theorem stackMatch_append (c : Cfg) (g1 g2 : List GiEntry) (t : List String) (d : Bool) :
    stackMatch c (g1 ++ g2) t d = (stackMatch c g1 t d || stackMatch c g2 t d) := List.any_append

theorem excluded_congr (c : Cfg) (A B : List GiEntry) (p : Path) (h : c.useGitignore = true → A = B) :
    excludedDir c A p = excludedDir c B p := by
  cases hu : c.useGitignore with
  | false => unfold excludedDir; rw [hu]; rfl
  | true => rw [h hu]

theorem excluded_push_none (c : Cfg) (gis : List GiEntry) (p : Path) :
    excludedDir c (gis ++ [none]) p = excludedDir c gis p := by
  unfold excludedDir
  rw [stackMatch_append]
  simp [stackMatch]

/-- go-git's domain rule makes a directory's own patterns inert on the directory itself: what the directory
pushes does not change the verdict on it -/
theorem excluded_push_own (c : Cfg) (hd : DomainLaw c.giMatch) (gis : List GiEntry) (f : Faults) (d : DirInfo) :
    excludedDir c (gis ++ [giEntryOf f d]) d.path = excludedDir c gis d.path := by
  unfold giEntryOf
  split
  · exact excluded_push_none c gis d.path
  · cases hgi : d.gi with
    | none => exact excluded_push_none c gis d.path
    | some ps =>
      unfold excludedDir
      by_cases hp : d.path = []
      · simp [hp]
      · have : c.giMatch ps (domainOf d.path) (tokens d.path) true = false :=
          hd _ _ _ _ (by simp [domainOf, tokens, hp])
        rw [stackMatch_append]
        simp [stackMatch, this]

def pushed (s : St) (p : Path) (x : GiEntry) : St := { s with gis := s.gis ++ [x], giDirs := s.giDirs ++ [p] }

/-- **`pushGi` in terms of the specification**, every configuration: with gitignore handling on, the directory
pushes its `giEntryOf` (nothing when a skip rule excludes it); an unreadable `.gitignore` of a directory that is
entered is the one failure, returned before anything is pushed when errors are fatal. -/
theorem pushGi_eq (c : Cfg) (f : Faults) (s : St) (p : Path) (gi : Option PatSet) :
    pushGi c f s p gi =
      if c.useGitignore then
        if excludedDir c s.gis p then (pushed s p none, none)
        else if f.openFail (p ++ [".gitignore"]) && c.errorOnFSErrors then (s, some .fs)
        else (pushed s p (giEntryOf f ⟨p, gi, 0⟩), none)
      else (s, none) := by
  unfold pushGi giEntryOf pushed
  rw [shouldSkipDir_eq_excluded]
  cases c.useGitignore <;> cases excludedDir c s.gis p <;> cases f.openFail (p ++ [".gitignore"]) <;>
    cases c.errorOnFSErrors <;> rfl

theorem pushGi_frame (c : Cfg) (f : Faults) (s : St) (p : Path) (gi : Option PatSet) :
    ∃ g d, (pushGi c f s p gi).1 = { s with gis := g, giDirs := d } := by
  rw [pushGi_eq]
  cases c.useGitignore <;> cases excludedDir c s.gis p <;>
    cases (f.openFail (p ++ [".gitignore"]) && c.errorOnFSErrors) <;> exact ⟨_, _, rfl⟩

theorem popOnExit_frame (c : Cfg) (s : St) (p : Path) (e : Err) :
    ∃ g d, (popOnExit c s p e).1 = { s with gis := g, giDirs := d } := by
  unfold popOnExit
  cases (c.useGitignore && s.giDirs.getLast? = some p) <;> cases s.gis.isEmpty <;> exact ⟨_, _, rfl⟩

theorem popOnExit_err (c : Cfg) (s : St) (p : Path) (e : Err) :
    (popOnExit c s p e).2 = e ∨ (popOnExit c s p e).2 = .panic := by
  unfold popOnExit
  cases (c.useGitignore && s.giDirs.getLast? = some p) <;> cases s.gis.isEmpty <;> simp

theorem popOnExit_nogi (c : Cfg) (hu : c.useGitignore = false) (s : St) (p : Path) (e : Err) :
    popOnExit c s p e = (s, e) := by
  unfold popOnExit; rw [hu]; rfl

theorem popOnExit_nopush (c : Cfg) (s : St) (p : Path) (e : Err) (h : ∀ d ∈ s.giDirs, d.length < p.length) :
    popOnExit c s p e = (s, e) := by
  have : s.giDirs.getLast? ≠ some p := fun hl => Nat.lt_irrefl _ (h p (List.mem_of_getLast? hl))
  unfold popOnExit
  simp [this]

/-- after a push by this very directory and a stack-neutral body, the pop restores both lists -/
theorem popOnExit_pushed (c : Cfg) (hu : c.useGitignore = true) (s0 s : St) (p : Path) (e : Err) (x : GiEntry)
    (h : SameStack (pushed s0 p x) s) : SameStack s0 (popOnExit c s p e).1 ∧ (popOnExit c s p e).2 = e := by
  unfold popOnExit SameStack
  simp [hu, h.1, h.2, pushed]

theorem pushGi_calls (c : Cfg) (f : Faults) (s : St) (p : Path) (gi : Option PatSet) :
    (pushGi c f s p gi).1.calls = s.calls := by
  obtain ⟨g, d, h⟩ := pushGi_frame c f s p gi
  rw [h]

theorem popOnExit_calls (c : Cfg) (s : St) (p : Path) (e : Err) : (popOnExit c s p e).1.calls = s.calls := by
  obtain ⟨g, d, h⟩ := popOnExit_frame c s p e
  rw [h]

theorem walkRequested_eq (c : Cfg) (f : Faults) (s : St) (root : Node) (p : Path) :
    walkRequested c f s root p =
      if f.statFail p then fserrCall c s else
      match lookup root p with
      | none => fserrCall c s
      | some (.file k sz) => walkNode c f s p (.file (statKind k) sz)
      | some (.dir gi es) =>
        if c.useGitignore && (parentGis f root p).2 && c.errorOnFSErrors then (s, .fs)
        else
          ({ (walkNode c f (if c.useGitignore then { s with gis := (parentGis f root p).1 } else s) p (.dir gi es)).1
              with gis := [] },
           (walkNode c f (if c.useGitignore then { s with gis := (parentGis f root p).1 } else s) p (.dir gi es)).2) := by
  unfold walkRequested walkFrom
  cases hs : f.statFail p
  · cases hl : lookup root p with
    | none => rfl
    | some n =>
      cases n with
      | file k sz => simp only [walkNode]
      | dir gi es => cases c.useGitignore <;> simp
  · rfl

theorem runRoot_eq (c : Cfg) (f : Faults) (s : St) (root : Node) :
    runRoot c f s root =
      if c.paths.isEmpty then
        (if f.statFail [] then fserrCall c { s with pkgs := [], errs := [], found := [] }
         else walkNode c f { s with pkgs := [], errs := [], found := [] } [] root)
      else walkPaths c f root { s with pkgs := [], errs := [], found := [] } c.paths := by
  unfold runRoot walkFrom
  cases root <;> rfl

end Scalibr.Walk
