/-
C16(c): the lockset condition of Model/Ticker.lean read off the two sides of a conflict.  `conflict a b` asks, for every
ordered pair of accesses, on which goroutine each runs; it only ever holds between an access of `tickerSide` and one of
`walkerSide`, and there it is `clash`.  Stated that way `conflictsGuarded` and `sharedFields` range over the few
ticker-side accesses instead of all pairs (and, for `sharedFields`, all fields), which is what the kernel evaluates for a
regenerated table.
-/
import Scalibr.Model.Ticker
namespace Scalibr.Ticker

def Table.tickerSide (t : Table) : List Access := t.accesses.filter fun a => t.onTicker a && !a.init
def Table.walkerSide (t : Table) : List Access := t.accesses.filter fun b => t.onWalker b && !b.init
def Access.clash (a b : Access) : Bool := a.field == b.field && (a.write || b.write)

theorem Table.conflict_iff (t : Table) {a b : Access} (ha : a ∈ t.accesses) (hb : b ∈ t.accesses) :
    t.conflict a b = true ↔ a ∈ t.tickerSide ∧ b ∈ t.walkerSide ∧ a.clash b = true := by
  simp only [conflict, Access.clash, tickerSide, walkerSide, List.mem_filter, ha, hb, true_and, Bool.and_eq_true,
    Bool.not_eq_true', and_assoc, and_left_comm, and_comm]

theorem Table.conflictsGuarded_eq (t : Table) : t.conflictsGuarded =
    t.tickerSide.all fun a => t.walkerSide.all fun b => !a.clash b || (a.guarded && b.guarded) := by
  rw [Bool.eq_iff_iff]
  simp only [conflictsGuarded, List.all_eq_true, Bool.or_eq_true, Bool.not_eq_true']
  constructor
  · intro h a ha b hb
    have ha' := (List.mem_filter.mp ha).1
    have hb' := (List.mem_filter.mp hb).1
    refine (h a ha' b hb').imp_left fun hn => ?_
    cases hc : a.clash b with
    | false => rfl
    | true => rw [(t.conflict_iff ha' hb').mpr ⟨ha, hb, hc⟩] at hn; cases hn
  · intro h a ha b hb
    cases hc : t.conflict a b with
    | false => exact Or.inl rfl
    | true =>
      obtain ⟨h1, h2, h3⟩ := (t.conflict_iff ha hb).mp hc
      exact (h a h1 b h2).imp_left fun hn => by rw [h3] at hn; cases hn

theorem Table.mem_sharedFields (t : Table) (f : Nat) : f ∈ t.sharedFields ↔
    f < t.nfields ∧ ∃ a ∈ t.tickerSide, a.field = f ∧ ∃ b ∈ t.walkerSide, a.clash b = true := by
  simp only [sharedFields, List.mem_filter, List.mem_range, List.any_eq_true, Bool.and_eq_true, beq_iff_eq]
  refine and_congr_right fun _ => ⟨?_, ?_⟩
  · rintro ⟨a, ha, b, hb, hf, hc⟩
    obtain ⟨h1, h2, h3⟩ := (t.conflict_iff ha hb).mp hc
    exact ⟨a, h1, hf, b, h2, h3⟩
  · rintro ⟨a, ha, hf, b, hb, hc⟩
    have ha' := (List.mem_filter.mp ha).1
    have hb' := (List.mem_filter.mp hb).1
    exact ⟨a, ha', b, hb', hf, (t.conflict_iff ha' hb').mpr ⟨ha, hb, hc⟩⟩

theorem Table.sharedFields_ne_nil (t : Table)
    (h : (t.tickerSide.any fun a => decide (a.field < t.nfields) && t.walkerSide.any a.clash) = true) :
    t.sharedFields ≠ [] := by
  simp only [List.any_eq_true, Bool.and_eq_true, decide_eq_true_eq] at h
  obtain ⟨a, ha, hf, b, hb, hc⟩ := h
  exact List.ne_nil_of_mem ((t.mem_sharedFields a.field).mpr ⟨hf, a, ha, rfl, b, hb, hc⟩)

end Scalibr.Ticker
