/-
C01, last sentence: explicitly requesting a sub-directory that a whole-tree scan reaches yields the
same extractions as the whole-tree scan restricted to that sub-directory.  A theorem about the
specification (`mustRequested` vs `mustRoot`), transferred to the engine by `run_spec`.
-/
import Scalibr.Proofs.WalkMore
namespace Scalibr.Walk

/-- position and node of the first entry called `s` (what `lookup` finds) -/
def findIdx : List (String × Node) → String → Option (Nat × Node)
  | [], _ => none
  | (t, n) :: rest, s => if t = s then some (0, n) else (findIdx rest s).map fun (i, m) => (i + 1, m)

/-- the directories on the way from `p` (where `n` sits) down along `q`, and the node reached -/
def chainOf (p : Path) : Node → Path → Option (List DirInfo × Node)
  | n, [] => some ([], n)
  | .dir gi es, s :: q =>
    match findIdx es s with
    | some (i, ch) => (chainOf (p ++ [s]) ch q).map fun (c, m) => (⟨p, gi, i⟩ :: c, m)
    | none => none
  | .file .., _ :: _ => none

theorem findIdx_find (es : List (String × Node)) (s : String) :
    (es.find? (·.1 = s)).map (·.2) = (findIdx es s).map (·.2) := by
  induction es with
  | nil => rfl
  | cons e rest ih =>
    obtain ⟨t, n⟩ := e
    simp only [List.find?, findIdx]
    by_cases h : t = s
    · simp [h]
    · simp only [h, decide_false, if_false]
      rw [ih]
      cases findIdx rest s <;> simp

theorem findIdx_mem {es : List (String × Node)} {s : String} {i : Nat} {ch : Node} (h : findIdx es s = some (i, ch)) :
    (s, ch) ∈ es := by
  induction es generalizing i with
  | nil => cases h
  | cons e rest ih =>
    obtain ⟨t, n⟩ := e
    simp only [findIdx] at h
    split at h
    · rename_i hts
      simp only [Option.some.injEq, Prod.mk.injEq] at h
      rw [← hts, h.2]; exact List.mem_cons_self
    · cases hfr : findIdx rest s with
      | none => rw [hfr] at h; cases h
      | some jc =>
        obtain ⟨j, c⟩ := jc
        rw [hfr] at h
        simp only [Option.map_some, Option.some.injEq, Prod.mk.injEq] at h
        obtain ⟨_, rfl⟩ := h
        exact List.mem_cons_of_mem _ (ih hfr)

theorem chainOf_induction {motive : Path → Node → Path → List DirInfo → Node → Prop}
    (nil : ∀ p n, motive p n [] [] n)
    (cons : ∀ p gi es s q i ch c' m, findIdx es s = some (i, ch) → chainOf (p ++ [s]) ch q = some (c', m) →
      motive (p ++ [s]) ch q c' m → motive p (.dir gi es) (s :: q) (⟨p, gi, i⟩ :: c') m) :
    ∀ (q p : Path) (n : Node) (chain : List DirInfo) (m : Node), chainOf p n q = some (chain, m) → motive p n q chain m
  | [], p, n, chain, m, h => by
    simp only [chainOf, Option.some.injEq, Prod.mk.injEq] at h
    obtain ⟨rfl, rfl⟩ := h
    exact nil p n
  | s :: q, p, .file k sz, chain, m, h => by simp [chainOf] at h
  | s :: q, p, .dir gi es, chain, m, h => by
    simp only [chainOf] at h
    cases hfi : findIdx es s with
    | none => rw [hfi] at h; cases h
    | some ic =>
      obtain ⟨i, ch⟩ := ic
      rw [hfi] at h
      simp only [] at h
      cases hc : chainOf (p ++ [s]) ch q with
      | none => rw [hc] at h; cases h
      | some cm =>
        obtain ⟨c', m'⟩ := cm
        rw [hc] at h
        simp only [Option.map_some, Option.some.injEq, Prod.mk.injEq] at h
        obtain ⟨rfl, rfl⟩ := h
        exact cons p gi es s q i ch c' m' hfi hc (chainOf_induction nil cons q (p ++ [s]) ch c' m' hc)

theorem lookup_chainOf (p : Path) : ∀ (q : Path) (n : Node), lookup n q = (chainOf p n q).map (·.2) := by
  intro q
  induction q generalizing p with
  | nil => intro n; simp [lookup, chainOf]
  | cons s q ih =>
    intro n
    cases n with
    | file k sz => simp [lookup, chainOf]
    | dir gi es =>
      simp only [lookup, chainOf]
      have hf := findIdx_find es s
      cases hfi : findIdx es s with
      | none =>
        rw [hfi] at hf
        simp only [Option.map_none, Option.map_eq_none_iff] at hf
        rw [hf]
        rfl
      | some ic =>
        obtain ⟨i, ch⟩ := ic
        rw [hfi] at hf
        simp only [Option.map_some] at hf
        cases hfd : es.find? (·.1 = s) with
        | none => rw [hfd] at hf; cases hf
        | some tc =>
          obtain ⟨t, c⟩ := tc
          rw [hfd] at hf
          simp only [Option.map_some, Option.some.injEq] at hf
          subst hf
          simp only []
          rw [ih (p ++ [s]) c]
          cases chainOf (p ++ [s]) c q <;> simp

def under (d x : Path) : Bool := d.isPrefixOf x

theorem under_of_take (d x : Path) : under d x = true ↔ d.length ≤ x.length ∧ x.take d.length = d := by
  unfold under
  rw [List.isPrefixOf_iff_prefix]
  constructor
  · intro h
    obtain ⟨t, rfl⟩ := h
    simp
  · rintro ⟨_, h2⟩
    refine ⟨x.drop d.length, ?_⟩
    have := List.take_append_drop d.length x
    rw [h2] at this
    exact this

theorem not_under_other (p : Path) (s t : String) (q : Path) (hne : t ≠ s) (x : Path)
    (h1 : (p ++ [t]).length ≤ x.length) (h2 : x.take (p ++ [t]).length = p ++ [t]) :
    under (p ++ s :: q) x = false := by
  cases hu : under (p ++ s :: q) x with
  | false => rfl
  | true =>
    rw [under_of_take] at hu
    obtain ⟨h3, h4⟩ := hu
    exfalso
    apply hne
    have e1 : x[p.length]? = some t := by
      have : (x.take (p ++ [t]).length)[p.length]? = (p ++ [t])[p.length]? := by rw [h2]
      simpa [List.getElem?_take] using this
    have e2 : x[p.length]? = some s := by
      have : (x.take (p ++ s :: q).length)[p.length]? = (p ++ s :: q)[p.length]? := by rw [h4]
      simpa [List.getElem?_take] using this
    rw [e1] at e2
    exact Option.some.inj e2

theorem filter_under_other (p : Path) (gi : Option PatSet) (anc : List DirInfo) (s : String) (q : Path) :
    ∀ (es : List (String × Node)) (k : Nat), s ∉ es.map (·.1) →
      (allFilesList p gi anc es k).filter (fun r => under (p ++ s :: q) r.path) = [] := by
  intro es
  induction es with
  | nil => intro k _; simp [allFilesList]
  | cons e rest ih =>
    intro k hs
    obtain ⟨t, n⟩ := e
    simp only [List.map_cons, List.mem_cons, not_or] at hs
    simp only [allFilesList, List.filter_append, ih (k+1) hs.2, List.append_nil]
    rw [List.filter_eq_nil_iff]
    intro r hr
    have ⟨h1, h2⟩ := allFiles_path (p ++ [t]) _ n r hr
    simp [not_under_other p s t q (fun h => hs.1 h.symm) r.path h1 h2]

theorem filter_under_entries (p : Path) (gi : Option PatSet) (anc : List DirInfo) (s : String) (q : Path) :
    ∀ (es : List (String × Node)) (k i : Nat) (ch : Node), (es.map (·.1)).Nodup → findIdx es s = some (i, ch) →
      (allFilesList p gi anc es k).filter (fun r => under (p ++ s :: q) r.path) =
      (allFiles (p ++ [s]) (anc ++ [⟨p, gi, k + i⟩]) ch).filter (fun r => under (p ++ s :: q) r.path) := by
  intro es
  induction es with
  | nil => intro k i ch _ h; simp [findIdx] at h
  | cons e rest ih =>
    intro k i ch hnd hf
    obtain ⟨t, n⟩ := e
    simp only [List.map_cons, List.nodup_cons] at hnd
    simp only [findIdx] at hf
    simp only [allFilesList, List.filter_append]
    by_cases hts : t = s
    · subst hts
      simp only [if_true, Option.some.injEq, Prod.mk.injEq] at hf
      obtain ⟨rfl, rfl⟩ := hf
      rw [filter_under_other p gi anc t q rest (k+1) hnd.1]
      simp
    · simp only [hts, if_false] at hf
      cases hfr : findIdx rest s with
      | none => rw [hfr] at hf; cases hf
      | some jc =>
        obtain ⟨j, c⟩ := jc
        rw [hfr] at hf
        simp only [Option.map_some, Option.some.injEq, Prod.mk.injEq] at hf
        obtain ⟨rfl, rfl⟩ := hf
        have h0 : (allFiles (p ++ [t]) (anc ++ [⟨p, gi, k⟩]) n).filter (fun r => under (p ++ s :: q) r.path) = [] := by
          rw [List.filter_eq_nil_iff]
          intro r hr
          have ⟨h1, h2⟩ := allFiles_path (p ++ [t]) _ n r hr
          simp [not_under_other p s t q hts r.path h1 h2]
        rw [h0, ih (k+1) j c hnd.2 hfr]
        simp [Nat.add_assoc, Nat.add_comm 1 j]

theorem filter_under_self (p : Path) (anc : List DirInfo) (n : Node) :
    (allFiles p anc n).filter (fun r => under p r.path) = allFiles p anc n := by
  rw [List.filter_eq_self]
  intro r hr
  have ⟨h1, h2⟩ := allFiles_path p anc n r hr
  exact (under_of_take p r.path).mpr ⟨h1, h2⟩

/-- the files of a tree that lie under `p ++ q` are exactly the files of the sub-tree found there,
enumerated with the chain of directories leading to it -/
theorem filter_under_chain (q p : Path) (n : Node) (chain : List DirInfo) (m : Node)
    (h : chainOf p n q = some (chain, m)) : ∀ anc : List DirInfo, DistinctNames n →
    (allFiles p anc n).filter (fun r => under (p ++ q) r.path) = allFiles (p ++ q) (anc ++ chain) m := by
  refine chainOf_induction (motive := fun p n q chain m => ∀ anc : List DirInfo, DistinctNames n →
    (allFiles p anc n).filter (fun r => under (p ++ q) r.path) = allFiles (p ++ q) (anc ++ chain) m)
    (fun p n anc _ => by simpa using filter_under_self p anc n) ?_ q p n chain m h
  intro p gi es s q i ch c' m hfi _ ih anc hd
  unfold DistinctNames at hd
  simp only [allFiles]
  rw [filter_under_entries p gi anc s q es 0 i ch hd.1 hfi]
  have := ih (anc ++ [⟨p, gi, 0 + i⟩]) (DistinctNamesL_mem hd.2 (findIdx_mem hfi))
  simpa only [List.append_assoc, List.singleton_append, Nat.zero_add] using this


def prep (A : List DirInfo) (r : FileRec) : FileRec := { r with dirs := A ++ r.dirs }

mutual
theorem allFiles_prep (A : List DirInfo) (p : Path) : ∀ (n : Node) (anc : List DirInfo),
    allFiles p (A ++ anc) n = (allFiles p anc n).map (prep A)
  | .file k sz, anc => by simp [allFiles, prep]
  | .dir gi es, anc => by simp only [allFiles]; exact allFilesList_prep A p gi es anc 0
theorem allFilesList_prep (A : List DirInfo) (p : Path) (gi : Option PatSet) :
    ∀ (es : List (String × Node)) (anc : List DirInfo) (i : Nat),
      allFilesList p gi (A ++ anc) es i = (allFilesList p gi anc es i).map (prep A)
  | [], _, _ => by simp [allFilesList]
  | (s, n) :: rest, anc, i => by
    simp only [allFilesList, List.map_append]
    rw [List.append_assoc, allFiles_prep A (p ++ [s]) n (anc ++ [(⟨p, gi, i⟩ : DirInfo)]), allFilesList_prep A p gi rest anc (i+1)]
end

theorem lookup_dir_cons (gi : Option PatSet) (es : List (String × Node)) (s : String) (r : Path) (i : Nat) (ch : Node)
    (h : findIdx es s = some (i, ch)) : lookup (.dir gi es) (s :: r) = lookup ch r := by
  simp only [lookup]
  have hf := findIdx_find es s
  rw [h] at hf
  cases hfd : es.find? (·.1 = s) with
  | none => rw [hfd] at hf; cases hf
  | some tc =>
    obtain ⟨t, c⟩ := tc
    rw [hfd] at hf
    simp only [Option.map_some, Option.some.injEq] at hf
    subst hf; rfl

/-- gitignore context of a directory reached along `q` from node `n` at `p`, as `ParseParentGitignores` computes it -/
def giOfDirRel (f : Faults) (p : Path) (n : Node) (q : Path) : GiEntry :=
  if f.openFail ((p ++ q) ++ [".gitignore"]) then none else
  match lookup n q with
  | some (.dir (some ps) _) => some (domainOf (p ++ q), ps)
  | _ => none

theorem chain_gis (f : Faults) (q p : Path) (n : Node) (chain : List DirInfo) (m : Node)
    (h : chainOf p n q = some (chain, m)) :
    chain.map (giEntryOf f) = (List.range q.length).map fun k => giOfDirRel f p n (q.take k) := by
  refine chainOf_induction (motive := fun p n q chain _ =>
    chain.map (giEntryOf f) = (List.range q.length).map fun k => giOfDirRel f p n (q.take k))
    (fun _ _ => rfl) ?_ q p n chain m h
  intro p gi es s q i ch c' m hfi _ ih
  simp only [List.map_cons, List.length_cons, List.range_succ_eq_map, List.map_map]
  congr 1
  · simp [giOfDirRel, giEntryOf, lookup, domainOf]
    cases gi <;> simp
  · rw [ih]
    apply List.map_congr_left
    intro k _
    simp only [Function.comp, List.take_succ_cons, giOfDirRel]
    rw [lookup_dir_cons gi es s (q.take k) i ch hfi]
    simp [List.append_assoc]

theorem parentGis_chain (f : Faults) (root : Node) (d : Path) (chain : List DirInfo) (m : Node)
    (h : chainOf [] root d = some (chain, m)) : (parentGis f root d).1 = chain.map (giEntryOf f) := by
  rw [chain_gis f d [] root chain m h]
  simp only [parentGis, properPrefixes, List.map_map]
  apply List.map_congr_left
  intro k _
  simp only [giOfDir, giOfDirRel, domainOf, List.nil_append, Function.comp]
  split
  · rfl
  · cases hl : lookup root (List.take k d) with
    | none => rfl
    | some n =>
      cases n with
      | file kd sz => rfl
      | dir gi es => cases gi <;> rfl

theorem chain_length : ∀ (q : Path) (p : Path) (n : Node) (chain : List DirInfo) (m : Node),
    chainOf p n q = some (chain, m) → chain.length = q.length :=
  chainOf_induction (motive := fun _ _ q chain _ => chain.length = q.length) (fun _ _ => rfl)
    (fun _ _ _ _ _ _ _ _ _ _ _ ih => by simp [ih])

theorem dirPasses_prefix (c : Cfg) (f : Faults) (above : List GiEntry) (A D : List DirInfo) (i : Nat) (hi : i < A.length) :
    dirPasses c f above (A ++ D) i = dirPasses c f above A i := by
  unfold dirPasses
  rw [List.getElem?_append_left hi, List.take_append_of_le_length (Nat.le_of_lt hi)]

/-- … and past the prefix it is `dirPasses` of the remainder, with the prefix's patterns moved into the context.
`c'` may differ from `c` in the requested paths only (irrelevant without the sub-directory cut-off). -/
theorem dirPasses_shift (c c' : Cfg) (hsame : ∀ gis d, excludedDir c gis d = excludedDir c' gis d)
    (f : Faults) (A D : List DirInfo) (j : Nat) :
    dirPasses c f [] (A ++ D) (A.length + j) = dirPasses c' f (A.map (giEntryOf f)) D j := by
  unfold dirPasses
  rw [List.getElem?_append_right (Nat.le_add_right _ _), Nat.add_sub_cancel_left]
  cases D[j]? with
  | none => rfl
  | some dd =>
    simp only []
    rw [List.take_append, List.take_of_length_le (Nat.le_add_right _ _), Nat.add_sub_cancel_left, hsame]
    simp [List.map_append]


theorem excluded_paths_irrelevant (c : Cfg) (hisd : c.ignoreSubDirs = false) (ps : List Path) (gis : List GiEntry) (d : Path) :
    excludedDir c gis d = excludedDir { c with paths := ps } gis d := by
  unfold excludedDir stackMatch; simp [hisd]

/-- a file seen from the scan root through the chain `A` of passing directories owes what it owes when
the walk starts below `A` with `A`'s patterns as context -/
theorem mustOne_prep (c : Cfg) (hisd : c.ignoreSubDirs = false) (ps : List Path) (f : Faults) (A : List DirInfo)
    (hA : ∀ i, i < A.length → dirPasses c f [] A i = true) (r : FileRec) :
    mustOne c f [] (prep A r) = mustOne { c with paths := ps } f (A.map (giEntryOf f)) r := by
  have hreach : reached c f [] (prep A r) = reached { c with paths := ps } f (A.map (giEntryOf f)) r := by
    unfold reached
    congr 1
    · simp only [prep, List.length_append]
      rw [Lists.all_range_add]
      have h1 : (List.range A.length).all (dirPasses c f [] (A ++ r.dirs)) = true := by
        rw [List.all_eq_true]
        intro i hi
        rw [dirPasses_prefix c f [] A r.dirs i (List.mem_range.mp hi)]
        exact hA i (List.mem_range.mp hi)
      rw [h1, Bool.true_and]
      congr 1
      funext j
      exact dirPasses_shift c { c with paths := ps } (excluded_paths_irrelevant c hisd ps) f A r.dirs j
    · unfold fileEligible
      simp only [prep, List.nil_append, List.map_append]
      rfl
  unfold mustOne
  rw [hreach]
  rfl

theorem mustOne_above_irrelevant (c : Cfg) (hu : c.useGitignore = false) (f : Faults) (A B : List GiEntry) (r : FileRec) :
    mustOne c f A r = mustOne c f B r := by
  have hd : ∀ i, dirPasses c f A r.dirs i = dirPasses c f B r.dirs i := by
    intro i
    unfold dirPasses excludedDir
    cases r.dirs[i]? <;> simp [hu]
  unfold mustOne reached fileEligible
  simp only [hu, Bool.false_and, Bool.not_false, Bool.and_true]
  have : (List.range r.dirs.length).all (dirPasses c f A r.dirs) = (List.range r.dirs.length).all (dirPasses c f B r.dirs) := by
    congr 1; funext i; exact hd i
  rw [this]

theorem filter_flatMap_mustOne (c : Cfg) (f : Faults) (above : List GiEntry) (d : Path) (l : List FileRec) :
    (l.flatMap (mustOne c f above)).filter (fun cl => under d cl.path) =
      (l.filter fun r => under d r.path).flatMap (mustOne c f above) := by
  induction l with
  | nil => rfl
  | cons r rest ih =>
    simp only [List.flatMap_cons, List.filter_append, ih, List.filter_cons]
    have hp : ∀ cl ∈ mustOne c f above r, cl.path = r.path := fun cl h => (mem_mustOne h).1
    by_cases hu : under d r.path = true
    · simp only [hu, if_true, List.flatMap_cons]
      congr 1
      rw [List.filter_eq_self]
      intro cl hcl; rw [hp cl hcl]; exact hu
    · simp only [hu, Bool.false_eq_true, if_false]
      have : (mustOne c f above r).filter (fun cl => under d cl.path) = [] := by
        rw [List.filter_eq_nil_iff]
        intro cl hcl; rw [hp cl hcl]; exact hu
      rw [this]; rfl

/-- **Sub-directory equivalence.** On a tree with distinct sibling names, for a whole-tree configuration
without the sub-directory cut-off: if the whole-tree scan reaches directory `d` (every directory above
`d` lets the walk through), then requesting `d` explicitly owes exactly the whole-tree scan's attempts
that lie under `d`, in the same order. -/
theorem mustRequested_subdir (c : Cfg) (hp : c.paths = []) (hisd : c.ignoreSubDirs = false) (f : Faults)
    (root : Node) (hdn : DistinctNames root) (d : Path) (gi : Option PatSet) (es : List (String × Node))
    (chain : List DirInfo) (hch : chainOf [] root d = some (chain, .dir gi es))
    (hreach : ∀ i, i < chain.length → dirPasses c f [] chain i = true)
    (hs0 : f.statFail [] = false) (hsd : f.statFail d = false) :
    mustRequested { c with paths := [d] } f root d = (mustRoot c f root).filter (fun cl => under d cl.path) := by
  have hl : lookup root d = some (.dir gi es) := by
    rw [lookup_chainOf [] d root, hch]; rfl
  -- right-hand side
  have hR : (mustRoot c f root).filter (fun cl => under d cl.path)
      = (allFiles d [] (.dir gi es)).flatMap fun r => mustOne c f [] (prep chain r) := by
    unfold mustRoot mustFrom
    simp only [hp, List.isEmpty_nil, if_true, hs0, Bool.false_eq_true, if_false]
    rw [filter_flatMap_mustOne]
    have := filter_under_chain d [] root chain (.dir gi es) hch [] hdn
    simp only [List.nil_append] at this
    rw [this]
    have h2 := allFiles_prep chain d (.dir gi es) []
    simp only [List.append_nil] at h2
    rw [h2, List.flatMap_map]
  rw [hR]
  unfold mustRequested mustFrom
  simp only [hsd, Bool.false_eq_true, if_false, hl]
  apply Lists.flatMap_congr
  intro r _
  rw [mustOne_prep c hisd [d] f chain hreach r]
  cases hu : c.useGitignore with
  | true =>
    simp only [if_true]
    rw [parentGis_chain f root d chain _ hch]
  | false =>
    simp only [Bool.false_eq_true, if_false]
    exact (mustOne_above_irrelevant _ rfl f (chain.map (giEntryOf f)) [] r).symm

end Scalibr.Walk
