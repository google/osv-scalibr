/-
C12, the decision logic of `Model/Pipeline`.  `choosePatches` tests each patch against everything recorded from the
patches taken before it (`Avoids`), hence the result is a sublist of the candidates and pairwise compatible.
`ConstructPatches` reports the set differences of the vulnerabilities and, for requirements with unique keys, exactly the
updates that give the new manifest when substituted into the old one.
-/
import Scalibr.Spec.Pipeline
import Scalibr.Proofs.Lists
namespace Scalibr.Pipeline
open Scalibr.Lists

def Avoids (p : Patch) (pc : List (Nat × Nat)) (fv : List Nat) (ni : Bool) : Prop :=
  (∀ u ∈ p.updates, (u.name, u.frm) ∉ pc) ∧ (∀ v ∈ p.fixed, v ∉ fv) ∧ (ni = true → p.introduced = [])

theorem avoids_of_tests (p : Patch) (pc : List (Nat × Nat)) (fv : List Nat) (ni : Bool)
    (h1 : ¬ p.updates.any (fun u => pc.contains (u.name, u.frm)) = true)
    (h2 : ¬ p.fixed.any (fun v => fv.contains v) = true) (h3 : ¬ (ni && !p.introduced.isEmpty) = true) :
    Avoids p pc fv ni := by
  refine ⟨fun u hu hc => h1 ?_, fun v hv hc => h2 ?_, fun hni => ?_⟩
  · exact List.any_eq_true.mpr ⟨u, hu, by simpa using hc⟩
  · exact List.any_eq_true.mpr ⟨v, hv, by simpa using hc⟩
  · cases hi : p.introduced with
    | nil => rfl
    | cons a as => exact absurd (by simp [hni, hi]) h3

theorem chooseAux_sublist (ps : List Patch) (pc : List (Nat × Nat)) (fv : List Nat) (k : Int) (ni : Bool) :
    (chooseAux ps pc fv k ni).Sublist ps := by
  fun_induction chooseAux ps pc fv k ni with
  | case1 => exact List.Sublist.slnil
  | case2 p ps pc fv k ni h1 ih => exact ih.cons p
  | case3 p ps pc fv k ni h1 h2 ih => exact ih.cons p
  | case4 p ps pc fv k ni h1 h2 h3 ih => exact ih.cons p
  | case5 p ps pc fv k ni h1 h2 h3 ih =>
    split
    · exact (List.nil_sublist ps).cons_cons p
    · exact ih.cons_cons p

theorem chooseAux_length (ps : List Patch) (pc : List (Nat × Nat)) (fv : List Nat) (k : Int) (ni : Bool)
    (hk : 0 < k) : ((chooseAux ps pc fv k ni).length : Int) ≤ k := by
  fun_induction chooseAux ps pc fv k ni with
  | case1 => exact Int.le_of_lt hk
  | case2 p ps pc fv k ni h1 ih => exact ih hk
  | case3 p ps pc fv k ni h1 h2 ih => exact ih hk
  | case4 p ps pc fv k ni h1 h2 h3 ih => exact ih hk
  | case5 p ps pc fv k ni h1 h2 h3 ih =>
    split
    · exact hk
    · have := ih (by omega)
      rw [List.length_cons]; omega

theorem compatible_of_avoids (p q : Patch) (pc : List (Nat × Nat)) (fv : List Nat) (ni : Bool)
    (h : Avoids q (pc ++ p.updates.map fun u => (u.name, u.frm)) (fv ++ p.fixed) ni) : compatible p q :=
  ⟨fun u hu w hw hc => h.1 u hu (List.mem_append_right _ (List.mem_map.mpr ⟨w, hw, by rw [hc.1, hc.2]⟩)),
   fun v hv hc => h.2.1 v hv (List.mem_append_right _ hc)⟩

theorem chooseAux_avoids (ps : List Patch) (pc : List (Nat × Nat)) (fv : List Nat) (k : Int) (ni : Bool) :
    (∀ q ∈ chooseAux ps pc fv k ni, Avoids q pc fv ni) ∧ (chooseAux ps pc fv k ni).Pairwise compatible := by
  fun_induction chooseAux ps pc fv k ni with
  | case1 => exact ⟨fun q hq => (nomatch hq), List.Pairwise.nil⟩
  | case2 p ps pc fv k ni h1 ih => exact ih
  | case3 p ps pc fv k ni h1 h2 ih => exact ih
  | case4 p ps pc fv k ni h1 h2 h3 ih => exact ih
  | case5 p ps pc fv k ni h1 h2 h3 ih =>
    have hp := avoids_of_tests p pc fv ni h1 h2 h3
    split
    · exact ⟨fun q hq => List.mem_singleton.mp hq ▸ hp, List.pairwise_singleton _ _⟩
    · refine ⟨fun q hq => ?_, List.pairwise_cons.mpr ⟨fun q hq => compatible_of_avoids p q pc fv ni (ih.1 q hq), ih.2⟩⟩
      rcases List.mem_cons.mp hq with rfl | hq
      · exact hp
      · obtain ⟨a, b, c⟩ := ih.1 q hq
        exact ⟨fun u hu hc => a u hu (List.mem_append_left _ hc), fun v hv hc => b v hv (List.mem_append_left _ hc), c⟩

/-! ### ConstructPatches: vulnerability sets -/

theorem vulnDiffAux_spec (vs fixed intro : List Nat) (hn : vs.Nodup) :
    ∀ v, (v ∈ (vulnDiffAux vs fixed intro).1 ↔ v ∈ fixed ∧ v ∉ vs) ∧
         (v ∈ (vulnDiffAux vs fixed intro).2 ↔ v ∈ intro ∨ (v ∈ vs ∧ v ∉ fixed)) := by
  fun_induction vulnDiffAux vs fixed intro with
  | case1 fixed intro => simp
  | case2 x xs fixed intro hx ih =>
    intro v
    have hxf : x ∈ fixed := by simpa using hx
    obtain ⟨hx', hxs⟩ := List.nodup_cons.mp hn
    obtain ⟨h1, h2⟩ := ih hxs v
    rw [h1, h2]
    simp only [List.mem_filter, List.mem_cons, decide_eq_true_eq, ne_eq]
    by_cases hv : v = x
    · subst hv; simp [hx', hxf]
    · simp [hv]
  | case3 x xs fixed intro hx ih =>
    intro v
    have hxf : x ∉ fixed := by simpa using hx
    obtain ⟨hx', hxs⟩ := List.nodup_cons.mp hn
    obtain ⟨h1, h2⟩ := ih hxs v
    have hmem : v ∈ (if intro.contains x then intro else intro ++ [x]) ↔ v ∈ intro ∨ v = x := by
      split
      · rename_i hc
        have : x ∈ intro := by simpa using hc
        exact ⟨Or.inl, fun h => h.elim id (· ▸ this)⟩
      · simp
    rw [h1, h2, hmem]
    simp only [List.mem_cons]
    by_cases hv : v = x
    · subst hv; simp [hx', hxf]
    · simp [hv]
/-! ### ConstructPatches: requirement updates, and substituting them back -/

theorem val_unique (l : List (Key × Nat)) (hn : (l.map (·.1)).Nodup) (k : Key) (v w : Nat)
    (h1 : (k, v) ∈ l) (h2 : (k, w) ∈ l) : v = w :=
  congrArg Prod.snd (eq_of_key_eq hn h1 h2 rfl)

theorem lookupReq_mem (l : List (Key × Nat)) (hn : (l.map (·.1)).Nodup) (k : Key) (v : Nat) (h : (k, v) ∈ l) :
    lookupReq l k = some v := by
  unfold lookupReq
  cases hf : l.reverse.find? (·.1 = k) with
  | none => exact absurd (decide_eq_true rfl) (List.find?_eq_none.mp hf (k, v) (List.mem_reverse.mpr h))
  | some e =>
    have hk : e.1 = k := by simpa using List.find?_some hf
    rw [eq_of_key_eq hn (List.mem_reverse.mp (List.mem_of_find?_eq_some hf)) h hk]
    rfl

theorem mem_reqDiff (O N : List (Key × Nat)) (u : ReqUpdate) :
    u ∈ reqDiff O N ↔ (u.key, u.to) ∈ N ∧ u.frm = lookupReq O u.key ∧ u.frm ≠ some u.to := by
  unfold reqDiff
  rw [List.mem_filterMap]
  constructor
  · rintro ⟨⟨k, v⟩, hm, hf⟩
    simp only at hf
    split at hf
    · rename_i hl
      obtain rfl := Option.some.inj hf
      exact ⟨hm, hl.symm, nofun⟩
    · rename_i ov hl
      split at hf
      · cases hf
      · rename_i hne
        obtain rfl := Option.some.inj hf
        exact ⟨hm, hl.symm, fun h => hne (Option.some.inj h).symm⟩
  · rintro ⟨hm, hf, hne⟩
    refine ⟨(u.key, u.to), hm, ?_⟩
    obtain ⟨k, f, t⟩ := u
    simp only at hf hne ⊢
    subst hf
    split
    · rename_i hl; rw [hl]
    · rename_i ov hl
      rw [hl] at hne
      rw [if_neg fun h => hne (congrArg some h.symm), hl]

theorem reqDiff_pointwise (O N : List (Key × Nat)) (hO : (O.map (·.1)).Nodup) (hN : (N.map (·.1)).Nodup)
    (k : Key) (v v' : Nat) (h1 : (k, v) ∈ O) (h2 : (k, v') ∈ N) :
    (match (reqDiff O N).find? (fun u => u.key = k ∧ u.frm = some v) with
     | some u => (k, u.to)
     | none => (k, v)) = (k, v') := by
  have hl := lookupReq_mem O hO k v h1
  split
  · -- an update for the key carries the version the new manifest has under it
    rename_i u hf
    have hk : u.key = k := by have := List.find?_some hf; simp only [decide_eq_true_eq] at this; exact this.1
    have hm := ((mem_reqDiff O N u).mp (List.mem_of_find?_eq_some hf)).1
    rw [hk] at hm
    rw [val_unique N hN k u.to v' hm h2]
  · -- no update for the key: the version did not change
    rename_i hf
    rw [List.find?_eq_none] at hf
    by_cases hv : v' = v
    · rw [hv]
    · have := hf ⟨k, some v, v'⟩ ((mem_reqDiff O N _).mpr ⟨h2, hl.symm, fun h => hv (Option.some.inj h).symm⟩)
      simp at this

/-- substituting the reported requirement updates into the old requirements gives the new ones,
when both manifests list the same keys in the same order (no additions) without duplicates -/
theorem applyUpdates_reqDiff (O N : List (Key × Nat)) (hk : O.map (·.1) = N.map (·.1)) (hO : (O.map (·.1)).Nodup) :
    applyUpdates O (reqDiff O N) = N := by
  have hlen : O.length = N.length := by simpa using congrArg List.length hk
  unfold applyUpdates
  apply List.ext_getElem (by rw [List.length_map, hlen])
  intro i h1 h2
  have hi : i < O.length := by simpa using h1
  have hki : O[i].1 = N[i].1 := by
    have := List.getElem_of_eq hk (by rw [List.length_map]; exact hi)
    rwa [List.getElem_map, List.getElem_map] at this
  have hN : (O[i].1, N[i].2) ∈ N := by rw [hki]; exact List.getElem_mem h2
  rw [List.getElem_map]
  exact (reqDiff_pointwise O N hO (hk ▸ hO) O[i].1 O[i].2 N[i].2 (List.getElem_mem hi) hN).trans (by rw [hki])
end Scalibr.Pipeline
