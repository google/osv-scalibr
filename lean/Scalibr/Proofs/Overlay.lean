/-
Helper lemmas for C04: paths, `inWhiteoutDir`, one fill, the parents fold, what one layer does to a view.

The notion everything here is stated with is `under v m`: the view `v` with a contribution `m` (a node per path)
showing through wherever `v` has nothing and no deleted or replaced ancestor of `v` lies above.  Reading a tar
entry by entry keeps both the layer's own chain and every later view of this form (`entryStep_new`,
`entryStep_upgrade`), with `m` = what the entries read so far contribute (`mention`).
-/
import Scalibr.Model.Overlay
import Scalibr.Spec.Overlay
namespace Scalibr.Overlay

/-! ### paths -/

theorem isUnder_iff (a p : Path) : isUnder a p = true ↔ a.length < p.length ∧ p.take a.length = a := by
  simp [isUnder]

theorem isUnder_irrefl (p : Path) : isUnder p p = false := by
  simp [isUnder]

theorem take_of_take_eq {p b : Path} (hb : p.take b.length = b) {n : Nat} (hn : n ≤ b.length) :
    b.take n = p.take n := by
  conv => lhs; rw [← hb]
  rw [List.take_take, Nat.min_eq_left hn]

theorem isUnder_trans {a b c : Path} (h1 : isUnder a b = true) (h2 : isUnder b c = true) : isUnder a c = true := by
  rw [isUnder_iff] at *
  exact ⟨by omega, by rw [← take_of_take_eq h2.2 (Nat.le_of_lt h1.1)]; exact h1.2⟩

theorem isUnder_ne {a p : Path} (h : isUnder a p = true) : a ≠ p := by
  intro e; subst e; rw [isUnder_irrefl] at h; cases h

theorem isUnder_nil (p : Path) : isUnder [] p = true ↔ p ≠ [] := by
  rw [isUnder_iff]; cases p <;> simp

theorem not_isUnder_nil (a : Path) : isUnder a [] = false := by
  simp [isUnder]

/-- two ancestors of one path are comparable -/
theorem isUnder_comparable {a b p : Path} (ha : isUnder a p = true) (hb : isUnder b p = true) :
    a = b ∨ isUnder a b = true ∨ isUnder b a = true := by
  simp only [isUnder_iff] at *
  rcases Nat.lt_trichotomy a.length b.length with h | h | h
  · exact .inr (.inl ⟨h, by rw [take_of_take_eq hb.2 (Nat.le_of_lt h)]; exact ha.2⟩)
  · exact .inl (by rw [← ha.2, ← hb.2, h])
  · exact .inr (.inr ⟨h, by rw [take_of_take_eq ha.2 (Nat.le_of_lt h)]; exact hb.2⟩)

theorem isUnder_snoc (d q : Path) (x : String) : isUnder d (q ++ [x]) = true ↔ d = q ∨ isUnder d q = true := by
  simp only [isUnder_iff, List.length_append, List.length_singleton]
  constructor
  · rintro ⟨hl, ht⟩
    rcases Nat.lt_or_ge d.length q.length with h | h
    · exact .inr ⟨h, by rwa [List.take_append_of_le_length (Nat.le_of_lt h)] at ht⟩
    · exact .inl (by rw [← ht, List.take_append_of_le_length (by omega), List.take_of_length_le (by omega)])
  · rintro (rfl | ⟨hl, ht⟩)
    · exact ⟨by omega, List.take_left' rfl⟩
    · exact ⟨by omega, by rwa [List.take_append_of_le_length (Nat.le_of_lt hl)]⟩

theorem mem_parents (p q : Path) : q ∈ parents p ↔ (q ≠ [] ∧ isUnder q p = true) := by
  rw [isUnder_iff]
  simp only [parents, List.range_eq_range', List.drop_range', List.mem_map, List.mem_range'_1]
  constructor
  · rintro ⟨k, ⟨hk1, hk2⟩, rfl⟩
    have hkp : k < p.length := by omega
    have hlen : (p.take k).length = k := List.length_take_of_le (Nat.le_of_lt hkp)
    exact ⟨List.ne_nil_of_length_pos (by omega), by rw [hlen]; exact hkp, by rw [hlen]⟩
  · rintro ⟨hne, hlt, htake⟩
    exact ⟨q.length, ⟨List.length_pos_iff.mpr hne, by omega⟩, htake⟩

theorem not_mem_parents_self (p : Path) : p ∉ parents p := by
  intro h; have := (mem_parents p p).mp h; rw [isUnder_irrefl] at this; cases this.2

theorem nil_not_mem_parents (p : Path) : ([] : Path) ∉ parents p := by
  intro h; exact ((mem_parents p []).mp h).1 rfl

/-! ### `inWhiteoutDir` -/

/-- the node at `d`, if any, hides what is below it -/
def blocksAt (t : Tree) (d : Path) : Bool :=
  match t.get d with
  | some n => n.blocks
  | none => false

theorem inWhDirUp_cons (t : Tree) (x : String) (rd : List String) :
    inWhDirUp t (x :: rd) = (blocksAt t rd.reverse || inWhDirUp t rd) := by
  rw [inWhDirUp, blocksAt]
  cases t.get rd.reverse with
  | none => rfl
  | some n => cases h : n.blocks <;> simp [h]

theorem inWhDir_iff (t : Tree) (p : Path) :
    inWhDir t p = true ↔ ∃ d, isUnder d p = true ∧ blocksAt t d = true := by
  unfold inWhDir
  rw [← p.reverse_reverse]
  generalize p.reverse = rp
  rw [List.reverse_reverse]
  induction rp with
  | nil => simp [inWhDirUp, isUnder]
  | cons x rd ih =>
    rw [inWhDirUp_cons, Bool.or_eq_true, ih, List.reverse_cons]
    simp only [isUnder_snoc]
    constructor
    · rintro (h | ⟨d, hd, hb⟩)
      · exact ⟨_, .inl rfl, h⟩
      · exact ⟨d, .inr hd, hb⟩
    · rintro ⟨d, rfl | hd, hb⟩
      · exact .inl hb
      · exact .inr ⟨d, hd, hb⟩

theorem inWhDir_false_iff (t : Tree) (p : Path) :
    inWhDir t p = false ↔ ∀ d, isUnder d p = true → blocksAt t d = false := by
  rw [← Bool.not_eq_true, inWhDir_iff]
  simp only [not_exists, not_and, Bool.not_eq_true]

/-- `inWhiteoutDir` only looks at the blockers among the proper ancestors -/
theorem inWhDir_congr {t t' : Tree} {p : Path}
    (h : ∀ d, isUnder d p = true → blocksAt t d = blocksAt t' d) : inWhDir t p = inWhDir t' p := by
  rw [Bool.eq_iff_iff, inWhDir_iff, inWhDir_iff]
  constructor <;> rintro ⟨d, hd, hb⟩
  · exact ⟨d, hd, by rw [← h d hd]; exact hb⟩
  · exact ⟨d, hd, by rw [h d hd]; exact hb⟩

/-- below an ancestor that is already hidden, or is itself a blocker -/
theorem inWhDir_of_ancestor {t : Tree} {d p : Path} (hd : isUnder d p = true)
    (h : inWhDir t d = true ∨ blocksAt t d = true) : inWhDir t p = true := by
  rcases h with h | h
  · obtain ⟨d', hd', hb⟩ := (inWhDir_iff t d).mp h
    exact (inWhDir_iff t p).mpr ⟨d', isUnder_trans hd' hd, hb⟩
  · exact (inWhDir_iff t p).mpr ⟨d, hd, h⟩

theorem inWhDir_false_of_under {t : Tree} {d p : Path} (hd : isUnder d p = true) (h : inWhDir t p = false) :
    inWhDir t d = false := by
  cases hw : inWhDir t d with
  | false => rfl
  | true => rw [inWhDir_of_ancestor hd (.inl hw)] at h; cases h

variable (i : Nat)

theorem upd_get (t : Tree) (p : Path) (n : Node) (q : Path) :
    (upd t p n).get q = if q = p then some n else t.get q := rfl

theorem fill1_get (t : Tree) (p : Path) (n : Node) (q : Path) :
    (fill1 t p n).get q = if q = p then (t.get p).or (if inWhDir t p then none else some n) else t.get q := by
  unfold fill1
  by_cases hq : q = p
  · subst hq
    cases ht : t.get q with
    | some m => simp [ht]
    | none => cases inWhDir t q <;> simp [upd_get, ht]
  · cases (t.get p).isSome <;> cases inWhDir t p <;> simp [upd_get, hq]

theorem upgrade_get (t : Tree) (p : Path) (n : Node) (q : Path) :
    (upgrade i t p n).get q =
      if q = p then (match t.get p with | some y => if y.virt && y.layer == i then some n else some y | none => none)
      else t.get q := by
  unfold upgrade
  cases h : t.get p with
  | none => by_cases hq : q = p <;> simp [hq, h]
  | some y =>
    by_cases hy : (y.virt && y.layer == i) = true
    · simp only [hy, if_true, upd_get]
    · simp only [hy]; by_cases hq : q = p <;> simp [hq, h]

theorem rootTree_get (q : Path) : (rootTree i).get q = if q = [] then some (rootNode i) else none := rfl

theorem rootTree_get_some {q : Path} {n : Node} (h : (rootTree i).get q = some n) : n = rootNode i := by
  rw [rootTree_get] at h
  split at h <;> cases h
  rfl

theorem blocksAt_rootTree (d : Path) : blocksAt (rootTree i) d = false := by
  by_cases h : d = [] <;> simp [blocksAt, rootTree_get, h, rootNode, Node.blocks]

theorem inWhDir_rootTree (q : Path) : inWhDir (rootTree i) q = false :=
  (inWhDir_false_iff _ q).mpr fun d _ => blocksAt_rootTree i d

theorem implDir_blocks : (implDir i).blocks = false := rfl

theorem node_blocks (e : Entry) : (e.node i).blocks = e.blocker := rfl

/-! ### a view with a contribution showing through -/

/-- `v`, and where `v` has nothing and none of its nodes above blocks, what `m` contributes -/
def under (v : Tree) (m : Path → Option Node) : Tree :=
  ⟨fun q => (v.get q).or (if inWhDir v q then none else m q)⟩

theorem under_get (v : Tree) (m : Path → Option Node) (q : Path) :
    (under v m).get q = (v.get q).or (if inWhDir v q then none else m q) := rfl

/-- only what is contributed away from the root matters: the view has its own root -/
theorem under_congr {v : Tree} {m m' : Path → Option Node} (hroot : (v.get []).isSome = true)
    (h : ∀ q, q ≠ [] → m q = m' q) : under v m = under v m' := by
  apply Tree.ext'
  intro q
  rw [under_get, under_get]
  by_cases hq : q = []
  · subst hq
    obtain ⟨r, hr⟩ := Option.isSome_iff_exists.mp hroot
    simp [hr]
  · rw [h q hq]

theorem under_empty (v : Tree) : under v (fun _ => none) = v := by
  apply Tree.ext'
  intro q
  rw [under_get]
  cases inWhDir v q <;> simp

theorem under_root_get (m : Path → Option Node) {q : Path} (hq : q ≠ []) :
    (under (rootTree i) m).get q = m q := by
  simp [under_get, rootTree_get, hq, inWhDir_rootTree]

theorem under_get_nil (v : Tree) (m : Path → Option Node) (hroot : (v.get []).isSome = true) :
    (under v m).get [] = v.get [] := by
  obtain ⟨r, hr⟩ := Option.isSome_iff_exists.mp hroot
  simp [under_get, hr]

def OpenAbove (m : Path → Option Node) (p : Path) : Prop :=
  ∀ a, isUnder a p = true → ∀ n, m a = some n → n.blocks = false

theorem OpenAbove.mono {m : Path → Option Node} {d p : Path} (h : OpenAbove m p) (hd : isUnder d p = true) :
    OpenAbove m d :=
  fun a ha => h a (isUnder_trans ha hd)

theorem blocksAt_under_of_open {v : Tree} {m : Path → Option Node} {a : Path}
    (h : ∀ n, m a = some n → n.blocks = false) : blocksAt (under v m) a = blocksAt v a := by
  unfold blocksAt
  rw [under_get]
  cases hv : v.get a with
  | some x => rfl
  | none =>
    cases inWhDir v a
    · cases hm : m a with
      | none => rfl
      | some n => simpa using h n hm
    · rfl

theorem inWhDir_under {v : Tree} {m : Path → Option Node} {p : Path} (h : OpenAbove m p) :
    inWhDir (under v m) p = inWhDir v p :=
  inWhDir_congr fun a ha => blocksAt_under_of_open (h a ha)

theorem inWhDir_under_of_inWhDir {v : Tree} (m : Path → Option Node) {q : Path} (h : inWhDir v q = true) :
    inWhDir (under v m) q = true := by
  obtain ⟨d, hd, hb⟩ := (inWhDir_iff v q).mp h
  refine (inWhDir_iff _ q).mpr ⟨d, hd, ?_⟩
  unfold blocksAt at hb ⊢
  rw [under_get]
  cases hv : v.get d with
  | none => rw [hv] at hb; cases hb
  | some x => rw [hv] at hb; exact hb

theorem fill1_eq_under (t : Tree) (p : Path) (n : Node) :
    fill1 t p n = under t (fun q => if q = p then some n else none) := by
  apply Tree.ext'
  intro q
  rw [fill1_get, under_get]
  by_cases hq : q = p <;> simp [hq]

theorem inWhDir_fill1_nb (t : Tree) (p : Path) (n : Node) (hn : n.blocks = false) (q : Path) :
    inWhDir (fill1 t p n) q = inWhDir t q := by
  rw [fill1_eq_under]
  exact inWhDir_under fun a _ m hm => by split at hm <;> cases hm; exact hn

theorem fill1_under {v : Tree} {m : Path → Option Node} {p : Path} (h : OpenAbove m p) (n : Node) :
    fill1 (under v m) p n = under v (fun q => if q = p then (m p).or (some n) else m q) := by
  apply Tree.ext'
  intro q
  rw [fill1_get, inWhDir_under h, under_get, under_get, under_get]
  by_cases hq : q = p
  · subst hq
    simp only [if_true, Option.or_assoc]
    cases inWhDir v q <;> simp
  · simp only [hq, if_false]

/-! ### the fold over implied parents -/

theorem parentsFold_cons (ov : Tree × Tree) (d : Path) (ds : List Path) :
    parentsFold i ov (d :: ds) =
      parentsFold i (if (ov.1.get d).isSome then ov else (fill1 ov.1 d (implDir i), fill1 ov.2 d (implDir i))) ds := by
  simp [parentsFold]

theorem parentsFold_diag (ds : List Path) : ∀ (o w : Tree),
    (parentsFold i (o, w) ds).1 = (parentsFold i (o, o) ds).2 := by
  induction ds with
  | nil => intro o w; rfl
  | cons d ds ih =>
    intro o w
    rw [parentsFold_cons, parentsFold_cons]
    dsimp only
    split
    · exact ih o w
    · exact ih _ _

/-- the later view after the parents fold: every listed directory that the layer's own chain lacks is filled in, all
from the trees as they were before (the fills do not interfere: each is at a path of its own and none blocks) -/
theorem parentsFold_view (ds : List Path) : ∀ (ov : Tree × Tree) (q : Path),
    (parentsFold i ov ds).2.get q =
      if q ∈ ds ∧ ov.1.get q = none then (ov.2.get q).or (if inWhDir ov.2 q then none else some (implDir i))
      else ov.2.get q := by
  induction ds with
  | nil => intro ov q; simp [parentsFold]
  | cons d ds ih =>
    intro ov q
    rw [parentsFold_cons, ih]
    cases hs : (ov.1.get d).isSome with
    | true =>
      by_cases hq : q = d
      · subst hq; simp [Option.isSome_iff_ne_none.mp hs]
      · simp [hq]
    | false =>
      have hn : ov.1.get d = none := by simpa using hs
      simp only [Bool.false_eq_true, if_false, fill1_get, inWhDir_fill1_nb _ _ _ (implDir_blocks i)]
      by_cases hq : q = d
      · subst hq
        simp only [if_true, hn, List.mem_cons, true_or, true_and, Option.or_assoc, Option.or_self, ite_self]
      · simp [hq]

theorem parentsFold_under {v : Tree} {m : Path → Option Node} {ds : List Path} (hnil : [] ∉ ds)
    (h : ∀ d ∈ ds, OpenAbove m d) :
    (parentsFold i (under (rootTree i) m, under v m) ds).2 =
      under v (fun q => if q ∈ ds then (m q).or (some (implDir i)) else m q) := by
  apply Tree.ext'
  intro q
  rw [parentsFold_view]
  by_cases hq : q ∈ ds
  · have hq0 : q ≠ [] := fun e => hnil (e ▸ hq)
    simp only [hq, true_and, if_true, under_root_get i m hq0, inWhDir_under (h q hq), under_get]
    cases m q <;> cases inWhDir v q <;> simp
  · simp only [hq, false_and, if_false, under_get]

/-! ### what the code makes of one layer -/

/-- the first entry of the tar at `q` (of any kind, whiteouts included) -/
def explicitFirst (l : Layer) (q : Path) : Option Node := (l.find? fun e => e.p == q).map (·.node i)

/-- the node layer `i` contributes at `q` when every entry is new on arrival: its own entry, else a made-up directory
when something is listed beneath `q` -/
def mention (l : Layer) (q : Path) : Option Node :=
  match explicitFirst i l q with
  | some n => some n
  | none => if impliedDir l q then some (implDir i) else none

/-- contribution of one new entry -/
def delta (e : Entry) (q : Path) : Option Node :=
  if q = e.p then some (e.node i) else if q ∈ parents e.p then some (implDir i) else none

theorem explicitFirst_snoc (es : Layer) (e : Entry) (q : Path) :
    explicitFirst i (es ++ [e]) q = (explicitFirst i es q).or (if e.p = q then some (e.node i) else none) := by
  unfold explicitFirst
  rw [List.find?_append]
  cases h : es.find? (fun x => x.p == q) with
  | some x => simp
  | none => by_cases he : e.p = q <;> simp [he]

theorem impliedDir_snoc (es : Layer) (e : Entry) (q : Path) :
    impliedDir (es ++ [e]) q = (impliedDir es q || isUnder q e.p) := by
  unfold impliedDir; simp [List.any_append]

theorem mentionedBy_snoc (es : Layer) (e : Entry) (q : Path) :
    mentionedBy (es ++ [e]) q = (mentionedBy es q || (e.p == q || isUnder q e.p)) := by
  unfold mentionedBy; simp [List.any_append]

theorem explicitFirst_none_iff (l : Layer) (q : Path) :
    explicitFirst i l q = none ↔ ∀ e ∈ l, e.p ≠ q := by
  unfold explicitFirst
  simp [List.find?_eq_none]

theorem mentionedBy_false_iff (l : Layer) (q : Path) :
    mentionedBy l q = false ↔ (∀ e ∈ l, e.p ≠ q) ∧ impliedDir l q = false := by
  unfold mentionedBy impliedDir
  simp only [List.any_eq_false, Bool.or_eq_true, beq_iff_eq, not_or, Bool.not_eq_true, ne_eq]
  exact ⟨fun h => ⟨fun e he => (h e he).1, fun e he => (h e he).2⟩, fun h e he => ⟨h.1 e he, h.2 e he⟩⟩

theorem mention_none_iff (l : Layer) (q : Path) : mention i l q = none ↔ mentionedBy l q = false := by
  rw [mentionedBy_false_iff, ← explicitFirst_none_iff i]
  unfold mention
  cases explicitFirst i l q with
  | some n => simp
  | none => cases impliedDir l q <;> simp

theorem mention_nil (q : Path) : mention i [] q = none := by
  simp [mention, explicitFirst, impliedDir]

theorem mention_snoc (es : Layer) (e : Entry) (q : Path) (hq : q ≠ [])
    (hnew : mentionedBy es e.p = false) :
    mention i (es ++ [e]) q = (mention i es q).or (delta i e q) := by
  obtain ⟨hx, hi⟩ := (mentionedBy_false_iff es e.p).mp hnew
  have hmp : q ∈ parents e.p ↔ isUnder q e.p = true := by rw [mem_parents]; simp [hq]
  unfold mention delta
  rw [explicitFirst_snoc, impliedDir_snoc]
  cases hxq : explicitFirst i es q with
  | some k => rfl
  | none =>
    by_cases hqe : q = e.p
    · subst hqe; simp [hi]
    · have hqe' : ¬ e.p = q := fun h => hqe h.symm
      cases impliedDir es q <;> cases hu : isUnder q e.p <;> simp [hqe, hqe', hmp, hu]

theorem impliedDir_of_under {es : Layer} {q p : Path} (h : impliedDir es p = true) (hu : isUnder q p = true) :
    impliedDir es q = true := by
  unfold impliedDir at h ⊢
  rw [List.any_eq_true] at h ⊢
  obtain ⟨x, hx, hxu⟩ := h
  exact ⟨x, hx, isUnder_trans hu hxu⟩

/-- a directory's own entry arriving after entries beneath it: it replaces the made-up node, nothing else changes -/
theorem mention_snoc_upg (es : Layer) (e : Entry) (q : Path)
    (hx : explicitFirst i es e.p = none) (himp : impliedDir es e.p = true) :
    mention i (es ++ [e]) q = if q = e.p then some (e.node i) else mention i es q := by
  unfold mention
  rw [explicitFirst_snoc, impliedDir_snoc]
  by_cases hq : q = e.p
  · subst hq; simp [hx]
  · have hq' : ¬ e.p = q := fun h => hq h.symm
    simp only [hq, hq', if_false, Option.or_none]
    cases explicitFirst i es q with
    | some n => rfl
    | none =>
      cases hu : isUnder q e.p with
      | false => simp
      | true => simp [impliedDir_of_under himp hu]

/-- what `freshB` asks of the next entry: a path of its own that is not the root, new to the tar so far — or the
directory's own entry for a path that so far only has entries beneath it -/
theorem freshB_cons {done rest : Layer} {e : Entry} (h : freshB done (e :: rest) = true) :
    e.p ≠ [] ∧ freshB (done ++ [e]) rest = true ∧ (∀ x ∈ done, x.p ≠ e.p) ∧
    (mentionedBy done e.p = false ∨ (impliedDir done e.p = true ∧ e.kind = .dir ∧ e.wh = false)) := by
  simp only [freshB, upgradeOK, Bool.and_eq_true, Bool.or_eq_true, Bool.not_eq_true', bne_iff_ne, ne_eq, beq_iff_eq,
    List.any_eq_false] at h
  obtain ⟨⟨hfresh, hne⟩, hf⟩ := h
  cases hnew : mentionedBy done e.p with
  | false => exact ⟨hne, hf, ((mentionedBy_false_iff done e.p).mp hnew).1, .inl rfl⟩
  | true =>
    obtain ⟨⟨hk, hw⟩, hnone⟩ := hfresh.resolve_left (by simp [hnew])
    refine ⟨hne, hf, hnone, .inr ⟨?_, hk, hw⟩⟩
    cases hi : impliedDir done e.p with
    | true => rfl
    | false => rw [(mentionedBy_false_iff done e.p).mpr ⟨hnone, hi⟩] at hnew; cases hnew

/-- the contribution of a tar at a path that has listed entries beneath it is never a blocker, when nothing is
listed beneath a blocker -/
theorem mention_nonblocking (l done : Layer)
    (hnub : ∀ b ∈ l, b.blocker = true → ∀ e ∈ l, isUnder b.p e.p = false)
    (hdone : ∀ x ∈ done, x ∈ l) {x : Entry} (hx : x ∈ l) : OpenAbove (mention i done) x.p := by
  intro d hd m hm
  unfold mention at hm
  cases hx' : explicitFirst i done d with
  | some n =>
    rw [hx'] at hm
    cases hm
    obtain ⟨b, hb, rfl⟩ := Option.map_eq_some_iff.mp hx'
    have hbp : b.p = d := by simpa using List.find?_some hb
    rw [node_blocks]
    cases hbl : b.blocker with
    | false => rfl
    | true => rw [← hbp, hnub b (hdone b (List.mem_of_find?_eq_some hb)) hbl x hx] at hd; cases hd
  | none =>
    rw [hx'] at hm
    by_cases hi : impliedDir done d = true
    · simp [hi] at hm; subst hm; rfl
    · simp [hi] at hm

/-- **A new path.**  Its missing parents are made up, then the entry's node is filled in — in the layer's own chain and
in the later view alike. -/
theorem entryStep_new (v : Tree) (m : Path → Option Node) (e : Entry) (hne : e.p ≠ [])
    (hnew : m e.p = none) (hopen : OpenAbove m e.p) :
    entryStep i (under (rootTree i) m, under v m) e =
      (under (rootTree i) fun q => (m q).or (delta i e q), under v fun q => (m q).or (delta i e q)) := by
  have hpar : ∀ d ∈ parents e.p, OpenAbove m d := fun d hd => hopen.mono ((mem_parents e.p d).mp hd).2
  have hopen' : OpenAbove (fun q => if q ∈ parents e.p then (m q).or (some (implDir i)) else m q) e.p := by
    intro a ha n hn
    dsimp only at hn
    split at hn
    · cases hma : m a with
      | some x => rw [hma, Option.some_or] at hn; exact hopen a ha n (hma.trans hn)
      | none => rw [hma] at hn; cases hn; rfl
    · exact hopen a ha n hn
  have hview : ∀ w : Tree, fill1 (parentsFold i (under (rootTree i) m, under w m) (parents e.p)).2 e.p (e.node i) =
      under w fun q => (m q).or (delta i e q) := by
    intro w
    rw [parentsFold_under i (nil_not_mem_parents _) hpar, fill1_under hopen']
    congr 1
    funext q
    unfold delta
    by_cases hq : q = e.p
    · subst hq; simp [not_mem_parents_self]
    · by_cases hp : q ∈ parents e.p <;> simp [hq, hp]
  have hown : ((under (rootTree i) m).get e.p).isSome = false := by rw [under_root_get i m hne, hnew]; rfl
  simp only [entryStep, hown, Bool.false_eq_true, if_false]
  rw [parentsFold_diag, hview, hview]

/-- **The directory's own entry after entries beneath it**: the made-up node is overwritten in place, wherever this
layer put it. -/
theorem entryStep_upgrade (v : Tree) (m : Path → Option Node) (e : Entry) (hne : e.p ≠ [])
    (hm : m e.p = some (implDir i)) (hkind : e.kind = .dir) (hwh : e.wh = false)
    (hvl : ∀ q n, v.get q = some n → n.virt = true → n.layer ≠ i) :
    entryStep i (under (rootTree i) m, under v m) e =
      (under (rootTree i) fun q => if q = e.p then some (e.node i) else m q,
       under v fun q => if q = e.p then some (e.node i) else m q) := by
  have hview : ∀ w : Tree, (∀ q n, w.get q = some n → n.virt = true → n.layer ≠ i) →
      upgrade i (under w m) e.p (e.node i) = under w fun q => if q = e.p then some (e.node i) else m q := by
    intro w hwl
    apply Tree.ext'
    intro q
    simp only [upgrade_get, under_get]
    by_cases hq : q = e.p
    · rw [hq]
      simp only [if_true, hm]
      cases hw : w.get e.p with
      | some y =>
        have : (y.virt && y.layer == i) = false := by
          cases hy : y.virt with
          | false => rfl
          | true => simpa using hwl e.p y hw hy
        simp [this]
      | none => cases inWhDir w e.p <;> simp [implDir]
    · simp only [hq, if_false]
  have hown : (under (rootTree i) m).get e.p = some (implDir i) := by rw [under_root_get i m hne, hm]
  have hupg : upgrades (under (rootTree i) m) e = true := by simp [upgrades, hown, implDir, hkind, hwh]
  simp only [entryStep, hown, Option.isSome_some, if_true, hupg]
  rw [hview v hvl, hview (rootTree i)]
  intro q n hn hv
  cases rootTree_get_some i hn
  cases hv

theorem noUnderBlocker_iff (l : Layer) :
    noUnderBlocker l = true ↔ ∀ b ∈ l, b.blocker = true → ∀ e ∈ l, isUnder b.p e.p = false := by
  simp only [noUnderBlocker, List.all_eq_true, Bool.or_eq_true, Bool.not_eq_true']
  exact ⟨fun h b hb hbl e he => (h b hb).resolve_left (by simp [hbl]) e he,
    fun h b hb => (Bool.eq_false_or_eq_true b.blocker).symm.imp_right fun hbl => h b hb hbl⟩

theorem layerOK_iff (l : Layer) : layerOK l = true ↔
    freshB [] l = true ∧ ∀ b ∈ l, b.blocker = true → ∀ e ∈ l, isUnder b.p e.p = false := by
  rw [layerOK, Bool.and_eq_true, noUnderBlocker_iff]

/-- What reading one tar does, entry by entry: after the entries `done` the layer's own chain and the later view are the
root, resp. the view `v` as it was before this layer, with `mention i done` showing through. -/
theorem layer_fold (l : Layer) (v : Tree) (hroot : (v.get []).isSome = true)
    (hnub : ∀ b ∈ l, b.blocker = true → ∀ e ∈ l, isUnder b.p e.p = false)
    (hvl : ∀ q n, v.get q = some n → n.virt = true → n.layer ≠ i) :
    ∀ (rest done : Layer), done ++ rest = l → freshB done rest = true →
      rest.foldl (entryStep i) (under (rootTree i) (mention i done), under v (mention i done)) =
        (under (rootTree i) (mention i l), under v (mention i l)) := by
  intro rest
  induction rest with
  | nil => intro done hl _; rw [List.append_nil] at hl; rw [hl]; rfl
  | cons e rest ih =>
    intro done hl hf
    obtain ⟨hne, hf', hnone, hcase⟩ := freshB_cons hf
    have hl' : (done ++ [e]) ++ rest = l := by rw [← hl]; simp
    have hopen : OpenAbove (mention i done) e.p :=
      mention_nonblocking i l done hnub (fun x hx => by rw [← hl]; simp [hx]) (by rw [← hl]; simp)
    have hr : ((rootTree i).get []).isSome = true := rfl
    rw [List.foldl_cons, ← ih (done ++ [e]) hl' hf']
    congr 1
    rcases hcase with hnew | ⟨himp, hkind, hwh⟩
    · rw [entryStep_new i v _ e hne ((mention_none_iff i done e.p).mpr hnew) hopen,
        under_congr hr fun q hq => (mention_snoc i done e q hq hnew).symm,
        under_congr hroot fun q hq => (mention_snoc i done e q hq hnew).symm]
    · have hx := (explicitFirst_none_iff i done e.p).mpr hnone
      rw [entryStep_upgrade i v _ e hne (by simp [mention, hx, himp]) hkind hwh hvl,
        funext fun q => (mention_snoc_upg i done e q hx himp).symm]

/-- **What one layer does to a later view** (`layerOK` tar): a path keeps what the view already has; otherwise,
unless it lies below a deleted or replaced ancestor of the view, it gets the layer's own contribution. -/
theorem revLayer_apply (v : Tree) (l : Layer) (hroot : (v.get []).isSome = true) (hok : layerOK l = true)
    (hvl : ∀ q n, v.get q = some n → n.virt = true → n.layer ≠ i) :
    revLayer i v l = under v (mention i l) := by
  obtain ⟨hf, hnub⟩ := (layerOK_iff l).mp hok
  have h := layer_fold i l v hroot hnub hvl l [] rfl hf
  rw [funext (mention_nil i), under_empty, under_empty] at h
  unfold revLayer
  rw [h]

end Scalibr.Overlay
