/-
C09, "fatal only on request": with `ErrorOnFSErrors` (and no inode limit, cancellation or extractor
panic) a walk fails with a filesystem error exactly when it is told about a filesystem failure
(`traversalFault`, defined on the tree without reference to the engine), for every tree, fault plan and
option combination.  A reading of `walkNode_events` (Proofs/WalkTrace.lean): with nothing else to stop it, the
machine stops at the first step that is a failure, and `traversalFault` says whether there is one; the whole-scan
form is `C09_fatal_fatalcfg`.
-/
import Scalibr.Proofs.WalkTrace
namespace Scalibr.Walk

/-- errors are fatal; no limit, no cancellation, extractors do not panic -/
def FatalCfg (c : Cfg) : Prop :=
  c.maxInodes = 0 ∧ c.errorOnFSErrors = true ∧ c.cancelBefore = false ∧ c.cancelAt = none ∧
  ∀ e p, (c.extract e p).panics = false

/-- "keeps going": no error, stacks untouched, context live -/
structure Cont (s s' : St) : Prop where
  gis : s'.gis = s.gis
  giDirs : s'.giDirs = s.giDirs
  cancelled : s'.cancelled = false

theorem runE_fatal (c : Cfg) (hb : FatalCfg c) : ∀ (T : List Ev) (a : AS), a.cancelled = false →
    (runE c a T).2 = (if T.any Ev.isFault then .fs else .none) ∧
    (T.any Ev.isFault = false → (runE c a T).1.cancelled = false)
  | [], a, hc => ⟨rfl, fun _ => hc⟩
  | ev :: T, a, hc => by
    obtain ⟨hm, he, _, hca, _⟩ := hb
    have hp := aPro_ok c a (by omega) hc
    cases ev with
    | call blk =>
      rw [runE_cons_call c a _ blk T hp]
      exact runE_fatal c ⟨hm, he, ‹_›, hca, ‹_›⟩ T _ (by simp [aBlock, hc, hca, hits])
    | report =>
      rw [runE_cons_report c a _ T hp, he]
      exact ⟨rfl, fun h => nomatch h⟩
    | abort =>
      simp only [runE, stepE, he, if_true, List.any_cons, Ev.isFault, Bool.true_or]
      exact ⟨rfl, fun h => nomatch h⟩

theorem walkNode_fatal (c : Cfg) (hb : FatalCfg c) (hd : DomainLaw c.giMatch) (f : Faults) (G : List GiEntry) (p : Path)
    (n : Node) (s : St) (hc : s.cancelled = false) (hg : c.useGitignore = true → s.gis = G)
    (hshort : ∀ d ∈ s.giDirs, d.length < p.length) :
    (walkNode c f s p n).2 = (if traversalFault c f G p n then .fs else .none) ∧
    (traversalFault c f G p n = false → Cont s (walkNode c f s p n).1) := by
  have hx : NoExtractorPanic c := hb.2.2.2.2
  have h := walkNode_events c hx hd f G p n s hg hshort
  have hm := runE_fatal c hb (events c f G p n) (abs s) hc
  have hst := (walkNode_stack c hx f p n s hshort).1
  rw [← h, events_fault] at hm
  exact ⟨hm.1, fun hf => ⟨hst.1, hst.2, hm.2 hf⟩⟩

theorem walkEntries_fatal (c : Cfg) (hb : FatalCfg c) (hd : DomainLaw c.giMatch) (f : Faults) (G : List GiEntry) (p : Path) :
    ∀ (es : List (String × Node)) (k : Nat) (s : St), s.cancelled = false → (c.useGitignore = true → s.gis = G) →
      (∀ d ∈ s.giDirs, d.length < p.length + 1) →
      (walkEntries c f s p es k).2 = (if traversalFaultL c f G p es k then .fs else .none) ∧
      (traversalFaultL c f G p es k = false → Cont s (walkEntries c f s p es k).1) := by
  intro es k s hc hg hshort
  have hx : NoExtractorPanic c := hb.2.2.2.2
  have h := walkEntries_events c hx hd f G p es k s hg hshort
  have hm := runE_fatal c hb (eventsL c f G p es k) (abs s) hc
  have hst := (walkEntries_stack c hx f p es k s hshort).1
  rw [← h, eventsL_fault] at hm
  exact ⟨hm.1, fun hf => ⟨hst.1, hst.2, hm.2 hf⟩⟩

end Scalibr.Walk
