/-
C10, what the limit and cancellation theorems of Properties/C10.lean rest on.  The machine `runT` of
Spec/WalkMachine.lean under an inode limit (`runT_limit`), under a cancellation from inside the k-th `Extract`
(`runT_cancel`; `cancelOutcome` of Spec/WalkCount.lean reads the same off the trace), and in general (`runT_err`,
`runT_ok_visited`): list-level facts, transferred to the engine by `run_trace` (Proofs/WalkTrace.lean).  All attempts
of one `handleFile` call concern one file (`OnePath`).  And, for EVERY configuration, the scan whose context is
cancelled before it starts (`Fresh`): the first `handleFile` call fails.
-/
import Scalibr.Proofs.WalkSpec
namespace Scalibr.Walk

/-- cancellation from inside the k-th `Extract`; no inode limit, errors not fatal, no extractor panics -/
def CancelCfg (c : Cfg) (k : Nat) : Prop :=
  c.maxInodes = 0 ∧ c.errorOnFSErrors = false ∧ c.cancelBefore = false ∧ c.cancelAt = some k ∧ k ≥ 1 ∧
  ∀ e p, (c.extract e p).panics = false

/-! ### the specification does not look at limits, cancellation or what `Extract` returns -/

/-- the configuration with limit, fatal errors, cancellation and extractor behaviour switched off:
the specification does not look at any of them -/
def benignOf (c : Cfg) : Cfg :=
  { c with maxInodes := 0, errorOnFSErrors := false, cancelBefore := false, cancelAt := none, extract := fun _ _ => {} }

theorem benignOf_benign (c : Cfg) : Benign (benignOf c) := ⟨rfl, rfl, rfl, rfl, fun _ _ => rfl⟩

mutual
theorem trace_benignOf (c : Cfg) (f : Faults) (G : List GiEntry) (p : Path) :
    ∀ n : Node, trace (benignOf c) f G p n = trace c f G p n
  | .file k sz => by simp only [trace]; rfl
  | .dir gi es => by
    simp only [trace]
    rw [traceL_benignOf c f _ p es 0]; rfl
theorem traceL_benignOf (c : Cfg) (f : Faults) (G : List GiEntry) (p : Path) :
    ∀ (es : List (String × Node)) (k : Nat), traceL (benignOf c) f G p es k = traceL c f G p es k
  | [], k => by simp only [traceL]
  | (s, n) :: rest, k => by
    simp only [traceL]
    rw [trace_benignOf c f G (p ++ [s]) n, traceL_benignOf c f G p rest (k+1)]
end

/-! ### every attempt of one `handleFile` call concerns the same file -/

def OnePath (b : List Call) : Prop := ∀ x ∈ b, ∀ y ∈ b, x.path = y.path

theorem onePath_nil : OnePath [] := by intro x hx; cases hx

theorem mustOne_onePath (c : Cfg) (f : Faults) (G : List GiEntry) (r : FileRec) : OnePath (mustOne c f G r) :=
  fun _ hx _ hy => (mem_mustOne hx).1.trans (mem_mustOne hy).1.symm

mutual
theorem trace_onePath (c : Cfg) (f : Faults) (G : List GiEntry) (p : Path) :
    ∀ (n : Node), ∀ b ∈ trace c f G p n, OnePath b
  | .file k sz, b, hb => by
    simp only [trace, List.mem_singleton] at hb
    subst hb; exact mustOne_onePath c f G _
  | .dir gi es, b, hb => by
    simp only [trace] at hb
    split at hb
    · rw [List.mem_singleton.mp hb]; exact onePath_nil
    · split at hb
      · have : b = [] := by simpa using hb
        rw [this]; exact onePath_nil
      · rcases List.mem_cons.mp hb with rfl | hb
        · exact onePath_nil
        · exact traceL_onePath c f _ p es 0 b hb
theorem traceL_onePath (c : Cfg) (f : Faults) (G : List GiEntry) (p : Path) :
    ∀ (es : List (String × Node)) (k : Nat), ∀ b ∈ traceL c f G p es k, OnePath b
  | [], k, b, hb => by
    simp only [traceL] at hb
    split at hb
    · simp only [List.mem_singleton] at hb; subst hb; exact onePath_nil
    · cases hb
  | (s, n) :: rest, k, b, hb => by
    simp only [traceL] at hb
    split at hb
    · simp only [List.mem_singleton] at hb; subst hb; exact onePath_nil
    · rcases List.mem_append.mp hb with hb | hb
      · exact trace_onePath c f G (p ++ [s]) n b hb
      · exact traceL_onePath c f G p rest (k+1) b hb
end

theorem traceScan_onePath (c : Cfg) (roots : List (Node × Faults)) : ∀ b ∈ traceScan c roots, OnePath b := by
  intro b hb
  unfold traceScan at hb
  obtain ⟨⟨r, f⟩, _, hb⟩ := List.mem_flatMap.mp hb
  simp only [] at hb
  unfold traceRoot at hb
  split at hb
  · split at hb
    · simp only [List.mem_singleton] at hb; subst hb; exact onePath_nil
    · exact trace_onePath c f [] [] r b hb
  · obtain ⟨q, _, hb⟩ := List.mem_flatMap.mp hb
    unfold traceRequested at hb
    split at hb
    · simp only [List.mem_singleton] at hb; subst hb; exact onePath_nil
    · split at hb
      · simp only [List.mem_singleton] at hb; subst hb; exact onePath_nil
      · exact trace_onePath c f _ q _ b hb
      · simp only [List.mem_singleton] at hb; subst hb; exact mustOne_onePath _ f [] _


/-! ### the machine under cancellation -/

/-- once cancelled, the next `handleFile` call (if there is one) fails and nothing is attempted -/
theorem runT_cancelled (c : Cfg) (hm : c.maxInodes = 0) (T : List (List Call)) (a : AS) (hc : a.cancelled = true) :
    (runT c a T).1.calls = a.calls ∧ (runT c a T).2 = (if T = [] then .none else .ctx) ∧
    (runT c a T).1.visited = a.visited + (if T = [] then 0 else 1) := by
  cases T with
  | nil => simp [runT_nil]
  | cons b T =>
    have hp : aPro c a = ({ a with inodes := a.inodes + 1, visited := a.visited + 1 }, some .ctx) := by
      unfold aPro; simp [hm, hc]
    rw [runT_cons_err c a _ _ b T hp]
    simp

theorem runT_cancel (c : Cfg) (k : Nat) (hm : c.maxInodes = 0) (hca : c.cancelAt = some k) :
    ∀ (T : List (List Call)) (a : AS), a.cancelled = false → a.extracts < k →
      (a.extracts + openedCount T.flatten < k →
        (runT c a T).2 = .none ∧ (runT c a T).1.calls = a.calls ++ T.flatten ∧
        (runT c a T).1.visited = a.visited + T.length) ∧
      (k ≤ a.extracts + openedCount T.flatten → ∃ pre blk post, T = pre ++ blk :: post ∧
        a.extracts + openedCount pre.flatten < k ∧ k ≤ a.extracts + openedCount pre.flatten + openedCount blk ∧
        (runT c a T).1.calls = a.calls ++ (pre.flatten ++ blk) ∧
        (runT c a T).2 = (if post = [] then .none else .ctx) ∧
        (runT c a T).1.visited = a.visited + pre.length + 1 + (if post = [] then 0 else 1))
  | [], a, _, hx => by
    refine ⟨fun _ => by simp [runT_nil], fun h => ?_⟩
    simp [openedCount_nil] at h
    omega
  | b :: T, a, hc, hx => by
    rw [runT_cons_ok c a _ b T (aPro_ok c a (by omega) hc)]
    simp only [List.flatten_cons, openedCount_append, List.length_cons]
    by_cases hlt : a.extracts + openedCount b < k
    · -- this call does not reach the k-th Extract
      have ih := runT_cancel c k hm hca T (aBlock c { a with inodes := a.inodes + 1, visited := a.visited + 1 } b)
        (by simp only [aBlock, hc, hca, hits, Bool.false_or, decide_eq_false_iff_not]; omega)
        (by simp only [aBlock]; exact hlt)
      have e1 : (aBlock c { a with inodes := a.inodes + 1, visited := a.visited + 1 } b).extracts = a.extracts + openedCount b := rfl
      have e2 : (aBlock c { a with inodes := a.inodes + 1, visited := a.visited + 1 } b).calls = a.calls ++ b := rfl
      have e3 : (aBlock c { a with inodes := a.inodes + 1, visited := a.visited + 1 } b).visited = a.visited + 1 := rfl
      rw [e1, e2, e3] at ih
      refine ⟨fun h => ?_, fun h => ?_⟩
      · have := ih.1 (by omega)
        refine ⟨this.1, ?_, ?_⟩
        · rw [this.2.1]; simp
        · rw [this.2.2]; omega
      · obtain ⟨pre, blk, post, hT, h1, h2, h3, h4, h5⟩ := ih.2 (by omega)
        refine ⟨b :: pre, blk, post, by rw [hT]; rfl, ?_, ?_, ?_, h4, ?_⟩
        · simp only [List.flatten_cons, openedCount_append]; omega
        · simp only [List.flatten_cons, openedCount_append]; omega
        · rw [h3]; simp
        · rw [h5]; simp only [List.length_cons]; omega
    · -- the k-th Extract happens in this call: its remaining attempts are made, then the scan stops
      have hcan := runT_cancelled c hm T (aBlock c { a with inodes := a.inodes + 1, visited := a.visited + 1 } b)
        (by simp only [aBlock, hc, hca, hits, Bool.false_or, decide_eq_true_eq]; omega)
      have e2 : (aBlock c { a with inodes := a.inodes + 1, visited := a.visited + 1 } b).calls = a.calls ++ b := rfl
      have e3 : (aBlock c { a with inodes := a.inodes + 1, visited := a.visited + 1 } b).visited = a.visited + 1 := rfl
      rw [e2, e3] at hcan
      refine ⟨fun h => by omega, fun _ => ⟨[], b, T, rfl, ?_, ?_, ?_, hcan.2.1, ?_⟩⟩
      · simpa [openedCount_nil] using hx
      · simp only [List.flatten_nil, openedCount_nil]; omega
      · rw [hcan.1]; simp
      · rw [hcan.2.2]; simp only [List.length_nil]

/-! ### the same as a function of the trace (`cancelOutcome`, Spec/WalkCount.lean) -/

theorem cancelOutcome_never (k : Nat) : ∀ (T : List (List Call)) (x : Nat), x + openedCount T.flatten < k →
    cancelOutcome k x T = (T.flatten, .none, T.length)
  | [], x, _ => rfl
  | b :: T, x, h => by
    simp only [List.flatten_cons, openedCount_append] at h
    simp only [cancelOutcome]
    rw [if_neg (by omega), cancelOutcome_never k T (x + openedCount b) (by omega)]
    simp

theorem cancelOutcome_split (k : Nat) (blk : List Call) (post : List (List Call)) :
    ∀ (pre : List (List Call)) (x : Nat), x + openedCount pre.flatten < k →
      k ≤ x + openedCount pre.flatten + openedCount blk →
      cancelOutcome k x (pre ++ blk :: post) =
        (pre.flatten ++ blk, (if post = [] then .none else .ctx), pre.length + 1 + (if post = [] then 0 else 1))
  | [], x, _, h2 => by
    simp only [List.flatten_nil, openedCount_nil, Nat.add_zero] at h2
    simp only [List.nil_append, cancelOutcome]
    rw [if_pos h2]
    simp
  | b :: pre, x, h1, h2 => by
    simp only [List.flatten_cons, openedCount_append] at h1 h2
    simp only [List.cons_append, cancelOutcome]
    rw [if_neg (by omega), cancelOutcome_split k blk post pre (x + openedCount b) (by omega) (by omega)]
    simp only [List.flatten_cons, List.append_assoc, List.length_cons, Prod.mk.injEq, true_and]
    omega

/-- an inode limit is set; errors are not fatal, no cancellation, extractors do not panic -/
def LimitCfg (c : Cfg) : Prop :=
  c.maxInodes > 0 ∧ c.errorOnFSErrors = false ∧ c.cancelBefore = false ∧ c.cancelAt = none ∧
  ∀ e p, (c.extract e p).panics = false

theorem runT_limit (c : Cfg) (hm : c.maxInodes > 0) (hca : c.cancelAt = none) :
    ∀ (T : List (List Call)) (a : AS), a.cancelled = false → a.visited = a.inodes → a.inodes ≤ c.maxInodes →
      (runT c a T).2 = (if a.inodes + T.length > c.maxInodes then .maxInodes else .none) ∧
      (runT c a T).1.visited = min (a.inodes + T.length) c.maxInodes
  | [], a, _, hv, hle => by
    simp only [runT_nil, List.length_nil, Nat.add_zero]
    refine ⟨by rw [if_neg (by omega)], ?_⟩
    rw [hv]; omega
  | b :: T, a, hc, hv, hle => by
    by_cases hover : a.inodes + 1 > c.maxInodes
    · have hp : aPro c a = ({ a with inodes := a.inodes + 1 }, some .maxInodes) := by
        unfold aPro; simp [hm, hover]
      rw [runT_cons_err c a _ _ b T hp]
      simp only [List.length_cons]
      refine ⟨by rw [if_pos (by omega)], ?_⟩
      rw [hv]; omega
    · rw [runT_cons_ok c a _ b T (aPro_ok c a (fun h => hover h.2) hc)]
      have ih := runT_limit c hm hca T (aBlock c { a with inodes := a.inodes + 1, visited := a.visited + 1 } b)
        (by simp [aBlock, hc, hca, hits]) (by simp [aBlock, hv]) (by simp only [aBlock]; omega)
      simp only [aBlock, List.length_cons] at ih ⊢
      refine ⟨?_, ?_⟩
      · rw [ih.1]; congr 1; rw [eq_iff_iff]; omega
      · rw [ih.2]; omega

theorem aPro_visited (c : Cfg) (a : AS) (h : (aPro c a).2 = none) : (aPro c a).1.visited = a.visited + 1 := by
  unfold aPro at h ⊢; simp only [] at h ⊢; split <;> (try split) <;> simp_all

theorem runT_err (c : Cfg) : ∀ (T : List (List Call)) (a : AS),
    (runT c a T).2 = .none ∨ (runT c a T).2 = .maxInodes ∨ (runT c a T).2 = .ctx
  | [], a => Or.inl rfl
  | b :: T, a => by
    rcases h : aPro c a with ⟨a1, o⟩
    cases o with
    | none => rw [runT_cons_ok c a a1 b T h]; exact runT_err c T _
    | some e =>
      rw [runT_cons_err c a a1 e b T h]
      have := aPro_err c a
      rw [h] at this
      rcases this with h1 | h1 | h1
      · cases h1
      · right; left; simpa using h1
      · right; right; simpa using h1

theorem runT_ok_visited (c : Cfg) : ∀ (T : List (List Call)) (a : AS), (runT c a T).2 = .none →
    (runT c a T).1.visited = a.visited + T.length
  | [], a, _ => by simp [runT_nil]
  | b :: T, a, hok => by
    rcases h : aPro c a with ⟨a1, o⟩
    cases o with
    | none =>
      rw [runT_cons_ok c a a1 b T h] at hok ⊢
      have := runT_ok_visited c T _ hok
      rw [this]
      have hv := aPro_visited c a (by rw [h])
      rw [h] at hv
      simp only [aBlock, List.length_cons] at hv ⊢
      omega
    | some e =>
      rw [runT_cons_err c a a1 e b T h] at hok
      have := aPro_ne c a
      rw [h] at this
      simp only [] at hok
      subst hok
      exact absurd rfl this

/-! ### cancelled before the scan: the first `handleFile` call fails, whatever the configuration -/

/-- a state in which the context is cancelled and nothing has been visited yet -/
structure Fresh (s : St) : Prop where
  cancelled : s.cancelled = true
  inodes : s.inodes = 0
  visited : s.visited = 0
  calls : s.calls = []
  giDirs : s.giDirs = []

/-- the outcome of the first call: context error, nothing attempted, one inode reported -/
def CtxOne (r : St × Err) : Prop := r.2 = .ctx ∧ r.1.calls = [] ∧ r.1.visited = 1

theorem prologue_fresh (c : Cfg) (s : St) (h : Fresh s) :
    (prologue c s).2 = some .ctx ∧ (prologue c s).1.calls = [] ∧ (prologue c s).1.visited = 1 ∧
    (prologue c s).1.giDirs = [] := by
  unfold prologue
  have : ¬ (0 < c.maxInodes ∧ c.maxInodes = 0) := by omega
  simp [h.cancelled, h.inodes, h.visited, h.calls, h.giDirs, this]

theorem fserrCall_fresh (c : Cfg) (s : St) (h : Fresh s) : CtxOne (fserrCall c s) := by
  have hp := prologue_fresh c s h
  unfold CtxOne
  rw [fserrCall_snd, fserrCall_fst, hp.1]
  exact ⟨rfl, hp.2.1, hp.2.2.1⟩

theorem walkNode_of_prologue_err (c : Cfg) (f : Faults) (s : St) (p : Path) (n : Node) (e : Err)
    (he : (prologue c s).2 = some e) (hd : (prologue c s).1.giDirs = []) : walkNode c f s p n = ((prologue c s).1, e) := by
  cases n with
  | file k sz => simp only [walkNode, he]
  | dir gi es =>
    simp only [walkNode, he]
    exact popOnExit_nopush c _ p e (by rw [hd]; exact fun _ h => nomatch h)

theorem walkNode_fresh (c : Cfg) (f : Faults) (s : St) (p : Path) (n : Node) (h : Fresh s) : CtxOne (walkNode c f s p n) := by
  obtain ⟨h1, h2, h3, h4⟩ := prologue_fresh c s h
  rw [walkNode_of_prologue_err c f s p n .ctx h1 h4]
  exact ⟨rfl, h2, h3⟩

/-- one requested path, cancelled context: the context error after one visit — except that with
`ErrorOnFSErrors` and gitignore handling an unreadable parent `.gitignore` of a requested directory is
reported (as the filesystem error) before any `handleFile` call -/
theorem walkRequested_fresh (c : Cfg) (f : Faults) (s : St) (root : Node) (p : Path) (h : Fresh s) :
    (walkRequested c f s root p).1.calls = [] ∧
    (CtxOne (walkRequested c f s root p) ∨
     ((walkRequested c f s root p).2 = .fs ∧ (walkRequested c f s root p).1.visited = 0 ∧
       c.errorOnFSErrors = true ∧ c.useGitignore = true)) := by
  have rep := fserrCall_fresh c s h
  rw [walkRequested_eq]
  split
  · exact ⟨rep.2.1, .inl rep⟩
  · cases lookup root p with
    | none => exact ⟨rep.2.1, .inl rep⟩
    | some n =>
      cases n with
      | file k sz => exact ⟨(walkNode_fresh c f s p _ h).2.1, .inl (walkNode_fresh c f s p _ h)⟩
      | dir gi es =>
        simp only []
        split
        · rename_i hf
          simp only [Bool.and_eq_true] at hf
          exact ⟨h.calls, .inr ⟨rfl, h.visited, hf.2, hf.1.1⟩⟩
        · have := walkNode_fresh c f (if c.useGitignore then { s with gis := (parentGis f root p).1 } else s) p (.dir gi es)
            (by split
                · exact ⟨h.cancelled, h.inodes, h.visited, h.calls, h.giDirs⟩
                · exact h)
          exact ⟨this.2.1, .inl this⟩

end Scalibr.Walk
