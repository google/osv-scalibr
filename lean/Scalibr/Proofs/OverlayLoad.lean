/-
C04: the literal lock-step loader (`loadCore`: every chain layer `≥ i` is filled while layer `i`'s tar is read)
computes, at index `j`, exactly the view `viewOf layers j` that the theorems speak about.
-/
import Scalibr.Proofs.Overlay
namespace Scalibr.Overlay

variable (i : Nat)

/-- "apply `g own` to every chain layer from `i` on", `own` = chain layer `i` before the step -/
def ptw (g : Tree → Tree → Tree) (chains : List Tree) : List Tree :=
  chains.mapIdx fun j t => if j < i then t else g (chains.getD i emptyTree) t

theorem ptw_length (g : Tree → Tree → Tree) (chains : List Tree) : (ptw i g chains).length = chains.length := by
  simp [ptw]

theorem ptw_getD (g : Tree → Tree → Tree) (chains : List Tree) (j : Nat) (hj : j < chains.length) :
    (ptw i g chains).getD j emptyTree =
      if j < i then chains.getD j emptyTree else g (chains.getD i emptyTree) (chains.getD j emptyTree) := by
  unfold ptw
  rw [List.getD_eq_getElem?_getD, List.getElem?_mapIdx]
  generalize chains.getD i emptyTree = o
  rw [List.getD_eq_getElem?_getD, List.getElem?_eq_getElem hj]
  by_cases h : j < i <;> simp [h]

theorem ptw_ptw (g1 g2 : Tree → Tree → Tree) (chains : List Tree) (hi : i < chains.length) :
    ptw i g2 (ptw i g1 chains) = ptw i (fun o w => g2 (g1 o o) (g1 o w)) chains := by
  have hown : (ptw i g1 chains).getD i emptyTree = g1 (chains.getD i emptyTree) (chains.getD i emptyTree) := by
    rw [ptw_getD i g1 chains i hi]; simp
  show (ptw i g1 chains).mapIdx (fun j t => if j < i then t else g2 ((ptw i g1 chains).getD i emptyTree) t) = _
  rw [hown]
  unfold ptw
  generalize chains.getD i emptyTree = o
  rw [List.mapIdx_mapIdx]
  apply List.mapIdx_eq_mapIdx_iff.mpr
  intro j _
  by_cases hj : j < i <;> simp [hj]

theorem ptw_id (chains : List Tree) : ptw i (fun _ w => w) chains = chains := by
  unfold ptw
  apply List.ext_getElem?
  intro j
  rw [List.getElem?_mapIdx]
  cases chains[j]? <;> simp

theorem fillNode_eq_ptw (chains : List Tree) (p : Path) (n : Node) :
    fillNode chains i p n = ptw i (fun _ w => fill1 w p n) chains := rfl

def gd (d : Path) (o w : Tree) : Tree := if (o.get d).isSome then w else fill1 w d (implDir i)

theorem popStep_eq_ptw (d : Path) (cs : List Tree) :
    (if ((cs.getD i emptyTree).get d).isSome then cs else fillNode cs i d (implDir i)) = ptw i (gd i d) cs := by
  by_cases h : ((cs.getD i emptyTree).get d).isSome
  · rw [if_pos h]
    have : ptw i (gd i d) cs = ptw i (fun _ w => w) cs := by
      unfold ptw gd
      generalize cs.getD i emptyTree = o at h
      simp [h]
    rw [this, ptw_id]
  · rw [if_neg h, fillNode_eq_ptw]
    unfold ptw gd
    generalize cs.getD i emptyTree = o at h
    simp [h]

/-- the parents fold, second component, as a function of (own, view) -/
def PF (ds : List Path) (o w : Tree) : Tree := (parentsFold i (o, w) ds).2

theorem parentsFold_step (o w : Tree) (d : Path) (ds : List Path) :
    parentsFold i (o, w) (d :: ds) = parentsFold i (gd i d o o, gd i d o w) ds := by
  unfold parentsFold gd
  simp only [List.foldl_cons]
  by_cases h : (o.get d).isSome <;> simp [h]

theorem populate_eq_ptw (ds : List Path) : ∀ (chains : List Tree), i < chains.length →
    ds.foldl (fun cs d => if ((cs.getD i emptyTree).get d).isSome then cs else fillNode cs i d (implDir i)) chains
      = ptw i (PF i ds) chains := by
  induction ds with
  | nil => intro chains _; simp only [List.foldl_nil]; exact (ptw_id i chains).symm
  | cons d ds ih =>
    intro chains hi
    simp only [List.foldl_cons]
    rw [popStep_eq_ptw, ih _ (by rw [ptw_length]; exact hi), ptw_ptw i _ _ chains hi]
    congr 1
    funext o w
    unfold PF
    rw [parentsFold_step]

/-- one tar entry, second component, as a function of (own, view) -/
def ES (e : Entry) (o w : Tree) : Tree := (entryStep i (o, w) e).2

theorem entryStep_pair (e : Entry) (o w : Tree) : entryStep i (o, w) e = (ES i e o o, ES i e o w) := by
  unfold ES entryStep
  by_cases h : (o.get e.p).isSome
  · by_cases hu : upgrades o e = true <;> simp [h, hu]
  · simp only [h]
    rw [parentsFold_diag i (parents e.p) o w]
    rfl

theorem processEntryC_eq_ptw (chains : List Tree) (hi : i < chains.length) (e : Entry) :
    processEntryC i chains e = ptw i (ES i e) chains := by
  unfold processEntryC
  by_cases h : ((chains.getD i emptyTree).get e.p).isSome
  · rw [if_pos h]
    by_cases hu : upgrades (chains.getD i emptyTree) e = true
    · rw [if_pos hu]
      unfold upgradeAll ptw ES entryStep
      generalize chains.getD i emptyTree = o at h hu
      simp [h, hu]
    · rw [if_neg hu]
      have : ptw i (ES i e) chains = ptw i (fun _ w => w) chains := by
        unfold ptw ES entryStep
        generalize chains.getD i emptyTree = o at h hu
        simp [h, hu]
      rw [this, ptw_id]
  · rw [if_neg h]
    unfold fillEntry populate
    rw [populate_eq_ptw i _ chains hi, fillNode_eq_ptw, ptw_ptw i _ _ chains hi]
    unfold ptw ES entryStep PF
    generalize chains.getD i emptyTree = o at h
    simp [h]

/-- one layer, second component, as a function of (own, view) -/
def LS (l : Layer) (o w : Tree) : Tree := (l.foldl (entryStep i) (o, w)).2

theorem LS_cons (e : Entry) (l : Layer) (o w : Tree) :
    LS i (e :: l) o w = LS i l (ES i e o o) (ES i e o w) := by
  unfold LS; simp only [List.foldl_cons]; rw [entryStep_pair]

theorem processLayerC_eq_ptw (l : Layer) : ∀ (chains : List Tree), i < chains.length →
    l.foldl (processEntryC i) chains = ptw i (LS i l) chains := by
  induction l with
  | nil => intro chains _; simp only [List.foldl_nil]; exact (ptw_id i chains).symm
  | cons e l ih =>
    intro chains hi
    simp only [List.foldl_cons]
    rw [processEntryC_eq_ptw i chains hi, ih _ (by rw [ptw_length]; exact hi), ptw_ptw i _ _ chains hi]
    congr 1
    funext o w
    rw [LS_cons]

theorem revLayer_eq_LS (v : Tree) (l : Layer) : revLayer i v l = LS i l (rootTree i) v := rfl

/-- the reverse loop, index by index -/
theorem loadFrom_getD (layers : List Layer) : ∀ (k : Nat) (chains : List Tree), k ≤ chains.length →
    (∀ i, i < k → chains.getD i emptyTree = rootTree i) →
    (loadFrom layers k chains).length = chains.length ∧
    ∀ j, j < chains.length → (loadFrom layers k chains).getD j emptyTree =
      if j < k then revFrom layers (j+1) (rootTree j) else revFrom layers k (chains.getD j emptyTree) := by
  intro k
  induction k with
  | zero =>
    intro chains _ _
    refine ⟨rfl, ?_⟩
    intro j _; simp [loadFrom, revFrom]
  | succ k ih =>
    intro chains hk hroot
    have hkl : k < chains.length := hk
    have hlen := ptw_length k (LS k (layers.getD k [])) chains
    rw [loadFrom, processLayerC_eq_ptw k _ chains hkl]
    obtain ⟨h1, h2⟩ := ih (ptw k (LS k (layers.getD k [])) chains) (hlen ▸ Nat.le_of_lt hkl) fun i hi => by
      rw [ptw_getD _ _ _ _ (Nat.lt_trans hi hkl), if_pos hi]; exact hroot i (Nat.lt_succ_of_lt hi)
    refine ⟨h1.trans hlen, fun j hj => ?_⟩
    rw [h2 j (hlen ▸ hj), ptw_getD _ _ _ _ hj, hroot k (Nat.lt_succ_self k), ← revLayer_eq_LS]
    rcases Nat.lt_trichotomy j k with hjk | rfl | hjk
    · rw [if_pos hjk, if_pos (Nat.lt_succ_of_lt hjk)]
    · rw [if_neg (Nat.lt_irrefl j), if_neg (Nat.lt_irrefl j), if_pos (Nat.lt_succ_self j), hroot j (Nat.lt_succ_self j)]
      rfl
    · rw [if_neg (Nat.lt_asymm hjk), if_neg (Nat.lt_asymm hjk), if_neg (Nat.not_lt.mpr hjk)]
      rfl

theorem initChains_getD (n i : Nat) (hi : i < n) : (initChains n).getD i emptyTree = rootTree i := by
  unfold initChains
  rw [List.getD_eq_getElem?_getD, List.getElem?_map, List.getElem?_range hi]
  rfl

/-- **The lock-step loader computes the views.** -/
theorem loadCore_eq_viewOf (layers : List Layer) (j : Nat) (hj : j < layers.length) :
    (loadCore layers).getD j emptyTree = viewOf layers j := by
  unfold loadCore viewOf
  have hlen : (initChains layers.length).length = layers.length := by simp [initChains]
  obtain ⟨_, h⟩ := loadFrom_getD layers layers.length (initChains layers.length) (by rw [hlen]; exact Nat.le_refl _)
    (fun i hi => initChains_getD _ i hi)
  rw [h j (by rw [hlen]; exact hj)]
  simp [hj]

end Scalibr.Overlay
