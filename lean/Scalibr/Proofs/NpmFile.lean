/-
C13, package.json byte for byte (`Model/NpmFile`): putting entry-wise rewritten sections back into the spans of the
file is a `map` over the spans.  With `Proofs/NpmWriter` for what the sections become, a successful `writeFile` is
`f.map (mapSeg …)`, and a span that no update addresses keeps its bytes.
-/
import Scalibr.Model.NpmFile
import Scalibr.Proofs.NpmWriter
namespace Scalibr.Npm
open Scalibr.Lists

/-- what happens to one span under an entry-wise rewriting `g` of the sections -/
def mapSeg (quote : Str → Str) (g : Str × Str → Str × Str) : Seg → Seg
  | .raw b => .raw b
  | .val s k v b => setSpan quote s k v b (g (k, v)).2

theorem putBack_map (quote : Str → Str) (g : Str × Str → Str × Str) (f : File) :
    putBack quote f ((secOf .dev f).map g) ((secOf .opt f).map g) ((secOf .prod f).map g) = f.map (mapSeg quote g) := by
  induction f with
  | nil => rfl
  | cons x f ih =>
    cases x with
    | raw b => simp only [secOf, putBack, List.map, mapSeg, ih]
    | val s k v b =>
      cases s <;> simp [secOf, putBack, mapSeg, ih]

theorem writeFile_eq (quote : Str → Str) (f f' : File) (us : List Up) (hwf : WFdoc (docOf f)) (h : writeFile quote f us = some f') :
    f' = f.map (mapSeg quote (substAll us)) := by
  unfold writeFile at h
  cases hw : write (docOf f) us with
  | err => simp [hw] at h
  | ok d' =>
    simp only [hw, Option.some.injEq] at h
    rw [← h, write_eq_spec (docOf f) d' us hwf hw, applyAll_eq]
    exact putBack_map quote (substAll us) f

theorem map_unchanged (quote : Str → Str) (g : Str × Str → Str × Str) (f : File)
    (h : ∀ s k v b, Seg.val s k v b ∈ f → (g (k, v)).2 = v) : f.map (mapSeg quote g) = f := by
  apply map_eq_self
  intro x hx
  cases x with
  | raw b => rfl
  | val s k v b => exact if_pos (h s k v b hx)

end Scalibr.Npm
