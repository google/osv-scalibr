/-
Fault containment (C09, clause 2), on the specification: what is owed under an arbitrary fault plan — plans that mix
an unreadable `.gitignore` with any other fault, and scans of requested paths, included — expressed through the
FAULT-FREE rule `mustOne c noFaults`, on the tree from which the contents of the unreadable `.gitignore` files have
been removed (`stripGi`: an unreadable `.gitignore` has exactly the effect of an absent one).  `containedRootAny` is
that right-hand side for one root (any plan, any requested paths); `containedRoot` is the earlier, narrower form for a
whole-tree scan under a plan without unreadable `.gitignore` files, where no tree has to be stripped.  The engine-level
statements are their composition with `run_spec` (Properties/C09.lean).
-/
import Scalibr.Proofs.WalkMore
namespace Scalibr.Walk

def noFaults : Faults := {}

/-- no `.gitignore` is unreadable -/
def NoGiFaults (f : Faults) : Prop := ∀ p : Path, f.openFail (p ++ [".gitignore"]) = false

/-- some fault lies on the way to, or at, this file -/
def faultHits (c : Cfg) (f : Faults) (r : FileRec) : Bool :=
  r.dirs.any (fun d => f.openFail d.path || (List.range (d.childIdx + 1)).any fun k => f.readEntryFail d.path k) ||
  (decide (c.maxFileSize > 0) && f.statFail r.path)

theorem giEntryOf_noFaults (f : Faults) (hg : NoGiFaults f) (d : DirInfo) : giEntryOf f d = giEntryOf noFaults d := by
  unfold giEntryOf; simp [hg d.path, noFaults]

theorem dirPasses_contained_of (c : Cfg) (f : Faults) (above : List GiEntry) (dirs : List DirInfo)
    (hg : ∀ d ∈ dirs, giEntryOf f d = giEntryOf noFaults d) (i : Nat) :
    dirPasses c f above dirs i =
      (dirPasses c noFaults above dirs i &&
        (dirs[i]?).all fun d => !(f.openFail d.path || (List.range (d.childIdx + 1)).any fun k => f.readEntryFail d.path k)) := by
  unfold dirPasses
  have hmap : (dirs.take i).map (giEntryOf f) = (dirs.take i).map (giEntryOf noFaults) :=
    List.map_congr_left (fun d hd => hg d (List.mem_of_mem_take hd))
  cases dirs[i]? with
  | none => simp
  | some d =>
    simp only [hmap, noFaults, Option.all_some]
    cases f.openFail d.path
    · have hall : ((List.range (d.childIdx + 1)).all fun k => !f.readEntryFail d.path k)
          = !((List.range (d.childIdx + 1)).any fun k => f.readEntryFail d.path k) := by
        rw [List.all_eq_not_any_not]; simp
      have htrue : ((List.range (d.childIdx + 1)).all fun _ => true) = true := by simp
      simp [hall, htrue]
    · simp

/-- **Fault containment of the specification**: when the patterns of the directories above a file are the same with
and without the faults, what is owed for it under a fault plan is what is owed without faults — nothing if a fault
lies on the way to it (a failing directory open above it, a failing directory read at or before the entry leading
to it, a failing size check) —, the only other difference being whether the file itself can be opened and stat'ed. -/
theorem mustOne_contained_of (c : Cfg) (f : Faults) (above : List GiEntry) (r : FileRec)
    (hg : ∀ d ∈ r.dirs, giEntryOf f d = giEntryOf noFaults d) :
    mustOne c f above r =
      if faultHits c f r then []
      else (mustOne c noFaults above r).map fun cl => { cl with opened := readable f r } := by
  have hmap : r.dirs.map (giEntryOf f) = r.dirs.map (giEntryOf noFaults) :=
    List.map_congr_left (fun d hd => hg d hd)
  have hreach : reached c f above r =
      (reached c noFaults above r &&
        r.dirs.all fun d => !(f.openFail d.path || (List.range (d.childIdx + 1)).any fun k => f.readEntryFail d.path k)) := by
    unfold reached fileEligible
    rw [hmap]
    have : (List.range r.dirs.length).all (dirPasses c f above r.dirs) =
        (List.range r.dirs.length).all (fun i => dirPasses c noFaults above r.dirs i &&
          (r.dirs[i]?).all fun d => !(f.openFail d.path || (List.range (d.childIdx + 1)).any fun k => f.readEntryFail d.path k)) := by
      congr 1; funext i; exact dirPasses_contained_of c f above r.dirs hg i
    rw [this, Lists.all_range_and, Lists.all_range_getElem]
    exact Bool.and_right_comm _ _ _
  have hsize : sizeOk c f r = (sizeOk c noFaults r && !(decide (c.maxFileSize > 0) && f.statFail r.path)) := by
    unfold sizeOk noFaults
    cases decide (c.maxFileSize > 0) <;> cases f.statFail r.path <;> simp
  have hany : (r.dirs.any fun d => f.openFail d.path || (List.range (d.childIdx + 1)).any fun k => f.readEntryFail d.path k)
      = !(r.dirs.all fun d => !(f.openFail d.path || (List.range (d.childIdx + 1)).any fun k => f.readEntryFail d.path k)) := by
    rw [List.all_eq_not_any_not]; simp
  unfold mustOne faultHits
  rw [hreach, hsize, hany, apply_ite (List.map _), List.map_nil, List.map_map]
  -- a Boolean identity in the four verdicts; the attempts themselves play no role
  generalize reached c noFaults above r = R
  generalize sizeOk c noFaults r = Z
  generalize (r.dirs.all fun d => !(f.openFail d.path || (List.range (d.childIdx + 1)).any fun k => f.readEntryFail d.path k)) = D
  generalize (decide (c.maxFileSize > 0) && f.statFail r.path) = S
  cases R <;> cases Z <;> cases D <;> cases S <;> rfl

theorem mustOne_contained (c : Cfg) (f : Faults) (hg : NoGiFaults f) (above : List GiEntry) (r : FileRec) :
    mustOne c f above r =
      if faultHits c f r then []
      else (mustOne c noFaults above r).map fun cl => { cl with opened := readable f r } :=
  mustOne_contained_of c f above r fun d _ => giEntryOf_noFaults f hg d


/-- what a whole-tree scan of one root owes under fault plan `f`, written with the FAULT-FREE rule
`mustOne c noFaults`: nothing when the root cannot be stat'ed; otherwise every file keeps its fault-free
attempts unless a fault lies on the way to it (`faultHits`), and `opened` records whether the file itself
could be opened and stat'ed -/
def containedRoot (c : Cfg) (f : Faults) (root : Node) : List Call :=
  if f.statFail [] then [] else
  (allFiles [] [] root).flatMap fun r =>
    if faultHits c f r then []
    else (mustOne c noFaults [] r).map fun cl => { cl with opened := readable f r }

/-! ### an unreadable `.gitignore` has exactly the effect of an absent one -/

mutual
/-- the tree with the `.gitignore` content removed from every directory whose `.gitignore` cannot be opened -/
def stripGi (f : Faults) (p : Path) : Node → Node
  | .file k sz => .file k sz
  | .dir gi es => .dir (if f.openFail (p ++ [".gitignore"]) then none else gi) (stripGiL f p es)
def stripGiL (f : Faults) (p : Path) : List (String × Node) → List (String × Node)
  | [] => []
  | (s, n) :: rest => (s, stripGi f (p ++ [s]) n) :: stripGiL f p rest
end

def stripGiD (f : Faults) (d : DirInfo) : DirInfo :=
  { d with gi := if f.openFail (d.path ++ [".gitignore"]) then none else d.gi }
def stripGiR (f : Faults) (r : FileRec) : FileRec := { r with dirs := r.dirs.map (stripGiD f) }

theorem giEntryOf_stripGiD (f : Faults) (d : DirInfo) : giEntryOf f (stripGiD f d) = giEntryOf f d := by
  unfold giEntryOf stripGiD
  by_cases h : f.openFail (d.path ++ [".gitignore"]) = true <;> simp [h]

theorem map_giEntryOf_stripGi (f : Faults) (l : List DirInfo) :
    (l.map (stripGiD f)).map (giEntryOf f) = l.map (giEntryOf f) := by
  simp [List.map_map, Function.comp_def, giEntryOf_stripGiD]

theorem dirPasses_stripGi (c : Cfg) (f : Faults) (above : List GiEntry) (dirs : List DirInfo) (i : Nat) :
    dirPasses c f above (dirs.map (stripGiD f)) i = dirPasses c f above dirs i := by
  unfold dirPasses
  rw [List.getElem?_map]
  cases dirs[i]? with
  | none => rfl
  | some d =>
    simp only [Option.map_some]
    have h1 : (List.take i (dirs.map (stripGiD f))).map (giEntryOf f) = (List.take i dirs).map (giEntryOf f) := by
      rw [← List.map_take, map_giEntryOf_stripGi]
    rw [h1]
    rfl

theorem mustOne_stripGi (c : Cfg) (f : Faults) (above : List GiEntry) (r : FileRec) :
    mustOne c f above (stripGiR f r) = mustOne c f above r := by
  unfold mustOne reached fileEligible sizeOk readable stripGiR
  simp only [List.length_map, map_giEntryOf_stripGi]
  have : (List.range r.dirs.length).all (dirPasses c f above (r.dirs.map (stripGiD f)))
       = (List.range r.dirs.length).all (dirPasses c f above r.dirs) := by
    congr 1; funext i; exact dirPasses_stripGi c f above r.dirs i
  rw [this]

mutual
theorem allFiles_stripGi (f : Faults) (p : Path) : ∀ (n : Node) (anc : List DirInfo),
    allFiles p (anc.map (stripGiD f)) (stripGi f p n) = (allFiles p anc n).map (stripGiR f)
  | .file k sz, anc => by simp [stripGi, allFiles, stripGiR]
  | .dir gi es, anc => by
    simp only [stripGi, allFiles]
    exact allFilesList_stripGi f p gi es anc 0
theorem allFilesList_stripGi (f : Faults) (p : Path) (gi : Option PatSet) : ∀ (es : List (String × Node)) (anc : List DirInfo) (i : Nat),
    allFilesList p (if f.openFail (p ++ [".gitignore"]) then none else gi) (anc.map (stripGiD f)) (stripGiL f p es) i
      = (allFilesList p gi anc es i).map (stripGiR f)
  | [], _, _ => by simp [stripGiL, allFilesList]
  | (s, n) :: rest, anc, i => by
    simp only [stripGiL, allFilesList, List.map_append]
    have h := allFiles_stripGi f (p ++ [s]) n (anc ++ [(⟨p, gi, i⟩ : DirInfo)])
    simp only [List.map_append, List.map_cons, List.map_nil, stripGiD] at h
    rw [h, allFilesList_stripGi f p gi rest anc (i+1)]
end

theorem giEntryOf_noFaults_stripGiD (f : Faults) (d : DirInfo) :
    giEntryOf noFaults (stripGiD f d) = giEntryOf f d := by
  unfold giEntryOf stripGiD noFaults
  by_cases h : f.openFail (d.path ++ [".gitignore"]) = true <;> simp [h]

theorem faultHits_stripGiR (c : Cfg) (f : Faults) (r : FileRec) : faultHits c f (stripGiR f r) = faultHits c f r := by
  unfold faultHits stripGiR
  simp only [List.any_map]
  rfl

theorem readable_stripGiR (f : Faults) (r : FileRec) : readable f (stripGiR f r) = readable f r := rfl

theorem mustOne_contained_any (c : Cfg) (f : Faults) (above : List GiEntry) (r : FileRec) :
    mustOne c f above r =
      if faultHits c f r then []
      else (mustOne c noFaults above (stripGiR f r)).map fun cl => { cl with opened := readable f r } := by
  rw [← mustOne_stripGi c f above r, mustOne_contained_of c f above (stripGiR f r), faultHits_stripGiR, readable_stripGiR]
  intro d hd
  simp only [stripGiR, List.mem_map] at hd
  obtain ⟨d0, _, rfl⟩ := hd
  rw [giEntryOf_stripGiD, giEntryOf_noFaults_stripGiD]

/-- fault-free attempts of the files of a (sub)tree that no fault lies on the way to, on the tree from which
the unreadable `.gitignore` contents have been removed -/
def containedFromAny (c : Cfg) (f : Faults) (above : List GiEntry) (p : Path) (n : Node) : List Call :=
  (allFiles p [] (stripGi f p n)).flatMap fun r =>
    if faultHits c f r then []
    else (mustOne c noFaults above r).map fun cl => { cl with opened := readable f r }

def containedRequestedAny (c : Cfg) (f : Faults) (root : Node) (p : Path) : List Call :=
  if f.statFail p then [] else
  match lookup root p with
  | none => []
  | some (.dir gi es) =>
    containedFromAny c f (if c.useGitignore then (parentGis f root p).1 else []) p (.dir gi es)
  | some (.file k sz) =>
    if faultHits { c with useGitignore := false } f ⟨p, statKind k, sz, []⟩ then []
    else (mustOne { c with useGitignore := false } noFaults [] ⟨p, statKind k, sz, []⟩).map
      fun cl => { cl with opened := readable f ⟨p, statKind k, sz, []⟩ }

def containedRootAny (c : Cfg) (f : Faults) (root : Node) : List Call :=
  if c.paths.isEmpty then (if f.statFail [] then [] else containedFromAny c f [] [] root)
  else c.paths.flatMap (containedRequestedAny c f root)

theorem mustFrom_contained_any (c : Cfg) (f : Faults) (above : List GiEntry) (p : Path) (n : Node) :
    mustFrom c f above p n =
      (allFiles p [] (stripGi f p n)).flatMap fun r =>
        if faultHits c f r then []
        else (mustOne c noFaults above r).map fun cl => { cl with opened := readable f r } := by
  unfold mustFrom
  have := allFiles_stripGi f p n []
  simp only [List.map_nil] at this
  rw [this, List.flatMap_map]
  apply Lists.flatMap_congr
  intro r _
  rw [faultHits_stripGiR, readable_stripGiR]
  exact mustOne_contained_any c f above r

theorem mustRequested_contained_any (c : Cfg) (f : Faults) (root : Node) (p : Path) :
    mustRequested c f root p = containedRequestedAny c f root p := by
  unfold mustRequested containedRequestedAny
  split
  · rfl
  · cases lookup root p with
    | none => rfl
    | some n =>
      cases n with
      | file k sz =>
        simp only []
        rw [mustOne_contained_any]
        rfl
      | dir gi es =>
        simp only []
        exact mustFrom_contained_any c f _ p _

theorem mustRoot_contained_any (c : Cfg) (f : Faults) (root : Node) :
    mustRoot c f root = containedRootAny c f root := by
  unfold mustRoot containedRootAny
  split
  · split
    · rfl
    · exact mustFrom_contained_any c f [] [] root
  · exact Lists.flatMap_congr (fun p _ => mustRequested_contained_any c f root p)

/-! ### the gitignore context of a requested directory, fault-free form

The patterns `ParseParentGitignores` collects under plan `f` are those collected WITHOUT faults on the
stripped tree: so `above` in `containedRequestedAny` is itself a fault-free quantity. -/

theorem find?_stripGiL (f : Faults) (p : Path) (s : String) : ∀ (es : List (String × Node)),
    (stripGiL f p es).find? (·.1 = s) = (es.find? (·.1 = s)).map fun x => (x.1, stripGi f (p ++ [s]) x.2)
  | [] => by simp [stripGiL]
  | (t, n) :: rest => by
    simp only [stripGiL, List.find?_cons]
    by_cases h : t = s
    · subst h; simp
    · simp [h, find?_stripGiL f p s rest]

theorem lookup_stripGi (f : Faults) : ∀ (q p : Path) (n : Node),
    lookup (stripGi f p n) q = (lookup n q).map (stripGi f (p ++ q))
  | [], p, n => by simp [lookup]
  | s :: rest, p, .file k sz => by simp [stripGi, lookup]
  | s :: rest, p, .dir gi es => by
    simp only [stripGi, lookup, find?_stripGiL]
    cases es.find? (·.1 = s) with
    | none => simp
    | some x =>
      obtain ⟨t, ch⟩ := x
      simp only [Option.map_some]
      rw [lookup_stripGi f rest (p ++ [s]) ch]
      simp [List.append_assoc]

theorem giOfDir_stripGi (f : Faults) (root : Node) (d : Path) :
    giOfDir noFaults (stripGi f [] root) d = giOfDir f root d := by
  unfold giOfDir
  rw [lookup_stripGi]
  simp only [noFaults, Bool.false_eq_true, if_false, List.nil_append]
  cases lookup root d with
  | none => simp
  | some n =>
    cases n with
    | file k sz => simp [stripGi]
    | dir gi es =>
      simp only [Option.map_some, stripGi]
      cases f.openFail (d ++ [".gitignore"])
      · simp only [Bool.false_eq_true, if_false]
        cases gi <;> rfl
      · simp

theorem parentGis_stripGi (f : Faults) (root : Node) (p : Path) :
    (parentGis noFaults (stripGi f [] root) p).1 = (parentGis f root p).1 := by
  unfold parentGis
  simp only []
  exact List.map_congr_left (fun d _ => giOfDir_stripGi f root d)


/-! ### examples (specification side, by evaluation) -/

namespace ContainAnyEx

def exC : Cfg := { nExt := 1, required := fun _ _ => true, extract := fun _ _ => {}, useGitignore := true,
                   giMatch := matcherMatch }
/-- `a/.gitignore` ignores `a/x`; `b` holds two files -/
def exTree : Node :=
  .dir none [("a", .dir (some [⟨"x", false, false⟩]) [("x", .file .reg 1), ("y", .file .reg 1)]),
             ("b", .dir none [("v", .file .reg 1), ("w", .file .reg 1)])]
/-- BOTH an unreadable `a/.gitignore` AND a failing second read of directory `b` -/
def exPlan : Faults :=
  { openFail := fun p => p = ["a", ".gitignore"], readEntryFail := fun p k => p = ["b"] && k = 1 }

example : Benign exC ∧ GiOK exC := ⟨⟨rfl, rfl, rfl, rfl, fun _ _ => rfl⟩, matcherMatch_domain⟩
example : ¬ NoGiFaults exPlan := by intro h; have := h ["a"]; revert this; decide

/-- the mixed plan: the otherwise ignored `a/x` is owed, `b/w` (after the failing read) is lost, `b/v` is kept -/
example : containedRootAny exC exPlan exTree = mustRoot exC exPlan exTree ∧
    mustRoot exC exPlan exTree = [⟨0, ["a", "x"], 1, true⟩, ⟨0, ["a", "y"], 1, true⟩, ⟨0, ["b", "v"], 1, true⟩] := by decide
/-- with a readable `a/.gitignore` the file `a/x` is ignored -/
example : mustRoot exC { readEntryFail := fun p k => p = ["b"] && k = 1 } exTree
    = [⟨0, ["a", "y"], 1, true⟩, ⟨0, ["b", "v"], 1, true⟩] := by decide
/-- requested paths (a directory below the unreadable `.gitignore`'s directory, and a file), same mixed plan
plus a file that cannot be opened -/
example :
    let c := { exC with paths := [["a"], ["b", "w"]] }
    let f : Faults := { exPlan with openFail := fun p => p = ["a", ".gitignore"] || p = ["a", "y"] }
    containedRootAny c f exTree = mustRoot c f exTree ∧
    mustRoot c f exTree = [⟨0, ["a", "x"], 1, true⟩, ⟨0, ["a", "y"], 1, false⟩, ⟨0, ["b", "w"], 1, true⟩] := by decide
/-- an unreadable ROOT `.gitignore` seen from a requested sub-directory, mixed with a failing directory open -/
example :
    let c := { exC with paths := [["a"], ["b"]] }
    let t : Node := .dir (some [⟨"y", false, false⟩]) [("a", .dir none [("x", .file .reg 1), ("y", .file .reg 1)]),
                                                        ("b", .dir none [("y", .file .reg 1)])]
    let f : Faults := { openFail := fun p => p = [".gitignore"] || p = ["b"] }
    containedRootAny c f t = mustRoot c f t ∧
    mustRoot c f t = [⟨0, ["a", "x"], 1, true⟩, ⟨0, ["a", "y"], 1, true⟩] ∧
    mustRoot c {} t = [⟨0, ["a", "x"], 1, true⟩] := by decide

end ContainAnyEx

end Scalibr.Walk
