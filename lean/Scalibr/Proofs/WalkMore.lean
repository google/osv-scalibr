/-
Further facts about model A and its specification used by the property files: the comparator of the results is a
strict total order (C08); no (extractor, file) pair is owed twice on trees with distinct sibling names (C01); what a
cancelled state does to the prologue (C10).
-/
import Scalibr.Proofs.WalkSpec
import Scalibr.Model.Scan
namespace Scalibr.Walk

theorem keyLt_strictTotal : StrictTotal keyLt :=
  prodLt_strictTotal ltBytes_strictTotal (prodLt_strictTotal ltBytes_strictTotal
    (prodLt_strictTotal ltBytes_strictTotal ltBytes_strictTotal))

/-! ### distinct sibling names ⇒ no call is owed twice -/

mutual
def DistinctNames : Node → Prop
  | .file _ _ => True
  | .dir _ es => (es.map (·.1)).Nodup ∧ DistinctNamesL es
def DistinctNamesL : List (String × Node) → Prop
  | [] => True
  | (_, n) :: rest => DistinctNames n ∧ DistinctNamesL rest
end

theorem DistinctNamesL_mem {es : List (String × Node)} (h : DistinctNamesL es) {x : String × Node} (hx : x ∈ es) :
    DistinctNames x.2 := by
  induction es with
  | nil => cases hx
  | cons e rest ih =>
    obtain ⟨t, n⟩ := e
    unfold DistinctNamesL at h
    rcases List.mem_cons.mp hx with rfl | hx
    · exact h.1
    · exact ih h.2 hx

mutual
theorem allFiles_path (p : Path) (anc : List DirInfo) :
    ∀ (n : Node) (r : FileRec), r ∈ allFiles p anc n → p.length ≤ r.path.length ∧ r.path.take p.length = p
  | .file k sz, r, hr => by simp [allFiles] at hr; subst hr; simp
  | .dir gi es, r, hr => by
    simp only [allFiles] at hr
    have ⟨s, _, h1, h2⟩ := allFilesList_path p gi anc es 0 r hr
    simp only [List.length_append, List.length_singleton] at h1
    refine ⟨by omega, ?_⟩
    have : (r.path.take (p.length + 1)).take p.length = (p ++ [s]).take p.length := by rw [h2]
    simpa [List.take_take, Nat.min_eq_left (Nat.le_succ _)] using this
theorem allFilesList_path (p : Path) (gi : Option PatSet) (anc : List DirInfo) :
    ∀ (es : List (String × Node)) (i : Nat) (r : FileRec), r ∈ allFilesList p gi anc es i →
      ∃ s, s ∈ es.map (·.1) ∧ (p ++ [s]).length ≤ r.path.length ∧ r.path.take (p.length + 1) = p ++ [s]
  | [], _, r, hr => by simp [allFilesList] at hr
  | (s, n) :: rest, i, r, hr => by
    simp only [allFilesList, List.mem_append] at hr
    rcases hr with hr | hr
    · have ⟨h1, h2⟩ := allFiles_path (p ++ [s]) (anc ++ [⟨p, gi, i⟩]) n r hr
      exact ⟨s, by simp, h1, by simpa using h2⟩
    · have ⟨t, ht, h⟩ := allFilesList_path p gi anc rest (i+1) r hr
      exact ⟨t, by simp [ht], h⟩
end

/-- the (extractor, file) pair of an attempt -/
def callKey (cl : Call) : Nat × Path := (cl.ext, cl.path)

theorem mustOne_keys_nodup (c : Cfg) (f : Faults) (above : List GiEntry) (r : FileRec) :
    ((mustOne c f above r).map callKey).Nodup := by
  unfold mustOne
  split
  · have hf : ((List.range c.nExt).filter fun e => c.required e r.path).Nodup :=
      List.Nodup.sublist List.filter_sublist List.nodup_range
    rw [List.map_map]
    exact List.Pairwise.map _ (fun a b hne h => hne (by simpa [callKey] using h)) hf
  · exact List.nodup_nil

mutual
theorem mustFlat_keys_nodup (c : Cfg) (f : Faults) (above : List GiEntry) (p : Path) (anc : List DirInfo) :
    ∀ (n : Node), DistinctNames n → (((allFiles p anc n).flatMap (mustOne c f above)).map callKey).Nodup
  | .file k sz, _ => by simpa [allFiles] using mustOne_keys_nodup c f above _
  | .dir gi es, h => by
    simp only [allFiles]
    unfold DistinctNames at h
    exact mustFlatL_keys_nodup c f above p gi anc es 0 h.1 h.2
theorem mustFlatL_keys_nodup (c : Cfg) (f : Faults) (above : List GiEntry) (p : Path) (gi : Option PatSet) (anc : List DirInfo) :
    ∀ (es : List (String × Node)) (i : Nat), (es.map (·.1)).Nodup → DistinctNamesL es →
      (((allFilesList p gi anc es i).flatMap (mustOne c f above)).map callKey).Nodup
  | [], _, _, _ => by simp [allFilesList]
  | (s, n) :: rest, i, hnd, hd => by
    simp only [allFilesList, List.flatMap_append, List.map_append]
    unfold DistinctNamesL at hd
    simp only [List.map_cons, List.nodup_cons] at hnd
    rw [List.nodup_append]
    refine ⟨mustFlat_keys_nodup c f above (p ++ [s]) _ n hd.1, mustFlatL_keys_nodup c f above p gi anc rest (i+1) hnd.2 hd.2, ?_⟩
    intro a ha b hb hab
    subst hab
    obtain ⟨cl1, hc1, hk1⟩ := List.mem_map.mp ha
    obtain ⟨cl2, hc2, hk2⟩ := List.mem_map.mp hb
    simp only [List.mem_flatMap] at hc1 hc2
    obtain ⟨r1, hr1, ha⟩ := hc1
    obtain ⟨r2, hr2, hb⟩ := hc2
    have e1 := (mem_mustOne ha).1
    have e2 := (mem_mustOne hb).1
    have hpath : cl1.path = cl2.path := by
      have := hk1.trans hk2.symm
      simp only [callKey, Prod.mk.injEq] at this
      exact this.2
    have ⟨_, p1⟩ := allFiles_path (p ++ [s]) _ n r1 hr1
    have ⟨t, ht, _, p2⟩ := allFilesList_path p gi anc rest (i+1) r2 hr2
    simp only [List.length_append, List.length_singleton] at p1
    rw [← e1, hpath, e2] at p1
    rw [p1] at p2
    have : s = t := by simpa using p2
    subst this
    exact hnd.1 ht
end

theorem mustFlat_nodup (c : Cfg) (f : Faults) (above : List GiEntry) (p : Path) (anc : List DirInfo) :
    ∀ (n : Node), DistinctNames n → ((allFiles p anc n).flatMap (mustOne c f above)).Nodup :=
  fun n h => (mustFlat_keys_nodup c f above p anc n h).of_map callKey fun _ _ hne hab => hne (congrArg callKey hab)

theorem mustFlatL_nodup (c : Cfg) (f : Faults) (above : List GiEntry) (p : Path) (gi : Option PatSet) (anc : List DirInfo) :
    ∀ (es : List (String × Node)) (i : Nat), (es.map (·.1)).Nodup → DistinctNamesL es →
      ((allFilesList p gi anc es i).flatMap (mustOne c f above)).Nodup :=
  fun es i hnd hd => (mustFlatL_keys_nodup c f above p gi anc es i hnd hd).of_map callKey
    fun _ _ hne hab => hne (congrArg callKey hab)

/-! ### a cancelled walk (C10) -/

theorem prologue_cancelled (c : Cfg) (s : St) (hc : s.cancelled = true) :
    ((prologue c s).2 = some .maxInodes ∨ (prologue c s).2 = some .ctx) ∧
    (prologue c s).1.calls = s.calls ∧ (prologue c s).1.cancelled = true := by
  unfold prologue
  simp only []
  split
  · simp [hc]
  · simp [hc]

theorem fserrCall_cancelled (c : Cfg) (s : St) (hc : s.cancelled = true) :
    (fserrCall c s).2 ≠ .none ∧ (fserrCall c s).1.calls = s.calls := by
  have hp := prologue_cancelled c s hc
  rw [fserrCall_snd, fserrCall_fst]
  refine ⟨?_, hp.2.1⟩
  rcases hp.1 with h | h <;> rw [h] <;> simp

/-! ### one changed `Extract` outcome (C02) -/

/-- the configuration in which `Extract` of extractor `e0` on file `p0` has outcome `out`; everything else as in `c` -/
def withOutcome (c : Cfg) (e0 : Nat) (p0 : Path) (out : ExtractOut) : Cfg :=
  { c with extract := fun e p => if e = e0 ∧ p = p0 then out else c.extract e p }

theorem withOutcome_other (c : Cfg) (e0 : Nat) (p0 : Path) (out : ExtractOut) (e : Nat) (p : Path)
    (h : ¬ (e = e0 ∧ p = p0)) : (withOutcome c e0 p0 out).extract e p = c.extract e p := by
  simp [withOutcome, h]

theorem withOutcome_benign {c : Cfg} (hb : Benign c) (e0 : Nat) (p0 : Path) (out : ExtractOut) (ho : out.panics = false) :
    Benign (withOutcome c e0 p0 out) := by
  obtain ⟨h1, h2, h3, h4, h5⟩ := hb
  refine ⟨h1, h2, h3, h4, ?_⟩
  intro e p
  by_cases h : e = e0 ∧ p = p0
  · simp [withOutcome, h, ho]
  · rw [withOutcome_other c e0 p0 out e p h]; exact h5 e p

/-- the specification never looks at an `Extract` result -/
theorem mustExtract_withOutcome (c : Cfg) (e0 : Nat) (p0 : Path) (out : ExtractOut) (roots : List (Node × Faults)) :
    mustExtract (withOutcome c e0 p0 out) roots = mustExtract c roots := rfl
theorem mustRoot_withOutcome (c : Cfg) (e0 : Nat) (p0 : Path) (out : ExtractOut) (f : Faults) (r : Node) :
    mustRoot (withOutcome c e0 p0 out) f r = mustRoot c f r := rfl

theorem pkgsOfCalls_congr (c c' : Cfg) (cs : List Call)
    (h : ∀ cl ∈ cs, c'.extract cl.ext cl.path = c.extract cl.ext cl.path) : pkgsOfCalls c' cs = pkgsOfCalls c cs := by
  induction cs with
  | nil => rfl
  | cons cl cs ih =>
    have h1 := h cl (by simp)
    have h2 := ih (fun x hx => h x (by simp [hx]))
    simp only [pkgsOfCalls, List.flatMap_cons] at h2 ⊢
    rw [h1, h2]

theorem flags_congr (c c' : Cfg) (e : Nat) (cs : List Call)
    (h : ∀ cl ∈ cs, cl.ext = e → c'.extract cl.ext cl.path = c.extract cl.ext cl.path) :
    (errsOfCalls c' cs).contains e = (errsOfCalls c cs).contains e ∧
    (foundOfCalls c' cs).contains e = (foundOfCalls c cs).contains e := by
  refine ⟨Bool.eq_iff_iff.mpr ?_, Bool.eq_iff_iff.mpr ?_⟩
  · simp only [List.contains_iff_mem, mem_errsOfCalls]
    exact exists_congr fun cl => and_congr_right fun hcl => and_congr_right fun he => by rw [h cl hcl he]
  · simp only [List.contains_iff_mem, mem_foundOfCalls]
    exact exists_congr fun cl => and_congr_right fun hcl => and_congr_right fun he => by rw [h cl hcl he]

theorem filter_status_map (g : Nat → Status) (e0 : Nat) (l : List Nat) :
    ((l.map fun e => (e, g e)).filter fun x => x.1 != e0) = (l.filter fun e => e != e0).map fun e => (e, g e) := by
  induction l with
  | nil => rfl
  | cons a l ih =>
    simp only [List.map_cons, List.filter_cons, ih]
    split <;> simp

end Scalibr.Walk
