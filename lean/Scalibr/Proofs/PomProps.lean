/-
C13, `generatePropertyPatches` (`Model/PomProps`).  One unfolding of the recursion shows that every slice index comes
from a `strings.Index` answer and is in range: that gives totality (no panic) and adequacy of the recursion bound.
Soundness, that interpolating the old string with the returned map gives the new one, follows the same unfolding, with
`setPatch` (fix d4dd80ce) keeping one value per name.
-/
import Scalibr.Spec.PomProps
namespace Scalibr.Pom

theorem indexOf_some (sub s : Str) (i : Nat) (h : indexOf sub s = some i) :
    i ≤ s.length ∧ ∃ t, s.drop i = sub ++ t := by
  fun_induction indexOf sub s generalizing i with
  | case1 hs => exact Option.some.inj h ▸ ⟨Nat.le_refl _, [], by rw [hs]; rfl⟩
  | case2 => cases h
  | case3 c cs hp =>
    obtain ⟨t, ht⟩ := List.isPrefixOf_iff_prefix.mp hp
    exact Option.some.inj h ▸ ⟨Nat.zero_le _, t, ht.symm⟩
  | case4 c cs hp ih =>
    obtain ⟨j, hj, rfl⟩ := Option.map_eq_some_iff.mp h
    exact ⟨Nat.succ_le_succ (ih j hj).1, (ih j hj).2⟩

theorem indexOf_le (sub s : Str) (i : Nat) (h : indexOf sub s = some i) :
    i + sub.length ≤ s.length := by
  obtain ⟨hi, t, ht⟩ := indexOf_some sub s i h
  have := congrArg List.length ht
  rw [List.length_drop, List.length_append] at this
  omega

/-- the first occurrence of a single character, seen from any earlier position -/
theorem indexOf_char_drop (c : Char) (s : Str) (e k : Nat) (h : indexOf [c] s = some e) (hk : k ≤ e) :
    indexOf [c] (s.drop k) = some (e - k) := by
  induction k generalizing s e with
  | zero => exact h
  | succ k ih =>
    cases s with
    | nil => cases h
    | cons x xs =>
      rw [indexOf] at h
      split at h
      · exact absurd (Option.some.inj h) (by omega)
      · obtain ⟨j, hj, rfl⟩ := Option.map_eq_some_iff.mp h
        rw [List.drop_succ_cons, ih xs j hj (by omega), Nat.add_sub_add_right]
theorem slice_some (s : Str) (a b : Nat) (h1 : a ≤ b) (h2 : b ≤ s.length) :
    slice s a b = some ((s.drop a).take (b - a)) := by
  simp [slice, h1, h2]

theorem slice_eq (s : Str) (a b : Nat) (x : Str) (h : slice s a b = some x) :
    x = (s.drop a).take (b - a) ∧ a ≤ b ∧ b ≤ s.length := by
  unfold slice at h
  split at h
  · injection h with h; rename_i hc; exact ⟨h.symm, hc.1, hc.2⟩
  · cases h

/-- `}` cannot sit on the `$` or the `{` of the first placeholder -/
theorem close_after_open (s : Str) (start e : Nat) (hs : indexOf dollarBrace s = some start)
    (he : indexOf closeBrace s = some e) (hle : start ≤ e) : start + 2 ≤ e := by
  obtain ⟨-, t, ht⟩ := indexOf_some _ _ _ hs
  obtain ⟨-, t', ht'⟩ := indexOf_some _ _ _ he
  by_cases h0 : e = start
  · subst h0; rw [ht] at ht'; simp [dollarBrace, closeBrace] at ht'
  · by_cases h1 : e = start + 1
    · subst h1
      have : s.drop (start + 1) = (s.drop start).drop 1 := by simp
      rw [this, ht] at ht'
      simp [dollarBrace, closeBrace] at ht'
    · omega

theorem take_full (s : Str) (k : Nat) : (s.drop k).take (s.length - k) = s.drop k := by
  apply List.take_of_length_le; simp

/-- The answer is "no", or the first placeholder `${name}` of `s1` (`start`, closing brace at `e`) was given the next `m`
characters of `s2` — and then, `k`, either this was the last placeholder and the rest of `s1` is the rest of `s2`, or the
call recurs on the two rests. -/
theorem aux_succ (n : Nat) (s1 s2 : Str) (acc : List (Str × Str)) :
    aux (n + 1) s1 s2 acc = .no ∨
    ∃ start e m k, indexOf dollarBrace s1 = some start ∧ indexOf closeBrace s1 = some e ∧ start + 2 ≤ e ∧
      s1.take start = s2.take start ∧
      aux (n + 1) s1 s2 acc =
        (match setPatch acc ((s1.drop (start + 2)).take (e - (start + 2))) ((s2.drop start).take m) with
         | some acc' => k acc' | none => .no) ∧
      ((k = .ok ∧ indexOf dollarBrace (s1.drop (e + 1)) = none ∧ s1.drop (e + 1) = s2.drop (start + m)) ∨
       k = aux n (s1.drop (e + 1)) (s2.drop (start + m))) := by
  generalize hr : aux (n + 1) s1 s2 acc = r
  unfold aux at hr
  cases hs : indexOf dollarBrace s1 with
  | none => simp only [hs] at hr; exact Or.inl hr.symm
  | some start =>
    simp only [hs] at hr
    have hsl := indexOf_le _ _ _ hs
    simp only [dollarBrace, List.length_cons, List.length_nil] at hsl
    by_cases hlen : s2.length < start
    · rw [if_pos hlen] at hr; exact Or.inl hr.symm
    rw [if_neg hlen, slice_some s1 0 start (by omega) (by omega), slice_some s2 0 start (by omega) (by omega)] at hr
    simp only [List.drop_zero, Nat.sub_zero] at hr
    by_cases hp : s1.take start = s2.take start
    case neg => rw [if_pos hp] at hr; exact Or.inl hr.symm
    rw [if_neg (not_not_intro hp)] at hr
    cases he : indexOf closeBrace s1 with
    | none => simp only [he] at hr; exact Or.inl hr.symm
    | some e =>
      simp only [he] at hr
      have hel := indexOf_le _ _ _ he
      simp only [closeBrace, List.length_cons, List.length_nil] at hel
      by_cases hes : e < start
      · rw [if_pos hes] at hr; exact Or.inl hr.symm
      have h2 := close_after_open s1 start e hs he (by omega)
      rw [if_neg hes, slice_some s1 (e + 1) s1.length (by omega) (by omega), take_full] at hr
      simp only at hr
      suffices h : r = .no ∨ ∃ m k,
          r = (match setPatch acc ((s1.drop (start + 2)).take (e - (start + 2))) ((s2.drop start).take m) with
            | some acc' => k acc' | none => .no) ∧
          ((k = .ok ∧ indexOf dollarBrace (s1.drop (e + 1)) = none ∧ s1.drop (e + 1) = s2.drop (start + m)) ∨
            k = aux n (s1.drop (e + 1)) (s2.drop (start + m))) from
        h.imp_right fun ⟨m, k, h⟩ => ⟨start, e, m, k, rfl, rfl, h2, hp, h⟩
      have hrl : (s1.drop (e + 1)).length = s1.length - (e + 1) := List.length_drop
      generalize hrest : s1.drop (e + 1) = rest at hr hrl ⊢
      cases hn : indexOf dollarBrace rest with
      | none =>
        simp only [hn] at hr
        by_cases hl : s2.length < rest.length + start
        · rw [if_pos hl] at hr; exact Or.inl hr.symm
        rw [if_neg hl, slice_some s2 (s2.length - rest.length) s2.length (by omega) (by omega), take_full] at hr
        simp only at hr
        by_cases heq : rest = s2.drop (s2.length - rest.length)
        case neg => rw [if_neg heq] at hr; exact Or.inl hr.symm
        rw [if_pos heq, slice_some s1 (start + 2) e (by omega) (by omega),
          slice_some s2 start (s2.length - rest.length) (by omega) (by omega)] at hr
        refine Or.inr ⟨s2.length - rest.length - start, .ok, hr.symm, Or.inl ⟨rfl, rfl, ?_⟩⟩
        rwa [show start + (s2.length - rest.length - start) = s2.length - rest.length by omega]
      | some next =>
        simp only [hn] at hr
        have hnl := indexOf_le _ _ _ hn
        simp only [dollarBrace, List.length_cons, List.length_nil] at hnl
        have hmid : (s1.drop (e + 1)).take (e + 1 + next - (e + 1)) = rest.take next := by
          rw [hrest, Nat.add_sub_cancel_left]
        rw [slice_some s1 (e + 1) (e + 1 + next) (by omega) (by omega),
          slice_some s2 start s2.length (by omega) (by omega), take_full, hmid] at hr
        simp only at hr
        cases hm : indexOf (rest.take next) (s2.drop start) with
        | none => simp only [hm] at hr; exact Or.inl hr.symm
        | some m =>
          simp only [hm] at hr
          by_cases hm0 : m > 0
          case neg => rw [if_neg hm0] at hr; exact Or.inl hr.symm
          have hml := indexOf_le _ _ _ hm
          simp only [List.length_drop] at hml
          rw [if_pos hm0, slice_some s1 (start + 2) e (by omega) (by omega),
            slice_some s2 start (start + m) (by omega) (by omega),
            slice_some s2 (start + m) s2.length (by omega) (by omega), take_full, Nat.add_sub_cancel_left] at hr
          exact Or.inr ⟨m, _, hr.symm, Or.inr rfl⟩

/-! ### no slice is ever out of range, and the recursion bound is adequate -/

theorem aux_total (n : Nat) (s1 s2 : Str) (acc : List (Str × Str)) : aux n s1 s2 acc ≠ .panic := by
  induction n generalizing s1 s2 acc with
  | zero => simp [aux]
  | succ n ih =>
    rcases aux_succ n s1 s2 acc with h | ⟨start, e, m, k, -, -, -, -, h, hk⟩ <;> rw [h]
    · simp
    split
    · rcases hk with ⟨rfl, -⟩ | rfl
      · simp
      · exact ih _ _ _
    · simp

/-- adequacy of the recursion bound: with more fuel than `s1` is long the bound is never hit -/
theorem aux_fuel (n : Nat) (s1 s2 : Str) (acc : List (Str × Str)) (hn : s1.length < n) : aux n s1 s2 acc ≠ .fuel := by
  induction n generalizing s1 s2 acc with
  | zero => omega
  | succ n ih =>
    rcases aux_succ n s1 s2 acc with h | ⟨start, e, m, k, -, he, -, -, h, hk⟩ <;> rw [h]
    · simp
    split
    · rcases hk with ⟨rfl, -⟩ | rfl
      · simp
      · have : e + 1 ≤ s1.length := indexOf_le closeBrace s1 e he
        exact ih _ _ _ (by rw [List.length_drop]; omega)
    · simp

theorem gen_fuel (s1 s2 : Str) : gen s1 s2 ≠ .fuel := aux_fuel _ _ _ _ (by omega)

theorem gen_total (s1 s2 : Str) : gen s1 s2 ≠ .panic := aux_total _ _ _ _


/-! ### soundness -/

/-- the spec's scan finds the same placeholder the code cut out -/
theorem subst_step (σ : Str → Option Str) (F : Nat) (s : Str) (start e : Nat)
    (hs : indexOf dollarBrace s = some start) (he : indexOf closeBrace s = some e) (h2 : start + 2 ≤ e)
    (v : Str) (hv : σ ((s.drop (start + 2)).take (e - (start + 2))) = some v) :
    subst σ (F + 1) s = s.take start ++ v ++ subst σ F (s.drop (e + 1)) := by
  have hc := indexOf_char_drop '}' s e (start + 2) he h2
  simp only [subst, hs]
  have : indexOf closeBrace (s.drop (start + 2)) = some (e - (start + 2)) := hc
  simp only [this, hv, List.drop_drop]
  have : start + 2 + (e - (start + 2) + 1) = e + 1 := by omega
  rw [this]

theorem subst_none (σ : Str → Option Str) (F : Nat) (s : Str) (h : indexOf dollarBrace s = none) :
    subst σ F s = s := by
  cases F with
  | zero => rfl
  | succ F => simp [subst, h]

theorem setPatch_some (acc acc' : List (Str × Str)) (n v : Str) (h : setPatch acc n v = some acc') :
    acc' = acc ++ [(n, v)] ∧ ∀ w, lookupLast acc n = some w → w = v := by
  unfold setPatch at h
  split at h
  · rename_i w hl
    split at h
    · cases h
    · rename_i hne
      exact ⟨(Option.some.inj h).symm, fun w' hw' => Option.some.inj (hw'.symm.trans hl) ▸ Decidable.of_not_not hne⟩
  · rename_i hl
    exact ⟨(Option.some.inj h).symm, fun w hw => nomatch hl.symm.trans hw⟩

theorem lookupLast_mem (ps : List (Str × Str)) (k w : Str) (h : lookupLast ps k = some w) : (k, w) ∈ ps := by
  rw [lookupLast, Option.map_eq_some_iff] at h
  obtain ⟨e, hf, rfl⟩ := h
  have hk : e.1 = k := by simpa using List.find?_some hf
  exact hk ▸ List.mem_reverse.mp (List.mem_of_find?_eq_some hf)

theorem lookupLast_none (ps : List (Str × Str)) (k : Str) (h : lookupLast ps k = none) : ∀ p ∈ ps, p.1 ≠ k := by
  rw [lookupLast, Option.map_eq_none_iff, List.find?_eq_none] at h
  exact fun p hp hk => h p (List.mem_reverse.mpr hp) (decide_eq_true hk)

theorem setPatch_agree (acc acc' : List (Str × Str)) (n v : Str) (h : setPatch acc n v = some acc')
    (ha : Agree acc) : Agree acc' := by
  obtain ⟨rfl, hv⟩ := setPatch_some acc acc' n v h
  -- every earlier entry for n already carries v
  have hold : ∀ q ∈ acc, q.1 = n → q.2 = v := by
    intro q hq hqn
    cases hl : lookupLast acc n with
    | none => exact absurd hqn (lookupLast_none acc n hl q hq)
    | some w => exact (ha q hq (n, w) (lookupLast_mem acc n w hl) hqn).trans (hv w hl)
  intro p hp q hq hpq
  simp only [List.mem_append, List.mem_singleton] at hp hq
  rcases hp with hp | rfl <;> rcases hq with hq | rfl
  · exact ha p hp q hq hpq
  · exact hold p hp hpq
  · exact (hold q hq hpq.symm).symm
  · rfl

theorem aux_agree (n : Nat) (s1 s2 : Str) (acc ps : List (Str × Str)) (h : aux n s1 s2 acc = .ok ps)
    (ha : Agree acc) : Agree ps := by
  induction n generalizing s1 s2 acc with
  | zero => simp [aux] at h
  | succ n ih =>
    rcases aux_succ n s1 s2 acc with h' | ⟨start, e, m, k, -, -, -, -, h', hk⟩ <;> rw [h'] at h
    · cases h
    split at h
    · rename_i acc' hsp
      have ha' := setPatch_agree _ _ _ _ hsp ha
      rcases hk with ⟨rfl, -⟩ | rfl
      · exact Out.ok.inj h ▸ ha'
      · exact ih _ _ _ h ha'
    · cases h

theorem agree_consistent (ps : List (Str × Str)) (h : Agree ps) : Consistent ps := by
  intro p hp
  cases hl : lookupLast ps p.1 with
  | none => exact absurd rfl (lookupLast_none ps p.1 hl p hp)
  | some w =>
    exact congrArg some (h (p.1, w) (lookupLast_mem ps p.1 w hl) p hp rfl)

theorem aux_sound (n : Nat) (s1 s2 : Str) (acc ps : List (Str × Str)) (h : aux n s1 s2 acc = .ok ps) :
    ∃ qs, ps = acc ++ qs ∧ ∀ (σ : Str → Option Str) (F : Nat), s1.length + 1 ≤ F →
      (∀ p ∈ qs, σ p.1 = some p.2) → subst σ F s1 = s2 := by
  induction n generalizing s1 s2 acc with
  | zero => simp [aux] at h
  | succ n ih =>
    rcases aux_succ n s1 s2 acc with h' | ⟨start, e, m, k, hs, he, h2, hp, h', hk⟩ <;> rw [h'] at h
    · cases h
    split at h
    case h_2 => cases h
    rename_i acc' hsp
    obtain ⟨rfl, -⟩ := setPatch_some _ _ _ _ hsp
    -- what is left of `s1` after the placeholder interpolates to what is left of `s2`
    obtain ⟨qs, hqs, hrest⟩ : ∃ qs, ps = acc ++ [_] ++ qs ∧ ∀ (σ : Str → Option Str) (F : Nat),
        (s1.drop (e + 1)).length + 1 ≤ F → (∀ p ∈ qs, σ p.1 = some p.2) →
        subst σ F (s1.drop (e + 1)) = s2.drop (start + m) := by
      rcases hk with ⟨rfl, hn, heq⟩ | rfl
      · exact ⟨[], by rw [Out.ok.inj h, List.append_nil], fun σ F _ _ => by rw [subst_none σ F _ hn, heq]⟩
      · exact ih _ _ _ h
    refine ⟨_ :: qs, by rw [hqs, List.append_assoc, List.singleton_append], fun σ F hF hσ => ?_⟩
    obtain ⟨F', rfl⟩ : ∃ F', F = F' + 1 := ⟨F - 1, by omega⟩
    have : e + 1 ≤ s1.length := indexOf_le closeBrace s1 e he
    rw [subst_step σ F' s1 start e hs he h2 _ (hσ _ List.mem_cons_self), hp,
      hrest σ F' (by rw [List.length_drop]; omega) (fun p hp' => hσ p (List.mem_cons_of_mem _ hp')),
      ← List.take_add, List.take_append_drop]

theorem gen_consistent (s1 s2 : Str) (ps : List (Str × Str)) (h : gen s1 s2 = .ok ps) : Consistent ps :=
  agree_consistent ps (aux_agree _ _ _ _ _ h (by intro p hp; cases hp))

theorem gen_sound (s1 s2 : Str) (ps : List (Str × Str)) (h : gen s1 s2 = .ok ps) :
    interpolate (lookupLast ps) s1 = s2 := by
  obtain ⟨qs, hqs, hsub⟩ := aux_sound _ _ _ _ _ h
  simp only [List.nil_append] at hqs
  subst hqs
  exact hsub (lookupLast ps) _ (Nat.le_refl _) (gen_consistent s1 s2 ps h)

end Scalibr.Pom
