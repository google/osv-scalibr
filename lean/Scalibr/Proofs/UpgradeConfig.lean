/-
C11, the textual upgrade configuration: `NewConfigFromStrings` followed by `Config.Get` (`Model/Upgrade`) computes
`intended` of `Spec/UpgradeConfig`.  The point is the split at the LAST colon: a level word holds no colon, so an entry
rendered and parsed back gives its package and level whatever colons the package name holds.  The rest keeps two folds
in step: the map the code builds, and the specification's "last valid entry naming the package".
-/
import Scalibr.Spec.UpgradeConfig
namespace Scalibr.Upgrade

theorem lastIndexOf_none (c : Char) (w : List Char) (h : c ∉ w) : lastIndexOf c w = none := by
  induction w with
  | nil => rfl
  | cons x xs ih => rw [lastIndexOf, ih (List.not_mem_of_not_mem_cons h), if_neg (List.ne_of_not_mem_cons h).symm]

/-- the last colon of `pkg:word` is the one in front of the word, whatever the package name holds -/
theorem lastIndexOf_sep (pkg w : List Char) (h : ':' ∉ w) : lastIndexOf ':' (pkg ++ ':' :: w) = some pkg.length := by
  induction pkg with
  | nil => rw [List.nil_append, lastIndexOf, lastIndexOf_none ':' w h, if_pos rfl]; rfl
  | cons x xs ih => rw [List.cons_append, lastIndexOf, ih]; rfl

theorem parseEntry_render (e : Entry) (h : WFentry e) :
    parseEntry (render e) = (levelOfWord e.word).map fun l => (e.pkg, l) := by
  unfold render
  split
  · rename_i hb
    simp only [parseEntry, lastIndexOf_none ':' e.word h, hb.2]
  · have hd : (e.pkg ++ ':' :: e.word).drop (e.pkg.length + 1) = e.word := by
      rw [← List.drop_drop, List.drop_left]; rfl
    simp only [parseEntry, lastIndexOf_sep e.pkg e.word h, List.take_left, hd]

def lookup (cfg : List (List Char × Nat)) (p : List Char) : Option Nat := (cfg.find? (·.1 = p)).map (·.2)

theorem configGet_lookup (cfg : List (List Char × Nat)) (p : List Char) :
    configGet cfg p = (lookup cfg p).getD ((lookup cfg []).getD 0) := by
  unfold configGet lookup
  cases cfg.find? (·.1 = p) <;> cases cfg.find? (·.1 = []) <;> rfl

theorem lookup_fold (es : List Entry) (hwf : ∀ e ∈ es, WFentry e) (p : List Char) (cfg : List (List Char × Nat)) :
    lookup ((es.map render).foldl (fun cfg s => match parseEntry s with | some e => e :: cfg | none => cfg) cfg) p =
      es.foldl (fun acc e => if e.pkg = p then (match levelOfWord e.word with | some l => some l | none => acc) else acc)
        (lookup cfg p) := by
  induction es generalizing cfg with
  | nil => rfl
  | cons e es ih =>
    rw [List.map_cons, List.foldl_cons, List.foldl_cons, ih (fun x hx => hwf x (List.mem_cons_of_mem e hx)),
      parseEntry_render e (hwf e List.mem_cons_self)]
    congr 1
    cases levelOfWord e.word with
    | none => exact (ite_self _).symm
    | some l => by_cases hp : e.pkg = p <;> simp [lookup, hp]

theorem lookup_strings (es : List Entry) (hwf : ∀ e ∈ es, WFentry e) (p : List Char) :
    lookup (configFromStrings (es.map render)) p = lastLevel es p :=
  lookup_fold es hwf p []

theorem configGet_strings (es : List Entry) (hwf : ∀ e ∈ es, WFentry e) (p : List Char) :
    configGet (configFromStrings (es.map render)) p = intended es p := by
  rw [configGet_lookup, lookup_strings es hwf p, lookup_strings es hwf []]
  unfold intended
  cases lastLevel es p <;> cases lastLevel es [] <;> rfl

end Scalibr.Upgrade
