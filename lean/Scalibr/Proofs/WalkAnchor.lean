/-
The structural walk specifications are anchored in the declarative enumeration of `Spec/WalkNodes.lean`,
for every tree, fault plan and configuration (no hypothesis on the configuration):

* `traversalFault … = ∃ enumerated node, visited ∧ told a fault there`   (`traversalFault_anchor`, `traversalFaultRoot_anchor`)
* `visits … = Σ over visited nodes (1 + secondCalls)`                     (`visits_anchor`, `visitsScan_anchor`)
* `reachableInodes ≤ visits`, with equality when no operation fails        (`reachableInodesScan_le_visitsScan`; `visitsScan_eq_reachable'`
  needs only that directories open and list and that the start paths can be stat'ed and exist, `visitsScan_eq_reachable` is its
  instance for fault plans in which nothing fails)

The proofs are the induction of `trace_flatten` (Proofs/WalkSpec.lean) over nodes instead of files.
-/
import Scalibr.Spec.WalkNodes
import Scalibr.Proofs.WalkSpec
namespace Scalibr.Walk

theorem visitedFrom_zero (c : Cfg) (f : Faults) (above : List GiEntry) :
    visitedFrom 0 c f above = visitedRec c f above := by
  funext r; unfold visitedFrom visitedRec; simp

theorem visitedFrom_self (m : Nat) (c : Cfg) (f : Faults) (above : List GiEntry) (r : NodeRec)
    (hm : r.dirs.length ≤ m) : visitedFrom m c f above r = true := by
  unfold visitedFrom
  rw [List.all_eq_true]
  intro i hi
  have := List.mem_range.mp hi
  simp only [Bool.or_eq_true, decide_eq_true_eq]
  left; omega

theorem visitedFrom_mk (c : Cfg) (f : Faults) (above : List GiEntry) (p : Path) (sh : NodeShape) (anc : List DirInfo) :
    visitedFrom anc.length c f above ⟨p, sh, anc⟩ = true :=
  visitedFrom_self _ _ _ _ _ (Nat.le_refl _)

/-- directory `p`, at the end of chain `anc`, lets the walk through to its entry number `i` -/
def passes (c : Cfg) (f : Faults) (above : List GiEntry) (anc : List DirInfo) (p : Path) (i : Nat) : Bool :=
  !excludedDir c (above ++ anc.map (giEntryOf f)) p && !f.openFail p &&
    (List.range (i + 1)).all fun k => !f.readEntryFail p k

theorem visitedFrom_at (c : Cfg) (f : Faults) (above : List GiEntry) (anc : List DirInfo) (r : NodeRec)
    (p : Path) (gi : Option PatSet) (j : Nat)
    (htake : r.dirs.take anc.length = anc) (hget : r.dirs[anc.length]? = some ⟨p, gi, j⟩) :
    visitedFrom anc.length c f above r =
      (passes c f above anc p j && visitedFrom (anc.length + 1) c f above r) := by
  have hlen : anc.length < r.dirs.length := (List.getElem?_eq_some_iff.mp hget).1
  rw [visitedFrom_peel _ _ _ _ _ hlen]
  congr 1
  unfold dirPasses passes
  rw [hget, htake]

/-! ### every enumerated node carries the ancestor chain as a prefix of its own -/

mutual
theorem allNodes_chain (p : Path) (anc : List DirInfo) :
    ∀ (n : Node) (r : NodeRec), r ∈ allNodes p anc n → r.dirs.take anc.length = anc ∧ anc.length ≤ r.dirs.length
  | .file k sz, r, hr => by
    simp [allNodes] at hr; subst hr; simp
  | .dir gi es, r, hr => by
    simp only [allNodes, List.mem_cons] at hr
    rcases hr with hr | hr
    · subst hr; simp
    · exact allNodesList_chain p gi anc es 0 r hr |>.1
theorem allNodesList_chain (p : Path) (gi : Option PatSet) (anc : List DirInfo) :
    ∀ (es : List (String × Node)) (i : Nat) (r : NodeRec), r ∈ allNodesList p gi anc es i →
      (r.dirs.take anc.length = anc ∧ anc.length ≤ r.dirs.length) ∧
      ∃ j, i ≤ j ∧ r.dirs[anc.length]? = some ⟨p, gi, j⟩
  | [], i, r, hr => by simp [allNodesList] at hr
  | (s, n) :: rest, i, r, hr => by
    simp only [allNodesList, List.mem_append] at hr
    rcases hr with hr | hr
    · have ⟨h1, h2⟩ := allNodes_chain (p ++ [s]) (anc ++ [⟨p, gi, i⟩]) n r hr
      have ⟨h3, h4⟩ := chain_snoc r.dirs anc ⟨p, gi, i⟩ h1
      simp only [List.length_append, List.length_singleton] at h2
      exact ⟨⟨h3, by omega⟩, i, Nat.le_refl _, h4⟩
    · have ⟨h1, j, hj, h2⟩ := allNodesList_chain p gi anc rest (i+1) r hr
      exact ⟨h1, j, by omega, h2⟩
end

theorem visitedFrom_child (c : Cfg) (f : Faults) (above : List GiEntry) (anc : List DirInfo)
    (p : Path) (gi : Option PatSet) (i : Nat) (q : Path) (n : Node) (r : NodeRec)
    (hr : r ∈ allNodes q (anc ++ [⟨p, gi, i⟩]) n) :
    visitedFrom anc.length c f above r =
      (passes c f above anc p i && visitedFrom (anc ++ [(⟨p, gi, i⟩ : DirInfo)]).length c f above r) := by
  have ⟨h1, _⟩ := allNodes_chain q (anc ++ [⟨p, gi, i⟩]) n r hr
  have ⟨h3, h4⟩ := chain_snoc r.dirs anc ⟨p, gi, i⟩ h1
  rw [visitedFrom_at c f above anc r p gi i h3 h4]
  simp

theorem visitedFrom_below (c : Cfg) (f : Faults) (above : List GiEntry) (anc : List DirInfo)
    (p : Path) (gi : Option PatSet) (es : List (String × Node)) (i : Nat) (r : NodeRec)
    (hr : r ∈ allNodesList p gi anc es i) :
    ∃ j, i ≤ j ∧ visitedFrom anc.length c f above r =
      (passes c f above anc p j && visitedFrom (anc.length + 1) c f above r) := by
  have ⟨⟨h1, _⟩, j, hj, h3⟩ := allNodesList_chain p gi anc es i r hr
  exact ⟨j, hj, visitedFrom_at c f above anc r p gi j h1 h3⟩

theorem passes_false_of_read (c : Cfg) (f : Faults) (above : List GiEntry) (anc : List DirInfo)
    (p : Path) (k j : Nat) (hkj : k ≤ j) (hrk : f.readEntryFail p k = true) :
    passes c f above anc p j = false := by
  unfold passes
  have : ((List.range (j + 1)).all fun k => !f.readEntryFail p k) = false := by
    rw [List.all_eq_false]
    exact ⟨k, List.mem_range.mpr (by omega), by simp [hrk]⟩
  rw [this]; simp

theorem passes_true (c : Cfg) (f : Faults) (above : List GiEntry) (anc : List DirInfo)
    (p : Path) (k : Nat)
    (hexf : excludedDir c (above ++ anc.map (giEntryOf f)) p = false) (hop : f.openFail p = false)
    (hread : ∀ j, j < k + 1 → f.readEntryFail p j = false) :
    passes c f above anc p k = true := by
  unfold passes
  rw [hexf, hop]
  simp only [Bool.not_false, Bool.true_and, List.all_eq_true, List.mem_range, Bool.not_eq_true']
  exact hread

/-- nothing enumerated below directory `p` from entry `k` on is visited when `p` does not let the walk
through to entry `k` -/
theorem not_visited_below (c : Cfg) (f : Faults) (above : List GiEntry) (anc : List DirInfo)
    (p : Path) (gi : Option PatSet) (es : List (String × Node)) (i : Nat)
    (hbad : ∀ j, i ≤ j → passes c f above anc p j = false) :
    ∀ r ∈ allNodesList p gi anc es i, visitedFrom anc.length c f above r = false := by
  intro r hr
  have ⟨j, hj, h⟩ := visitedFrom_below c f above anc p gi es i r hr
  rw [h, hbad j hj]; simp

theorem ctx_push (c : Cfg) (f : Faults) (above G : List GiEntry) (anc : List DirInfo) (p : Path) (gi : Option PatSet)
    (hg : c.useGitignore = true → G = above ++ anc.map (giEntryOf f)) :
    c.useGitignore = true →
      (if c.useGitignore then G ++ [giEntryOf f ⟨p, gi, 0⟩] else G) =
        above ++ anc.map (giEntryOf f) ++ [giEntryOf f ⟨p, gi, 0⟩] := by
  intro hu; simp only [hu, if_true]; rw [hg hu]

theorem ctx_child (c : Cfg) (f : Faults) (above G' : List GiEntry) (anc : List DirInfo) (p : Path) (gi : Option PatSet) (k : Nat)
    (hg : c.useGitignore = true → G' = above ++ anc.map (giEntryOf f) ++ [giEntryOf f ⟨p, gi, 0⟩]) :
    c.useGitignore = true → G' = above ++ (anc ++ [(⟨p, gi, k⟩ : DirInfo)]).map (giEntryOf f) := by
  intro hu; rw [hg hu]; simp [giEntryOf_idx f p gi k 0]

theorem toldFault_file (c : Cfg) (f : Faults) (above : List GiEntry) (p : Path) (k : Kind) (sz : Nat) (anc : List DirInfo) :
    toldFault c f above ⟨p, .file k sz, anc⟩ =
      (!((k = .special) || (k = .symlink && !c.readSymlinks)) &&
      !(c.useGitignore && stackMatch c (above ++ anc.map (giEntryOf f)) (tokens p) false) &&
      (List.range c.nExt).any (fun e => c.required e p) && decide (c.maxFileSize > 0) && f.statFail p) := rfl

theorem toldFault_dir (c : Cfg) (f : Faults) (above : List GiEntry) (p : Path) (gi : Option PatSet) (n : Nat) (anc : List DirInfo) :
    toldFault c f above ⟨p, .dir gi n, anc⟩ =
      (!excludedDir c (above ++ anc.map (giEntryOf f)) p &&
      ((c.useGitignore && f.openFail (p ++ [".gitignore"])) || f.openFail p || listingFails f p n)) := rfl

theorem secondCalls_file (c : Cfg) (f : Faults) (above : List GiEntry) (p : Path) (k : Kind) (sz : Nat) (anc : List DirInfo) :
    secondCalls c f above ⟨p, .file k sz, anc⟩ = 0 := rfl

theorem secondCalls_dir (c : Cfg) (f : Faults) (above : List GiEntry) (p : Path) (gi : Option PatSet) (n : Nat) (anc : List DirInfo) :
    secondCalls c f above ⟨p, .dir gi n, anc⟩ =
      (if excludedDir c (above ++ anc.map (giEntryOf f)) p then 0
       else if f.openFail p then 1
       else if listingFails f p n then 1
       else 0) := rfl

/-! ### 1. `traversalFault` is "some visited node is told a fault" -/

mutual
theorem traversalFault_anchor (c : Cfg) (f : Faults) (above : List GiEntry) (p : Path) (anc : List DirInfo) :
    ∀ (n : Node) (G : List GiEntry), (c.useGitignore = true → G = above ++ anc.map (giEntryOf f)) →
      traversalFault c f G p n =
        (allNodes p anc n).any (fun r => visitedFrom anc.length c f above r && toldFault c f above r)
  | .file k sz, G, hg => by
    simp only [traversalFault, allNodes, List.any_cons, List.any_nil, Bool.or_false]
    rw [visitedFrom_mk]
    simp only [toldFault_file, Bool.true_and]
    rw [gi_guard_congr c G _ (tokens p) false hg]
  | .dir gi es, G, hg => by
    simp only [traversalFault, allNodes, List.any_cons]
    rw [visitedFrom_mk]
    simp only [toldFault_dir, Bool.true_and]
    rw [excluded_congr c G _ p hg]
    cases hexf : excludedDir c (above ++ anc.map (giEntryOf f)) p
    · simp only [Bool.false_eq_true, if_false, Bool.not_false, Bool.true_and]
      cases hopf : f.openFail p
      · rw [traversalFaultL_anchor c f above p gi anc es 0 _ (ctx_push c f above G anc p gi hg) hexf hopf
          (by intro j hj; omega)]
        simp only [listingFails, Nat.zero_add, Bool.or_false, Bool.or_assoc]
      · -- the failing Open is itself the witness
        simp
    · -- an excluded directory: nothing is told here, nothing below is visited
      simp only [if_true, Bool.not_true, Bool.false_and, Bool.false_or]
      symm
      rw [List.any_eq_false]
      intro r hr
      rw [not_visited_below c f above anc p gi es 0 (fun j _ => by unfold passes; rw [hexf]; simp) r hr]
      simp
theorem traversalFaultL_anchor (c : Cfg) (f : Faults) (above : List GiEntry) (p : Path) (gi : Option PatSet)
    (anc : List DirInfo) :
    ∀ (es : List (String × Node)) (k : Nat) (G' : List GiEntry),
      (c.useGitignore = true → G' = above ++ anc.map (giEntryOf f) ++ [giEntryOf f ⟨p, gi, 0⟩]) →
      excludedDir c (above ++ anc.map (giEntryOf f)) p = false →
      f.openFail p = false →
      (∀ j, j < k → f.readEntryFail p j = false) →
      traversalFaultL c f G' p es k =
        ((List.range (es.length + 1)).any (fun j => f.readEntryFail p (k + j)) ||
         (allNodesList p gi anc es k).any (fun r => visitedFrom anc.length c f above r && toldFault c f above r))
  | [], k, G', _, _, _, _ => by
    simp only [traversalFaultL, allNodesList, List.length_nil, List.any_nil, Bool.or_false, Nat.zero_add]
    rw [Lists.any_range_one (f.readEntryFail p) k]
  | (name, n) :: rest, k, G', hg, hexf, hop, hread => by
    simp only [traversalFaultL, allNodesList, List.length_cons, List.any_append]
    cases hrk : f.readEntryFail p k
    · have hread' : ∀ j, j < k + 1 → f.readEntryFail p j = false := fun j hj =>
        if hjk : j = k then hjk ▸ hrk else hread j (by omega)
      rw [traversalFault_anchor c f above (p ++ [name]) (anc ++ [⟨p, gi, k⟩]) n G' (ctx_child c f above G' anc p gi k hg),
        traversalFaultL_anchor c f above p gi anc rest (k+1) G' hg hexf hop hread',
        Lists.any_range_shift (f.readEntryFail p) k rest.length]
      have hfirst : (allNodes (p ++ [name]) (anc ++ [⟨p, gi, k⟩]) n).any
            (fun r => visitedFrom (anc ++ [(⟨p, gi, k⟩ : DirInfo)]).length c f above r && toldFault c f above r)
          = (allNodes (p ++ [name]) (anc ++ [⟨p, gi, k⟩]) n).any
            (fun r => visitedFrom anc.length c f above r && toldFault c f above r) := by
        apply Lists.any_congr
        intro r hr
        rw [visitedFrom_child c f above anc p gi k _ n r hr, passes_true c f above anc p k hexf hop hread']
        simp
      rw [hfirst]
      simp only [hrk, Bool.false_or, Bool.or_left_comm]
    · -- the failing read is itself the witness (the structural definition also looks below it)
      rw [Lists.any_range_head (f.readEntryFail p) k _ hrk]
      simp
end

/-- the anchor from the start of a walk: `traversalFault` is exactly "some node the walk gets to has a
failure `handleFile` is told about" -/
theorem traversalFault_anchor0 (c : Cfg) (f : Faults) (above : List GiEntry) (p : Path) (n : Node) :
    traversalFault c f above p n = toldFaultFrom c f above p n := by
  rw [traversalFault_anchor c f above p [] n above (by intro _; simp)]
  unfold toldFaultFrom
  simp only [List.length_nil, visitedFrom_zero]

theorem traversalFaultRequested_anchor (c : Cfg) (f : Faults) (root : Node) (p : Path) :
    traversalFaultRequested c f root p = toldFaultRequested c f root p := by
  unfold traversalFaultRequested toldFaultRequested
  split
  · rfl
  · cases lookup root p with
    | none => rfl
    | some n =>
      cases n with
      | file k sz =>
        simp only []
        rw [traversalFault_anchor0]
        simp only [toldFaultFrom, allNodes, List.any_cons, List.any_nil, Bool.or_false, visitedRec,
          List.length_nil, List.range_zero, List.all_nil, Bool.true_and]
      | dir gi es =>
        simp only [traversalFault_anchor0]
        cases c.useGitignore <;> rfl

theorem traversalFaultRoot_anchor (c : Cfg) (f : Faults) (root : Node) :
    traversalFaultRoot c f root = toldFaultRoot c f root := by
  unfold traversalFaultRoot toldFaultRoot
  rw [traversalFault_anchor0]
  rw [show traversalFaultRequested c f root = toldFaultRequested c f root from
    funext (traversalFaultRequested_anchor c f root)]

/-! ### 2. `visits` is "one call per visited node, plus its second calls" -/

/-- the summand -/
def callsOf (c : Cfg) (f : Faults) (above : List GiEntry) (r : NodeRec) : Nat := 1 + secondCalls c f above r

mutual
theorem visits_anchor (c : Cfg) (f : Faults) (above : List GiEntry) (p : Path) (anc : List DirInfo) :
    ∀ (n : Node) (G : List GiEntry), (c.useGitignore = true → G = above ++ anc.map (giEntryOf f)) →
      visits c f G p n =
        (((allNodes p anc n).filter (visitedFrom anc.length c f above)).map
          (fun r => 1 + secondCalls c f above r)).sum
  | .file k sz, G, _ => by
    simp only [visits, allNodes]
    rw [List.filter_cons_of_pos (visitedFrom_mk c f above p _ anc)]
    simp [secondCalls_file]
  | .dir gi es, G, hg => by
    simp only [visits, allNodes]
    rw [List.filter_cons_of_pos (visitedFrom_mk c f above p _ anc)]
    simp only [List.map_cons, List.sum_cons, secondCalls_dir]
    rw [excluded_congr c G _ p hg]
    -- below a directory that lets nothing through, nothing is visited
    have blocked : (∀ j, passes c f above anc p j = false) →
        (allNodesList p gi anc es 0).filter (visitedFrom anc.length c f above) = [] := fun h =>
      List.filter_eq_nil_iff.mpr fun r hr => by
        rw [not_visited_below c f above anc p gi es 0 (fun j _ => h j) r hr]
        simp
    cases hexf : excludedDir c (above ++ anc.map (giEntryOf f)) p
    · simp only [Bool.false_eq_true, if_false]
      cases hopf : f.openFail p
      · simp only [Bool.false_eq_true, if_false]
        rw [visitsL_anchor c f above p gi anc es 0 _ (ctx_push c f above G anc p gi hg) hexf hopf
          (by intro j hj; omega)]
        simp only [listingFails, Nat.zero_add]
        by_cases hb : (List.range (es.length + 1)).any (fun j => f.readEntryFail p j) = true
        · simp only [hb, if_true, Bool.toNat_true]; omega
        · have hb' : (List.range (es.length + 1)).any (fun j => f.readEntryFail p j) = false := by simpa using hb
          simp only [hb', Bool.false_eq_true, if_false, Bool.toNat_false]; omega
      · simp only [if_true]
        rw [blocked fun j => by unfold passes; rw [hopf]; simp]
        simp
    · simp only [if_true]
      rw [blocked fun j => by unfold passes; rw [hexf]; simp]
      simp
theorem visitsL_anchor (c : Cfg) (f : Faults) (above : List GiEntry) (p : Path) (gi : Option PatSet)
    (anc : List DirInfo) :
    ∀ (es : List (String × Node)) (k : Nat) (G' : List GiEntry),
      (c.useGitignore = true → G' = above ++ anc.map (giEntryOf f) ++ [giEntryOf f ⟨p, gi, 0⟩]) →
      excludedDir c (above ++ anc.map (giEntryOf f)) p = false →
      f.openFail p = false →
      (∀ j, j < k → f.readEntryFail p j = false) →
      visitsL c f G' p es k =
        ((List.range (es.length + 1)).any (fun j => f.readEntryFail p (k + j))).toNat +
        (((allNodesList p gi anc es k).filter (visitedFrom anc.length c f above)).map
          (fun r => 1 + secondCalls c f above r)).sum
  | [], k, G', _, _, _, _ => by
    simp only [visitsL, allNodesList, List.length_nil, Nat.zero_add, List.filter_nil, List.map_nil,
      List.sum_nil, Nat.add_zero]
    rw [Lists.any_range_one (f.readEntryFail p) k]
    cases f.readEntryFail p k <;> rfl
  | (name, n) :: rest, k, G', hg, hexf, hop, hread => by
    simp only [visitsL, allNodesList, List.length_cons]
    cases hrk : f.readEntryFail p k
    · have hread' : ∀ j, j < k + 1 → f.readEntryFail p j = false := fun j hj =>
        if hjk : j = k then hjk ▸ hrk else hread j (by omega)
      simp only [Bool.false_eq_true, if_false]
      rw [visits_anchor c f above (p ++ [name]) (anc ++ [⟨p, gi, k⟩]) n G' (ctx_child c f above G' anc p gi k hg),
        visitsL_anchor c f above p gi anc rest (k+1) G' hg hexf hop hread',
        Lists.any_range_shift (f.readEntryFail p) k rest.length]
      have hfirst : (allNodes (p ++ [name]) (anc ++ [⟨p, gi, k⟩]) n).filter
            (visitedFrom (anc ++ [(⟨p, gi, k⟩ : DirInfo)]).length c f above)
          = (allNodes (p ++ [name]) (anc ++ [⟨p, gi, k⟩]) n).filter (visitedFrom anc.length c f above) := by
        apply List.filter_congr
        intro r hr
        rw [visitedFrom_child c f above anc p gi k _ n r hr, passes_true c f above anc p k hexf hop hread']
        simp
      rw [hfirst]
      simp only [hrk, Bool.false_or, List.filter_append, List.map_append, List.sum_append]
      omega
    · -- the failing read is reported by one call and ends the listing: nothing from entry k on is visited
      rw [Lists.any_range_head (f.readEntryFail p) k _ hrk]
      simp only [if_true]
      have hnil : (allNodes (p ++ [name]) (anc ++ [⟨p, gi, k⟩]) n ++ allNodesList p gi anc rest (k+1)).filter
          (visitedFrom anc.length c f above) = [] := by
        rw [List.filter_eq_nil_iff]
        intro r hr
        have := not_visited_below c f above anc p gi ((name, n) :: rest) k
          (fun j hj => passes_false_of_read c f above anc p k j hj hrk) r (by simpa [allNodesList] using hr)
        simp [this]
      rw [hnil]; simp
end

/-- the anchor from the start of a walk: `visits` is one `handleFile` call per node the walk gets to, plus
the second calls -/
theorem visits_anchor0 (c : Cfg) (f : Faults) (above : List GiEntry) (p : Path) (n : Node) :
    visits c f above p n = callsFrom c f above p n := by
  rw [visits_anchor c f above p [] n above (by intro _; simp)]
  unfold callsFrom
  simp only [List.length_nil, visitedFrom_zero]

/-- extra calls of a walk: the second calls of the nodes it gets to -/
def secondCallsFrom (c : Cfg) (f : Faults) (above : List GiEntry) (p : Path) (n : Node) : Nat :=
  (((allNodes p [] n).filter (visitedRec c f above)).map (secondCalls c f above)).sum

/-- `handleFile` calls = inodes processed + second calls -/
theorem visits_eq_reachable_add (c : Cfg) (f : Faults) (above : List GiEntry) (p : Path) (n : Node) :
    visits c f above p n = reachableInodes c f above p n + secondCallsFrom c f above p n := by
  rw [visits_anchor0]
  unfold callsFrom reachableInodes secondCallsFrom
  exact Lists.sum_map_one_add _ _

/-! ### 3. inodes ≤ calls, with equality when nothing fails -/

theorem reachableInodes_le_visits (c : Cfg) (f : Faults) (above : List GiEntry) (p : Path) (n : Node) :
    reachableInodes c f above p n ≤ visits c f above p n := by
  rw [visits_eq_reachable_add]; omega

theorem reachableInodesRequested_le (c : Cfg) (f : Faults) (root : Node) (p : Path) :
    reachableInodesRequested c f root p ≤ visitsRequested c f root p := by
  unfold reachableInodesRequested visitsRequested
  split
  · exact Nat.zero_le _
  · cases lookup root p with
    | none => exact Nat.zero_le _
    | some n =>
      cases n with
      | file k sz => exact Nat.le_refl _
      | dir gi es => exact reachableInodes_le_visits _ _ _ _ _

theorem reachableInodesRoot_le (c : Cfg) (f : Faults) (root : Node) :
    reachableInodesRoot c f root ≤ visitsRoot c f root := by
  unfold reachableInodesRoot visitsRoot
  split
  · split
    · exact Nat.zero_le _
    · exact reachableInodes_le_visits _ _ _ _ _
  · exact Lists.sum_map_le (fun p _ => reachableInodesRequested_le c f root p)

/-- the inodes a scan processes never exceed its `handleFile` calls -/
theorem reachableInodesScan_le_visitsScan (c : Cfg) (roots : List (Node × Faults)) :
    reachableInodesScan c roots ≤ visitsScan c roots := by
  unfold reachableInodesScan visitsScan
  exact Lists.sum_map_le (fun rf _ => reachableInodesRoot_le c rf.2 rf.1)

/-- what "nothing fails" is really needed for inside a walk: directories open and list -/
def NoWalkFaults (f : Faults) : Prop :=
  (∀ p, f.openFail p = false) ∧ (∀ p k, f.readEntryFail p k = false)

theorem NoFaultsAt.walk {f : Faults} (h : NoFaultsAt f) : NoWalkFaults f := ⟨h.1, h.2.2⟩

theorem secondCalls_noFaults (c : Cfg) (f : Faults) (hf : NoWalkFaults f) (above : List GiEntry) (r : NodeRec) :
    secondCalls c f above r = 0 := by
  unfold secondCalls
  cases r.shape with
  | file k sz => rfl
  | dir gi n =>
    have : listingFails f r.path n = false := by
      unfold listingFails
      rw [List.any_eq_false]
      intro k _; simp [hf.2 r.path k]
    simp only [hf.1 r.path, this]
    split <;> rfl

theorem visits_eq_reachable (c : Cfg) (f : Faults) (hf : NoWalkFaults f) (above : List GiEntry) (p : Path) (n : Node) :
    visits c f above p n = reachableInodes c f above p n := by
  rw [visits_eq_reachable_add]
  unfold secondCallsFrom
  rw [Lists.sum_map_congr (fun r _ => secondCalls_noFaults c f hf above r)]
  rw [Lists.sum_map_zero]; rfl

theorem visitsRequested_eq_reachable (c : Cfg) (f : Faults) (hf : NoWalkFaults f) (root : Node) (p : Path)
    (hs : f.statFail p = false) (hl : lookup root p ≠ none) :
    visitsRequested c f root p = reachableInodesRequested c f root p := by
  unfold reachableInodesRequested visitsRequested
  simp only [hs, Bool.false_eq_true, if_false]
  cases hl' : lookup root p with
  | none => exact absurd hl' hl
  | some n =>
    cases n with
    | file k sz => rfl
    | dir gi es => exact visits_eq_reachable c f hf _ _ _

/-- weakest convenient form per root: directories open and list, and every START path can be stat'ed and exists -/
theorem visitsRoot_eq_reachable (c : Cfg) (f : Faults) (hf : NoWalkFaults f) (root : Node)
    (hstart : if c.paths.isEmpty then f.statFail [] = false
              else ∀ p ∈ c.paths, f.statFail p = false ∧ lookup root p ≠ none) :
    visitsRoot c f root = reachableInodesRoot c f root := by
  unfold reachableInodesRoot visitsRoot
  by_cases hp : c.paths.isEmpty = true
  · simp only [hp, if_true] at hstart ⊢
    simp only [hstart, Bool.false_eq_true, if_false]
    exact visits_eq_reachable c f hf _ _ _
  · simp only [hp, Bool.false_eq_true, if_false] at hstart ⊢
    exact Lists.sum_map_congr (fun p hpm => visitsRequested_eq_reachable c f hf root p (hstart p hpm).1 (hstart p hpm).2)

theorem visitsScan_eq_reachable' (c : Cfg) (roots : List (Node × Faults))
    (h : ∀ rf ∈ roots, NoWalkFaults rf.2 ∧
      (if c.paths.isEmpty then rf.2.statFail [] = false
       else ∀ p ∈ c.paths, rf.2.statFail p = false ∧ lookup rf.1 p ≠ none)) :
    visitsScan c roots = reachableInodesScan c roots := by
  unfold reachableInodesScan visitsScan
  exact Lists.sum_map_congr (fun rf hrf => visitsRoot_eq_reachable c rf.2 (h rf hrf).1 rf.1 (h rf hrf).2)

/-- when no filesystem operation fails and every requested path exists, `handleFile` calls = inodes -/
theorem visitsScan_eq_reachable (c : Cfg) (roots : List (Node × Faults))
    (h : ∀ rf ∈ roots, NoFaultsAt rf.2 ∧ ∀ p ∈ c.paths, lookup rf.1 p ≠ none) :
    visitsScan c roots = reachableInodesScan c roots := by
  apply visitsScan_eq_reachable'
  intro rf hrf
  obtain ⟨hn, hl⟩ := h rf hrf
  refine ⟨hn.walk, ?_⟩
  split
  · exact hn.2.1 []
  · exact fun p hp => ⟨hn.2.1 p, hl p hp⟩

/-! scan-level form of 2 -/

def callsRequested (c : Cfg) (f : Faults) (root : Node) (p : Path) : Nat :=
  if f.statFail p then 1 else
  match lookup root p with
  | none => 1
  | some (.dir gi es) => callsFrom c f (if c.useGitignore then (parentGis f root p).1 else []) p (.dir gi es)
  | some (.file _ _) => 1

def callsRoot (c : Cfg) (f : Faults) (root : Node) : Nat :=
  if c.paths.isEmpty then (if f.statFail [] then 1 else callsFrom c f [] [] root)
  else (c.paths.map (callsRequested c f root)).sum

/-- `handleFile` calls of a scan, declaratively: per start path one call for a path that cannot be
stat'ed / does not exist / is a file, otherwise one per visited node plus its second calls -/
def callsScan (c : Cfg) (roots : List (Node × Faults)) : Nat :=
  (roots.map fun (r, f) => callsRoot c f r).sum

theorem visitsRequested_anchor (c : Cfg) (f : Faults) (root : Node) (p : Path) :
    visitsRequested c f root p = callsRequested c f root p := by
  unfold visitsRequested callsRequested
  split
  · rfl
  · cases hl : lookup root p with
    | none => rfl
    | some n =>
      cases n with
      | file k sz => rfl
      | dir gi es => exact visits_anchor0 _ _ _ _ _

theorem visitsRoot_anchor (c : Cfg) (f : Faults) (root : Node) :
    visitsRoot c f root = callsRoot c f root := by
  unfold visitsRoot callsRoot
  rw [visits_anchor0]
  rw [show visitsRequested c f root = callsRequested c f root from funext (visitsRequested_anchor c f root)]

/-- C10's count is the declarative one -/
theorem visitsScan_anchor (c : Cfg) (roots : List (Node × Faults)) :
    visitsScan c roots = callsScan c roots := by
  unfold visitsScan callsScan
  exact Lists.sum_map_congr fun rf _ => visitsRoot_anchor c rf.2 rf.1

/-! ### 4. sanity: the definitions on small concrete trees (specification side only) -/

section Examples

/-- one extractor that wants every file; size limit 1 so that the lazy size stat happens; the matcher
ignores an entry when its last path component is named by a pattern -/
private def exC : Cfg :=
  { nExt := 1, required := fun _ _ => true, extract := fun _ _ => {}, maxFileSize := 1,
    giMatch := fun ps _ toks _ => ps.any fun pt => toks.getLast? = some pt.name }

private def exT : Node := .dir none [("d", .dir none [])]
private def exT2 : Node := .dir none [("a", .file .reg 1), ("b", .file .reg 1)]
private def exT3 : Node := .dir none [("d", .dir none [("x", .file .reg 1)]), ("y", .file .reg 1)]
private def exT4 : Node := .dir (some [⟨"d", false, false⟩]) [("d", .dir none [("x", .file .reg 1)]), ("y", .file .reg 1)]

/-- the enumeration itself: every node, with its chain -/
example : (allNodes [] [] exT3).map (fun r => (r.path, r.dirs.map (fun d => (d.path, d.childIdx)))) =
    [([], []), (["d"], [([], 0)]), (["d", "x"], [([], 0), (["d"], 0)]), (["y"], [([], 1)])] := by decide

/-- an entered directory that cannot be opened is ONE inode but TWO calls -/
example : reachableInodes exC { openFail := fun p => p = ["d"] } [] [] exT = 2 ∧
    visits exC { openFail := fun p => p = ["d"] } [] [] exT = 3 := by decide
example : reachableInodesScan exC [(exT, { openFail := fun p => p = ["d"] })] = 2 ∧
    visitsScan exC [(exT, { openFail := fun p => p = ["d"] })] = 3 := by decide

/-- a failing read costs a call but is no inode, and hides the later entries: read 1 fails → root and `a` -/
example : reachableInodes exC { readEntryFail := fun p k => p = [] ∧ k = 1 } [] [] exT2 = 2 ∧
    visits exC { readEntryFail := fun p k => p = [] ∧ k = 1 } [] [] exT2 = 3 := by decide
/-- the read that should have returned EOF fails: every entry is an inode, one extra call -/
example : reachableInodes exC { readEntryFail := fun p k => p = [] ∧ k = 2 } [] [] exT2 = 3 ∧
    visits exC { readEntryFail := fun p k => p = [] ∧ k = 2 } [] [] exT2 = 4 := by decide
/-- a start path that does not exist / cannot be stat'ed: one call, no inode -/
example : reachableInodesScan { exC with paths := [["q"]] } [(exT, {})] = 0 ∧
    visitsScan { exC with paths := [["q"]] } [(exT, {})] = 1 := by decide
example : reachableInodesScan exC [(exT, { statFail := fun p => p = [] })] = 0 ∧
    visitsScan exC [(exT, { statFail := fun p => p = [] })] = 1 := by decide
/-- nothing fails: calls = inodes (requested directory and requested file) -/
example : reachableInodesScan { exC with paths := [["d"], ["y"]] } [(exT3, {})] = 3 ∧
    visitsScan { exC with paths := [["d"], ["y"]] } [(exT3, {})] = 3 := by decide
/-- an excluded directory is an inode (it is handed to `handleFile`), nothing below it is -/
example : reachableInodes { exC with dirsToSkip := fun p => p = ["d"] } {} [] [] exT3 = 3 ∧
    visits { exC with dirsToSkip := fun p => p = ["d"] } {} [] [] exT3 = 3 := by decide
example : reachableInodes { exC with useGitignore := true } {} [] [] exT4 = 3 ∧
    reachableInodes exC {} [] [] exT4 = 4 := by decide

/-- told faults: the failing size stat of a visited file -/
example : toldFaultScan exC [(exT3, { statFail := fun p => p = ["d", "x"] })] = true ∧
    traversalFaultScan exC [(exT3, { statFail := fun p => p = ["d", "x"] })] = true := by decide
/-- … is not told when the file is below an excluded directory (skip list, gitignore) -/
example : toldFaultScan { exC with dirsToSkip := fun p => p = ["d"] } [(exT3, { statFail := fun p => p = ["d", "x"] })] = false ∧
    traversalFaultScan { exC with dirsToSkip := fun p => p = ["d"] } [(exT3, { statFail := fun p => p = ["d", "x"] })] = false := by decide
example : toldFaultScan { exC with useGitignore := true } [(exT4, { statFail := fun p => p = ["d", "x"] })] = false ∧
    toldFaultScan exC [(exT4, { statFail := fun p => p = ["d", "x"] })] = true := by decide
/-- the subtlety: below an unopenable directory (or after a failing read) the structural definition still
ORs in the children; declaratively the only witness is the earlier failure itself -/
example :
    let f : Faults := { openFail := fun p => p = ["d"], statFail := fun p => p = ["d", "x"] }
    ((allNodes [] [] exT3).filter (fun r => visitedRec exC f [] r && toldFault exC f [] r)).map (·.path) = [["d"]] ∧
    ((allNodes [] [] exT3).filter (toldFault exC f [])).map (·.path) = [["d"], ["d", "x"]] ∧
    toldFaultScan exC [(exT3, f)] = true ∧ traversalFaultScan exC [(exT3, f)] = true := by decide
example :
    let f : Faults := { readEntryFail := fun p k => p = [] ∧ k = 0, statFail := fun p => p = ["y"] }
    ((allNodes [] [] exT3).filter (fun r => visitedRec exC f [] r && toldFault exC f [] r)).map (·.path) = [[]] ∧
    toldFaultScan exC [(exT3, f)] = true := by decide
/-- an unreadable `.gitignore` is told only with gitignore on; above a requested directory too -/
example : toldFaultScan { exC with useGitignore := true } [(exT3, { openFail := fun p => p = ["d", ".gitignore"] })] = true ∧
    toldFaultScan exC [(exT3, { openFail := fun p => p = ["d", ".gitignore"] })] = false ∧
    toldFaultScan { exC with useGitignore := true, paths := [["d"]] } [(exT3, { openFail := fun p => p = [".gitignore"] })] = true ∧
    toldFaultScan { exC with paths := [["d"]] } [(exT3, { openFail := fun p => p = [".gitignore"] })] = false := by decide
example : toldFaultScan exC [(exT3, {})] = false := by decide

/-! the hypotheses are satisfiable -/

/-- context hypothesis of `traversalFault_anchor` / `visits_anchor`, below one directory, gitignore on -/
example : ({ exC with useGitignore := true } : Cfg).useGitignore = true →
    [giEntryOf {} ⟨[], some [⟨"d", false, false⟩], 0⟩] = [] ++ [(⟨[], some [⟨"d", false, false⟩], 0⟩ : DirInfo)].map (giEntryOf {}) :=
  fun _ => rfl
/-- hypotheses of the listing lemmas: an entered, openable directory whose first `k` reads succeeded -/
example : excludedDir exC ([] ++ ([] : List DirInfo).map (giEntryOf {})) [] = false ∧
    ({} : Faults).openFail [] = false ∧ ∀ j, j < 1 → ({} : Faults).readEntryFail [] j = false :=
  ⟨by decide, rfl, fun _ _ => rfl⟩
example : NoFaultsAt {} := ⟨fun _ => rfl, fun _ => rfl, fun _ _ => rfl⟩
example : NoWalkFaults { statFail := fun p => p = ["y"] } := ⟨fun _ => rfl, fun _ _ => rfl⟩
/-- hypothesis of `visitsScan_eq_reachable` with requested paths, two roots -/
example : ∀ rf ∈ [(exT3, ({} : Faults)), (exT4, {})], NoFaultsAt rf.2 ∧
    ∀ p ∈ ({ exC with paths := [["d"], ["y"]] } : Cfg).paths, lookup rf.1 p ≠ none := by
  intro rf hrf
  refine ⟨?_, ?_⟩
  · simp only [List.mem_cons, List.not_mem_nil, or_false] at hrf
    rcases hrf with h | h <;> subst h <;> exact ⟨fun _ => rfl, fun _ => rfl, fun _ _ => rfl⟩
  · simp only [List.mem_cons, List.not_mem_nil, or_false] at hrf
    rcases hrf with h | h <;> subst h <;> decide
/-- hypothesis of `visitsScan_eq_reachable'`: a size stat may fail as long as no start path is affected -/
example : ∀ rf ∈ [(exT3, ({ statFail := fun p => p = ["y"] } : Faults))], NoWalkFaults rf.2 ∧
    (if exC.paths.isEmpty then rf.2.statFail [] = false
     else ∀ p ∈ exC.paths, rf.2.statFail p = false ∧ lookup rf.1 p ≠ none) := by
  intro rf hrf
  simp only [List.mem_cons, List.not_mem_nil, or_false] at hrf
  subst hrf
  exact ⟨⟨fun _ => rfl, fun _ _ => rfl⟩, by decide⟩

end Examples

end Scalibr.Walk
