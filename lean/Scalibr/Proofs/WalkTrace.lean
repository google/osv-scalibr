/-
Model A, for EVERY configuration in which no extractor panics (any inode limit, any cancellation point,
cancelled before the scan or not, filesystem errors fatal or not), is a plain sequential machine over the
steps the specification lists for the scan (`events`): the `handleFile` calls in order, each with the
attempts it owes or with the fact that it is told about a filesystem failure.

  for each step, in order:   count the inode — fail with MaxInodes beyond the limit;
                             report the visit — fail when the context is cancelled;
                             a failure the call is told about ends the scan when errors are fatal;
                             otherwise make the call's attempts (the k-th `Extract` cancels the context).

The two specifications of Spec/ are readings of `events`: its attempts are `trace` (Spec/WalkCount.lean), so that
with errors not fatal the machine is `runT` of Spec/WalkMachine.lean (`run_trace`); and "some step is a failure" is
`traversalFault` (Spec/Walk.lean), which is when the scan fails if errors are fatal and nothing else stops it
(`walkNode_fatal`, Proofs/WalkFatal.lean).  The exact inode-limit theorem and the cancellation theorem (`Proofs/WalkCancel.lean`) are list-level
corollaries about `runT`.
-/
import Scalibr.Proofs.WalkStack
import Scalibr.Proofs.Lists
namespace Scalibr.Walk

/-- errors are not fatal, extractors do not panic; limit and cancellation are arbitrary -/
def NFCfg (c : Cfg) : Prop := c.errorOnFSErrors = false ∧ ∀ e p, (c.extract e p).panics = false

inductive Ev
  /-- a `handleFile` call that makes the attempts `blk` -/
  | call (blk : List Call)
  /-- a `handleFile` call that is told about a filesystem failure: it attempts nothing -/
  | report
  /-- a failure met outside `handleFile`: an unreadable `.gitignore` above a requested directory -/
  | abort

def Ev.isFault : Ev → Bool
  | .call _ => false
  | _ => true

def Ev.blk? : Ev → Option (List Call)
  | .call blk => some blk
  | .report => some []
  | .abort => none

mutual
def events (c : Cfg) (f : Faults) (gis : List GiEntry) (p : Path) : Node → List Ev
  | .file k sz => [if traversalFault c f gis p (.file k sz) then .report else .call (mustOne c f gis ⟨p, k, sz, []⟩)]
  | .dir gi es =>
    if excludedDir c gis p then [.call []]
    else (if c.useGitignore && f.openFail (p ++ [".gitignore"]) then .report else .call []) ::
      (if f.openFail p then [.report]
       else eventsL c f (if c.useGitignore then gis ++ [giEntryOf f ⟨p, gi, 0⟩] else gis) p es 0)
def eventsL (c : Cfg) (f : Faults) (gis : List GiEntry) (p : Path) : List (String × Node) → Nat → List Ev
  | [], k => if f.readEntryFail p k then [.report] else []
  | (s, n) :: rest, k =>
    if f.readEntryFail p k then [.report]
    else events c f gis (p ++ [s]) n ++ eventsL c f gis p rest (k+1)
end

def eventsRequested (c : Cfg) (f : Faults) (root : Node) (p : Path) : List Ev :=
  if f.statFail p then [.report] else
  match lookup root p with
  | none => [.report]
  | some (.dir gi es) =>
    if c.useGitignore then
      (if (parentGis f root p).2 then [.abort] else []) ++ events c f (parentGis f root p).1 p (.dir gi es)
    else events c f [] p (.dir gi es)
  | some (.file k sz) => events c f [] p (.file (statKind k) sz)

def eventsRoot (c : Cfg) (f : Faults) (root : Node) : List Ev :=
  if c.paths.isEmpty then (if f.statFail [] then [.report] else events c f [] [] root)
  else c.paths.flatMap (eventsRequested c f root)

def eventsScan (c : Cfg) (roots : List (Node × Faults)) : List Ev :=
  roots.flatMap fun (r, f) => eventsRoot c f r

def stepE (c : Cfg) (a : AS) : Ev → AS × Err
  | .call blk => visit c a blk
  | .report =>
    match aPro c a with
    | (a, some e) => (a, e)
    | (a, none) => (a, if c.errorOnFSErrors then .fs else .none)
  | .abort => (a, if c.errorOnFSErrors then .fs else .none)

def runE (c : Cfg) : AS → List Ev → AS × Err
  | a, [] => (a, .none)
  | a, ev :: rest =>
    let r := stepE c a ev
    if r.2 = .none then runE c r.1 rest else r

theorem aPro_ne (c : Cfg) (a : AS) : (aPro c a).2 ≠ some .none := by
  rcases aPro_err c a with h | h | h <;> rw [h] <;> simp

theorem runE_cons_err (c : Cfg) (a a1 : AS) (e : Err) (ev : Ev) (T : List Ev) (h : aPro c a = (a1, some e))
    (hev : ev ≠ .abort) : runE c a (ev :: T) = (a1, e) := by
  have hne : e ≠ .none := fun h' => aPro_ne c a (by rw [h, h'])
  cases ev with
  | abort => exact absurd rfl hev
  | call blk => simp [runE, stepE, visit, h, hne]
  | report => simp [runE, stepE, h, hne]

theorem runE_cons_call (c : Cfg) (a a1 : AS) (blk : List Call) (T : List Ev) (h : aPro c a = (a1, none)) :
    runE c a (.call blk :: T) = runE c (aBlock c a1 blk) T := by
  simp [runE, stepE, visit, h]

theorem runE_cons_report (c : Cfg) (a a1 : AS) (T : List Ev) (h : aPro c a = (a1, none)) :
    runE c a (.report :: T) = if c.errorOnFSErrors then (a1, .fs) else runE c a1 T := by
  cases he : c.errorOnFSErrors <;> simp [runE, stepE, h, he]

theorem runE_single (c : Cfg) (a : AS) (ev : Ev) : runE c a [ev] = stepE c a ev := by
  simp only [runE]
  split
  · rename_i h; exact Prod.ext rfl h.symm
  · rfl

theorem runE_append (c : Cfg) : ∀ (T1 T2 : List Ev) (a : AS),
    runE c a (T1 ++ T2) = (if (runE c a T1).2 = .none then runE c (runE c a T1).1 T2 else runE c a T1)
  | [], T2, a => by simp [runE]
  | ev :: T1, T2, a => by
    simp only [List.cons_append, runE]
    by_cases h : (stepE c a ev).2 = .none
    · simp only [h, if_true]
      exact runE_append c T1 T2 _
    · simp [h]

/-! ### the engine is the machine over the steps -/

theorem fserrCall_events (c : Cfg) (s : St) : (abs (fserrCall c s).1, (fserrCall c s).2) = stepE c (abs s) .report := by
  rw [fserrCall_fst, fserrCall_snd]
  unfold stepE
  rw [prologue_abs]
  generalize prologue c s = x
  obtain ⟨s1, e1⟩ := x
  cases e1 <;> rfl

theorem walkFile_events (c : Cfg) (hx : NoExtractorPanic c) (f : Faults) (G : List GiEntry) (s : St) (p : Path)
    (k : Kind) (sz : Nat) (hg : c.useGitignore = true → s.gis = G) :
    (abs (walkNode c f s p (.file k sz)).1, (walkNode c f s p (.file k sz)).2) =
      stepE c (abs s) (if traversalFault c f G p (.file k sz) then .report else .call (mustOne c f G ⟨p, k, sz, []⟩)) := by
  simp only [walkNode]
  have hp := prologue_abs c s
  have hs := prologue_same c s
  generalize prologue c s = x at hp hs ⊢
  obtain ⟨s1, e1⟩ := x
  cases e1 with
  | some e => cases traversalFault c f G p (.file k sz) <;> simp only [stepE, visit, hp] <;> rfl
  | none =>
    obtain ⟨cs, _, habs, _, hres⟩ := handleLeaf_spec c f G s1 p k sz (fun hu => by rw [hs.1]; exact hg hu)
    rcases hres with ⟨herr, hcs, _⟩ | ⟨_, e, he⟩
    · simp only []
      rw [habs, herr, hcs]
      cases htf : traversalFault c f G p (.file k sz)
      · simp only [stepE, visit, hp, Bool.and_false, Bool.false_eq_true, if_false]; rfl
      · simp only [stepE, hp, mustOne_of_fault htf, aBlock_nil, Bool.and_true, if_true]
        cases c.errorOnFSErrors <;> rfl
    · rw [hx e p] at he; cases he

theorem events_dir_cons (c : Cfg) (f : Faults) (G : List GiEntry) (p : Path) (gi : Option PatSet) (es : List (String × Node)) :
    events c f G p (.dir gi es) =
      (if !excludedDir c G p && (c.useGitignore && f.openFail (p ++ [".gitignore"])) then Ev.report else .call []) ::
      (if excludedDir c G p then []
       else if f.openFail p then [.report]
       else eventsL c f (if c.useGitignore then G ++ [giEntryOf f ⟨p, gi, 0⟩] else G) p es 0) := by
  simp only [events]
  cases excludedDir c G p <;> rfl

theorem pushGi_spec (c : Cfg) (hd : DomainLaw c.giMatch) (f : Faults) (s : St) (p : Path) (gi : Option PatSet) :
    ((c.useGitignore && !excludedDir c s.gis p && f.openFail (p ++ [".gitignore"]) && c.errorOnFSErrors) = true ∧
      pushGi c f s p gi = (s, some .fs)) ∨
    ((c.useGitignore && !excludedDir c s.gis p && f.openFail (p ++ [".gitignore"]) && c.errorOnFSErrors) = false ∧
      ∃ s2, pushGi c f s p gi = (s2, none) ∧ abs s2 = abs s ∧
        shouldSkipDir c s2.gis p = excludedDir c s.gis p ∧
        ((c.useGitignore = false ∧ s2 = s) ∨
         (c.useGitignore = true ∧ ∃ x, s2 = pushed s p x ∧
           (excludedDir c s.gis p = false → x = giEntryOf f ⟨p, gi, 0⟩)))) := by
  rw [pushGi_eq]
  cases hu : c.useGitignore
  · exact Or.inr ⟨rfl, s, rfl, rfl, shouldSkipDir_eq_excluded c s.gis p, Or.inl ⟨rfl, rfl⟩⟩
  · cases hex : excludedDir c s.gis p
    · cases hf : (f.openFail (p ++ [".gitignore"]) && c.errorOnFSErrors)
      · refine Or.inr ⟨by simpa using hf, _, rfl, rfl, ?_, Or.inr ⟨rfl, _, rfl, fun _ => rfl⟩⟩
        rw [shouldSkipDir_eq_excluded]
        exact (excluded_push_own c hd s.gis f ⟨p, gi, 0⟩).trans hex
      · exact Or.inl ⟨by simpa using hf, rfl⟩
    · refine Or.inr ⟨rfl, _, rfl, rfl, ?_, Or.inr ⟨rfl, _, rfl, fun h => nomatch h⟩⟩
      rw [shouldSkipDir_eq_excluded]
      exact (excluded_push_none c s.gis p).trans hex

mutual
theorem walkNode_events (c : Cfg) (hx : NoExtractorPanic c) (hd : DomainLaw c.giMatch) (f : Faults) (G : List GiEntry)
    (p : Path) :
    ∀ (n : Node) (s : St), (c.useGitignore = true → s.gis = G) → (∀ d ∈ s.giDirs, d.length < p.length) →
      (abs (walkNode c f s p n).1, (walkNode c f s p n).2) = runE c (abs s) (events c f G p n)
  | .file k size, s, hg, _ => by
    rw [events, runE_single]
    exact walkFile_events c hx f G s p k size hg
  | .dir gi es, s, hg, hshort => by
    rw [events_dir_cons]
    simp only [walkNode]
    have hp := prologue_abs c s
    have hs := prologue_same c s
    generalize prologue c s = x at hp hs ⊢
    obtain ⟨s1, e1⟩ := x
    have hshort1 : ∀ d ∈ s1.giDirs, d.length < p.length := by rw [hs.2]; exact hshort
    have hexc : excludedDir c s1.gis p = excludedDir c G p :=
      excluded_congr c _ _ p (fun hu => by rw [hs.1]; exact hg hu)
    cases e1 with
    | some e =>
      simp only []
      rw [popOnExit_nopush c s1 p e hshort1, runE_cons_err c _ _ e _ _ hp (by split <;> simp)]
    | none =>
      simp only []
      rcases pushGi_spec c hd f s1 p gi with ⟨hfat, hpg⟩ | ⟨hnf, s2, hpg, habs2, hskip, hor⟩ <;>
        rw [hexc] at * <;> rw [hpg] <;> simp only []
      · -- the unreadable .gitignore of a directory that is entered, fatal: returned before anything is pushed
        simp only [Bool.and_eq_true, Bool.not_eq_true'] at hfat
        rw [popOnExit_nopush c s1 p .fs hshort1]
        simp only [hfat.1.1.2, hfat.1.1.1, hfat.1.2, Bool.not_false, Bool.and_self, if_true]
        rw [runE_cons_report c _ _ _ hp, hfat.2, if_pos rfl]
      · rw [hskip]
        -- the call for the directory itself attempts nothing and goes on
        have hhead : ∀ T, runE c (abs s) ((if (!excludedDir c G p && (c.useGitignore && f.openFail (p ++ [".gitignore"]))) = true
            then Ev.report else .call []) :: T) = runE c (abs s2) T := by
          intro T
          rw [habs2]
          split
          · rename_i h
            have he : c.errorOnFSErrors = false := by
              simp only [Bool.and_eq_true, Bool.not_eq_true'] at h
              simpa [h.1, h.2.1, h.2.2] using hnf
            rw [runE_cons_report c _ _ _ hp, he, if_neg Bool.false_ne_true]
          · rw [runE_cons_call c _ _ _ _ hp, aBlock_nil]
        rw [hhead]
        -- whatever the body does, it is stack-neutral, so the pop passes its error on
        have pop : ∀ r : St × Err, SameStack s2 r.1 →
            (abs (popOnExit c r.1 p r.2).1, (popOnExit c r.1 p r.2).2) = (abs r.1, r.2) := by
          intro r hr
          obtain ⟨g, d, hfr⟩ := popOnExit_frame c r.1 p r.2
          have : (popOnExit c r.1 p r.2).2 = r.2 := by
            rcases hor with ⟨hu, _⟩ | ⟨hu, x, h2, _⟩
            · rw [popOnExit_nogi c hu]
            · exact (popOnExit_pushed c hu s1 r.1 p r.2 x (h2 ▸ hr)).2
          rw [this, hfr]; rfl
        have hshort2 : ∀ d ∈ s2.giDirs, d.length < p.length + 1 := by
          rcases hor with ⟨_, h2⟩ | ⟨_, x, h2, _⟩
          · rw [h2]; exact fun d hd => Nat.lt_succ_of_lt (hshort1 d hd)
          · rw [h2]; exact short_pushed hshort1 x
        cases hex : excludedDir c G p
        · simp only [Bool.false_eq_true, if_false]
          cases hop : f.openFail p
          · simp only [Bool.false_eq_true, if_false]
            rw [← walkEntries_events c hx hd f _ p es 0 s2 (fun hu => by
                rcases hor with ⟨hu', _⟩ | ⟨_, x, h2, hxe⟩
                · rw [hu] at hu'; cases hu'
                · rw [h2, hxe hex, hu, if_pos rfl]; exact congrArg (· ++ _) (hs.1.trans (hg hu))) hshort2]
            exact pop _ (walkEntries_stack c hx f p es 0 s2 hshort2).1
          · simp only [if_true]
            rw [runE_single, ← fserrCall_events]
            exact pop _ (fserrCall_same c s2).1
        · simp only [if_true]
          exact pop (s2, .none) (SameStack.refl s2)
theorem walkEntries_events (c : Cfg) (hx : NoExtractorPanic c) (hd : DomainLaw c.giMatch) (f : Faults) (G : List GiEntry)
    (p : Path) :
    ∀ (es : List (String × Node)) (k : Nat) (s : St), (c.useGitignore = true → s.gis = G) →
      (∀ d ∈ s.giDirs, d.length < p.length + 1) →
      (abs (walkEntries c f s p es k).1, (walkEntries c f s p es k).2) = runE c (abs s) (eventsL c f G p es k)
  | [], k, s, _, _ => by
    simp only [walkEntries, eventsL]
    split
    · rw [runE_single]; exact fserrCall_events c s
    · rfl
  | (name, n) :: rest, k, s, hg, hshort => by
    simp only [walkEntries, eventsL]
    split
    · rw [runE_single]; exact fserrCall_events c s
    · have hsh : ∀ d ∈ s.giDirs, d.length < (p ++ [name]).length := by simpa using hshort
      have hw := walkNode_events c hx hd f G (p ++ [name]) n s hg hsh
      have hst := (walkNode_stack c hx f (p ++ [name]) n s hsh).1
      generalize walkNode c f s (p ++ [name]) n = z at hw hst ⊢
      obtain ⟨s1, e1⟩ := z
      rw [runE_append, ← hw]
      simp only []
      by_cases he : e1 = .none
      · subst he
        simp only [ne_eq, not_true_eq_false, if_false, if_true]
        exact walkEntries_events c hx hd f G p rest (k+1) s1 (fun hu => by rw [hst.1]; exact hg hu)
          (by rw [hst.2]; exact hshort)
      · simp [he]
end

theorem walkRequested_events (c : Cfg) (hx : NoExtractorPanic c) (hd : DomainLaw c.giMatch) (f : Faults) (root : Node)
    (p : Path) (s : St) (hi : Clean s) :
    (abs (walkRequested c f s root p).1, (walkRequested c f s root p).2) = runE c (abs s) (eventsRequested c f root p) := by
  have report : (abs (fserrCall c s).1, (fserrCall c s).2) = runE c (abs s) [.report] := by
    rw [runE_single]; exact fserrCall_events c s
  -- a walk from `p` under the patterns the state carries
  have node : ∀ (t : St) (n : Node), abs t = abs s → t.giDirs = [] →
      (abs (walkNode c f t p n).1, (walkNode c f t p n).2) = runE c (abs s) (events c f t.gis p n) := fun t n ht htd =>
    ht ▸ walkNode_events c hx hd f t.gis p n t (fun _ => rfl) (by rw [htd]; exact fun _ h => nomatch h)
  rw [walkRequested_eq]
  unfold eventsRequested
  split
  · exact report
  · cases lookup root p with
    | none => exact report
    | some n =>
      cases n with
      | file k sz =>
        have := node s (.file (statKind k) sz) rfl hi.2
        rwa [hi.1] at this
      | dir gi es =>
        cases hu : c.useGitignore with
        | false =>
          simp only [Bool.false_and, Bool.false_eq_true, if_false]
          have := node s (.dir gi es) rfl hi.2
          rwa [hi.1] at this
        | true =>
          have hw := node { s with gis := (parentGis f root p).1 } (.dir gi es) rfl hi.2
          simp only [Bool.true_and, if_true]
          cases hfail : (parentGis f root p).2 with
          | false =>
            simp only [Bool.false_and, Bool.false_eq_true, if_false, List.nil_append]
            exact hw
          | true =>
            cases he : c.errorOnFSErrors with
            | false =>
              simp only [Bool.and_false, Bool.false_eq_true, if_false, if_true, List.singleton_append]
              exact hw.trans (by simp [runE, stepE, he])
            | true =>
              simp only [Bool.and_self, if_true, List.singleton_append]
              simp [runE, stepE, he]

theorem walkPaths_events (c : Cfg) (hx : NoExtractorPanic c) (hd : DomainLaw c.giMatch) (f : Faults) (root : Node) :
    ∀ (ps : List Path) (s : St), Clean s →
      (abs (walkPaths c f root s ps).1, (walkPaths c f root s ps).2) = runE c (abs s) (ps.flatMap (eventsRequested c f root))
  | [], s, _ => rfl
  | p :: rest, s, hi => by
    simp only [walkPaths, List.flatMap_cons]
    have h1 := walkRequested_events c hx hd f root p s hi
    have hc := (walkRequested_stack c hx f root p s hi).1
    generalize walkRequested c f s root p = x at h1 hc ⊢
    obtain ⟨s1, e1⟩ := x
    rw [runE_append, ← h1]
    simp only []
    by_cases he : e1 = .none
    · subst he
      simp only [ne_eq, not_true_eq_false, if_false, if_true]
      exact walkPaths_events c hx hd f root rest s1 hc
    · simp only [ne_eq, he, not_false_eq_true, if_true, if_false]

theorem runRoot_events (c : Cfg) (hx : NoExtractorPanic c) (hd : DomainLaw c.giMatch) (f : Faults) (root : Node) (s : St)
    (hi : Clean s) :
    (abs (runRoot c f s root).1, (runRoot c f s root).2) = runE c (abs s) (eventsRoot c f root) := by
  rw [runRoot_eq]
  unfold eventsRoot
  split
  · split
    · rw [runE_single]; exact fserrCall_events c _
    · have hsh : ∀ d ∈ s.giDirs, d.length < ([] : Path).length := by rw [hi.2]; exact fun _ h => nomatch h
      exact walkNode_events c hx hd f [] [] root { s with pkgs := [], errs := [], found := [] } (fun _ => hi.1) hsh
  · exact walkPaths_events c hx hd f root c.paths _ hi

theorem runRoots_events (c : Cfg) (hx : NoExtractorPanic c) (hd : DomainLaw c.giMatch) :
    ∀ (roots : List (Node × Faults)) (s : St) (acc : List Pkg) (sts : List (Nat × Status)), Clean s →
      (runRoots c s acc sts roots).err = (runE c (abs s) (eventsScan c roots)).2 ∧
      (runRoots c s acc sts roots).visited = (runE c (abs s) (eventsScan c roots)).1.visited ∧
      (runRoots c s acc sts roots).calls = (runE c (abs s) (eventsScan c roots)).1.calls
  | [], s, acc, sts, _ => ⟨rfl, rfl, rfl⟩
  | (r, f) :: rest, s, acc, sts, hi => by
    simp only [runRoots, eventsScan, List.flatMap_cons]
    have h1 := runRoot_events c hx hd f r s hi
    have hc := (runRoot_stack c hx f r s hi).1
    generalize runRoot c f s r = x at h1 hc ⊢
    obtain ⟨s1, e1⟩ := x
    rw [runE_append, ← h1]
    simp only []
    by_cases he : e1 = .none
    · subst he
      simp only [ne_eq, not_true_eq_false, if_false, if_true]
      exact runRoots_events c hx hd rest s1 _ _ hc
    · simp [he, abs]

/-- **Model A is the sequential machine over the steps of the scan**: for every configuration without a panicking
extractor — any inode limit and cancellation point, errors fatal or not —, every forest and fault plan, the scan's
error, its `AfterInodeVisited` count and its extraction attempts are those of `runE` on `eventsScan`. -/
theorem run_events (c : Cfg) (hx : NoExtractorPanic c) (hd : DomainLaw c.giMatch) (roots : List (Node × Faults)) :
    (run c roots).err = (runE c ⟨0, 0, 0, c.cancelBefore, []⟩ (eventsScan c roots)).2 ∧
    (run c roots).visited = (runE c ⟨0, 0, 0, c.cancelBefore, []⟩ (eventsScan c roots)).1.visited ∧
    (run c roots).calls = (runE c ⟨0, 0, 0, c.cancelBefore, []⟩ (eventsScan c roots)).1.calls :=
  runRoots_events c hx hd roots { cancelled := c.cancelBefore } [] [] ⟨rfl, rfl⟩

/-! ### the two specifications as readings of the steps -/

/-- a requested file is taken as is: with no patterns above it, gitignore handling plays no role -/
theorem mustOne_nogi (c : Cfg) (f : Faults) (p : Path) (k : Kind) (sz : Nat) :
    mustOne c f [] ⟨p, k, sz, []⟩ = mustOne { c with useGitignore := false } f [] ⟨p, k, sz, []⟩ := by
  unfold mustOne reached fileEligible sizeOk stackMatch
  simp

theorem traversalFault_file_nogi (c : Cfg) (f : Faults) (p : Path) (k : Kind) (sz : Nat) :
    traversalFault c f [] p (.file k sz) = traversalFault { c with useGitignore := false } f [] p (.file k sz) := by
  unfold traversalFault stackMatch; simp

mutual
theorem events_trace (c : Cfg) (f : Faults) (G : List GiEntry) (p : Path) :
    ∀ n : Node, (events c f G p n).filterMap Ev.blk? = trace c f G p n
  | .file k sz => by
    simp only [events, trace]
    cases h : traversalFault c f G p (.file k sz)
    · rfl
    · rw [mustOne_of_fault h]; rfl
  | .dir gi es => by
    simp only [events, trace]
    cases excludedDir c G p
    · have : ∀ T, List.filterMap Ev.blk? ((if (c.useGitignore && f.openFail (p ++ [".gitignore"])) = true then Ev.report
          else .call []) :: T) = [] :: List.filterMap Ev.blk? T := by intro T; split <;> rfl
      simp only [Bool.false_eq_true, if_false, this]
      cases f.openFail p
      · simp only [Bool.false_eq_true, if_false]
        rw [eventsL_trace c f _ p es 0]
      · rfl
    · rfl
theorem eventsL_trace (c : Cfg) (f : Faults) (G : List GiEntry) (p : Path) :
    ∀ (es : List (String × Node)) (k : Nat), (eventsL c f G p es k).filterMap Ev.blk? = traceL c f G p es k
  | [], k => by simp only [eventsL, traceL]; split <;> rfl
  | (s, n) :: rest, k => by
    simp only [eventsL, traceL]
    split
    · rfl
    · rw [List.filterMap_append, events_trace c f G (p ++ [s]) n, eventsL_trace c f G p rest (k+1)]
end

theorem eventsRequested_trace (c : Cfg) (f : Faults) (root : Node) (p : Path) :
    (eventsRequested c f root p).filterMap Ev.blk? = traceRequested c f root p := by
  unfold eventsRequested traceRequested
  split
  · rfl
  · cases lookup root p with
    | none => rfl
    | some n =>
      cases n with
      | file k sz => simp only []; rw [events_trace, trace, mustOne_nogi]
      | dir gi es =>
        simp only []
        cases c.useGitignore
        · exact events_trace c f [] p _
        · simp only [if_true, List.filterMap_append, events_trace]
          split <;> rfl

theorem eventsRoot_trace (c : Cfg) (f : Faults) (root : Node) :
    (eventsRoot c f root).filterMap Ev.blk? = traceRoot c f root := by
  unfold eventsRoot traceRoot
  split
  · split
    · rfl
    · exact events_trace c f [] [] root
  · rw [List.filterMap_flatMap]
    exact Lists.flatMap_congr fun p _ => eventsRequested_trace c f root p

theorem eventsScan_trace (c : Cfg) (roots : List (Node × Faults)) :
    (eventsScan c roots).filterMap Ev.blk? = traceScan c roots := by
  unfold eventsScan traceScan
  rw [List.filterMap_flatMap]
  exact Lists.flatMap_congr fun rf _ => eventsRoot_trace c rf.2 rf.1

mutual
theorem events_fault (c : Cfg) (f : Faults) (G : List GiEntry) (p : Path) :
    ∀ n : Node, (events c f G p n).any Ev.isFault = traversalFault c f G p n
  | .file k sz => by
    simp only [events, List.any_cons, List.any_nil, Bool.or_false]
    cases traversalFault c f G p (.file k sz) <;> rfl
  | .dir gi es => by
    simp only [events, traversalFault]
    cases excludedDir c G p
    · simp only [Bool.false_eq_true, if_false, List.any_cons, Bool.or_assoc]
      congr 1
      · cases (c.useGitignore && f.openFail (p ++ [".gitignore"])) <;> rfl
      · cases f.openFail p
        · exact eventsL_fault c f _ p es 0
        · rfl
    · rfl
theorem eventsL_fault (c : Cfg) (f : Faults) (G : List GiEntry) (p : Path) :
    ∀ (es : List (String × Node)) (k : Nat), (eventsL c f G p es k).any Ev.isFault = traversalFaultL c f G p es k
  | [], k => by simp only [eventsL, traversalFaultL]; cases f.readEntryFail p k <;> rfl
  | (s, n) :: rest, k => by
    simp only [eventsL, traversalFaultL]
    cases f.readEntryFail p k
    · simp only [Bool.false_eq_true, if_false, Bool.false_or, List.any_append]
      rw [events_fault c f G (p ++ [s]) n, eventsL_fault c f G p rest (k+1)]
    · rfl
end

theorem eventsScan_fault (c : Cfg) (roots : List (Node × Faults)) :
    (eventsScan c roots).any Ev.isFault = traversalFaultScan c roots := by
  have hreq : ∀ f root p, (eventsRequested c f root p).any Ev.isFault = traversalFaultRequested c f root p := by
    intro f root p
    unfold eventsRequested traversalFaultRequested
    split
    · rfl
    · cases lookup root p with
      | none => rfl
      | some n =>
        cases n with
        | file k sz => simp only []; rw [events_fault, traversalFault_file_nogi]
        | dir gi es =>
          simp only []
          cases c.useGitignore
          · exact events_fault c f [] p _
          · simp only [if_true, List.any_append, events_fault]
            congr 1
            cases (parentGis f root p).2 <;> rfl
  unfold eventsScan traversalFaultScan
  rw [List.any_flatMap]
  congr 1
  funext ⟨r, f⟩
  show (eventsRoot c f r).any Ev.isFault = traversalFaultRoot c f r
  unfold eventsRoot traversalFaultRoot
  split
  · cases f.statFail []
    · exact events_fault c f [] [] r
    · rfl
  · rw [List.any_flatMap]
    congr 1
    funext p
    exact hreq f r p

/-! ### errors not fatal: the machine of Spec/WalkMachine.lean over the trace -/

theorem runT_nil (c : Cfg) (a : AS) : runT c a [] = (a, .none) := rfl

theorem runT_cons_err (c : Cfg) (a a1 : AS) (e : Err) (b : List Call) (T : List (List Call))
    (h : aPro c a = (a1, some e)) : runT c a (b :: T) = (a1, e) := by
  have hne : e ≠ .none := fun h' => aPro_ne c a (by rw [h, h'])
  simp [runT, visit, h, hne]

theorem runT_cons_ok (c : Cfg) (a a1 : AS) (b : List Call) (T : List (List Call))
    (h : aPro c a = (a1, none)) : runT c a (b :: T) = runT c (aBlock c a1 b) T := by
  simp [runT, visit, h]

/-- with errors not fatal a step that is told about a failure is a call without attempts, and a failure met
outside `handleFile` is no step at all -/
theorem runE_nonfatal (c : Cfg) (he : c.errorOnFSErrors = false) : ∀ (T : List Ev) (a : AS),
    runE c a T = runT c a (T.filterMap Ev.blk?)
  | [], _ => rfl
  | .call blk :: T, a => by
    simp only [runE, stepE, List.filterMap_cons, Ev.blk?, runT, runE_nonfatal c he T]
  | .report :: T, a => by
    have : stepE c a .report = visit c a [] := by
      unfold stepE visit
      rcases aPro c a with ⟨a1, _ | e⟩
      · simp only [he, aBlock_nil]; rfl
      · rfl
    simp only [runE, List.filterMap_cons, Ev.blk?, runT, this, runE_nonfatal c he T]
  | .abort :: T, a => by
    simp only [runE, stepE, he, List.filterMap_cons, Ev.blk?, Bool.false_eq_true, if_false, if_true]
    exact runE_nonfatal c he T a

theorem walkEntries_trace (c : Cfg) (hn : NFCfg c) (hd : DomainLaw c.giMatch) (f : Faults) (G : List GiEntry) (p : Path) :
    ∀ (es : List (String × Node)) (k : Nat) (s : St), (c.useGitignore = true → s.gis = G) →
      (∀ d ∈ s.giDirs, d.length < p.length + 1) →
      (abs (walkEntries c f s p es k).1, (walkEntries c f s p es k).2) = runT c (abs s) (traceL c f G p es k) := by
  intro es k s hg hshort
  rw [walkEntries_events c hn.2 hd f G p es k s hg hshort, runE_nonfatal c hn.1, eventsL_trace]

/-- **Model A is the sequential machine over the specification's trace** (whole scan): when filesystem
errors are not fatal and extractors do not panic, then for every forest, fault plan, option combination,
inode limit and cancellation point the scan's error, its `AfterInodeVisited` count and its extraction
attempts are those of `runT` on `traceScan`. -/
theorem run_trace (c : Cfg) (hn : NFCfg c) (hd : DomainLaw c.giMatch) (roots : List (Node × Faults)) :
    (run c roots).err = (runT c ⟨0, 0, 0, c.cancelBefore, []⟩ (traceScan c roots)).2 ∧
    (run c roots).visited = (runT c ⟨0, 0, 0, c.cancelBefore, []⟩ (traceScan c roots)).1.visited ∧
    (run c roots).calls = (runT c ⟨0, 0, 0, c.cancelBefore, []⟩ (traceScan c roots)).1.calls := by
  rw [← eventsScan_trace, ← runE_nonfatal c hn.1]
  exact run_events c hn.2 hd roots

/-! ### `visits` is the length of the trace -/

mutual
theorem trace_length (c : Cfg) (f : Faults) (G : List GiEntry) (p : Path) :
    ∀ n : Node, (trace c f G p n).length = visits c f G p n
  | .file k sz => by simp [trace, visits]
  | .dir gi es => by
    simp only [trace, visits]
    split
    · rfl
    · split
      · rfl
      · simp only [List.length_cons]
        rw [traceL_length c f _ p es 0]; omega
theorem traceL_length (c : Cfg) (f : Faults) (G : List GiEntry) (p : Path) :
    ∀ (es : List (String × Node)) (k : Nat), (traceL c f G p es k).length = visitsL c f G p es k
  | [], k => by simp only [traceL, visitsL]; split <;> rfl
  | (s, n) :: rest, k => by
    simp only [traceL, visitsL]
    split
    · rfl
    · rw [List.length_append, trace_length c f G (p ++ [s]) n, traceL_length c f G p rest (k+1)]
end

theorem traceScan_length (c : Cfg) (roots : List (Node × Faults)) :
    (traceScan c roots).length = visitsScan c roots := by
  have hreq : ∀ f root p, (traceRequested c f root p).length = visitsRequested c f root p := by
    intro f root p
    unfold traceRequested visitsRequested
    split
    · rfl
    · split
      · rfl
      · exact trace_length c f _ p _
      · rfl
  unfold traceScan visitsScan
  rw [List.length_flatMap]
  congr 1
  refine List.map_congr_left fun ⟨r, f⟩ _ => ?_
  show (traceRoot c f r).length = visitsRoot c f r
  unfold traceRoot visitsRoot
  split
  · split
    · rfl
    · exact trace_length c f [] [] r
  · rw [List.length_flatMap]
    congr 1
    exact List.map_congr_left (fun p _ => hreq f r p)

end Scalibr.Walk
