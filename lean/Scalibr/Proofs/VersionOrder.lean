/-
C11, the version order (`Spec/VersionOrder`): a comparator can be read as a rank on a list of versions exactly when it
is a total preorder there.  The rank is the canonical one, the number of versions of the list strictly below; through it
the C11 theorems about ranks become theorems about the ecosystem's comparator.
-/
import Scalibr.Spec.VersionOrder
import Scalibr.Proofs.Lists
namespace Scalibr.Upgrade
open Scalibr.Lists

theorem lt_trans_on {α : Type} (cmp : α → α → Ordering) (vs : List α) (T : TotalPreorderOn cmp vs)
    (c a b : α) (hc : c ∈ vs) (ha : a ∈ vs) (hb : b ∈ vs) (h1 : cmp c a = .lt) (h2 : cmp a b ≠ .gt) : cmp c b = .lt := by
  -- `b ≤ c` would give `a ≤ c`, against `c < a`
  have hgt : cmp b c = .gt := Decidable.by_contra fun hbc =>
    T.le_trans a ha b hb c hc h2 hbc (by rw [T.swap c hc a ha, h1]; rfl)
  rw [T.swap b hb c hc, hgt]; rfl

section
variable {α : Type} {cmp : α → α → Ordering} {vs : List α} (T : TotalPreorderOn cmp vs) {a b : α}
include T

theorem countBelow_le (ha : a ∈ vs) (hb : b ∈ vs) (h : cmp a b ≠ .gt) : countBelow cmp vs a ≤ countBelow cmp vs b :=
  filter_length_le _ _ vs fun c hc hca => by
    simp [lt_trans_on cmp vs T c a b hc ha hb (by simpa using hca) h]

theorem countBelow_lt (ha : a ∈ vs) (hb : b ∈ vs) (h : cmp a b = .lt) : countBelow cmp vs a < countBelow cmp vs b :=
  filter_length_lt _ _ vs
    (fun c hc hca => by simp [lt_trans_on cmp vs T c a b hc ha hb (by simpa using hca) (by simp [h])])
    a ha (by simp [T.refl a ha]) (by simp [h])

end

/-- a comparator that is a total preorder on `vs` has a rank function there -/
theorem rank_of_total_preorder {α : Type} (cmp : α → α → Ordering) (vs : List α) (T : TotalPreorderOn cmp vs) :
    RankFor cmp vs (countBelow cmp vs) := by
  intro a ha b hb
  cases hab : cmp a b with
  | lt => exact (Nat.compare_eq_lt.mpr (countBelow_lt T ha hb hab)).symm
  | eq =>
    have hba : cmp b a = .eq := by rw [T.swap a ha b hb, hab]; rfl
    exact (Nat.compare_eq_eq.mpr (Nat.le_antisymm (countBelow_le T ha hb (by simp [hab]))
      (countBelow_le T hb ha (by simp [hba])))).symm
  | gt =>
    have hba : cmp b a = .lt := by rw [T.swap a ha b hb, hab]; rfl
    exact (Nat.compare_eq_gt.mpr (countBelow_lt T hb ha hba)).symm

section
variable {α : Type} {cmp : α → α → Ordering} {vs : List α} {rank : α → Nat} (R : RankFor cmp vs rank) {a b : α}
include R

theorem rank_lt_iff (ha : a ∈ vs) (hb : b ∈ vs) : rank a < rank b ↔ cmp a b = .lt := by
  rw [R a ha b hb]; exact Nat.compare_eq_lt.symm

theorem rank_le_iff (ha : a ∈ vs) (hb : b ∈ vs) : rank a ≤ rank b ↔ cmp a b ≠ .gt := by
  rw [R a ha b hb, ne_eq, Nat.compare_eq_gt]; omega

theorem rank_eq_iff (ha : a ∈ vs) (hb : b ∈ vs) : rank a = rank b ↔ cmp a b = .eq := by
  rw [R a ha b hb]; exact Nat.compare_eq_eq.symm

end

/-- and conversely: whatever has a rank function is a total preorder on those versions -/
theorem total_preorder_of_rank {α : Type} (cmp : α → α → Ordering) (vs : List α) (rank : α → Nat)
    (R : RankFor cmp vs rank) : TotalPreorderOn cmp vs where
  refl a ha := by rw [R a ha a ha]; exact Nat.compare_eq_eq.mpr rfl
  swap a ha b hb := by rw [R a ha b hb, R b hb a ha]; exact (Nat.compare_swap (rank a) (rank b)).symm
  le_trans a ha b hb c hc h1 h2 :=
    (rank_le_iff R ha hc).mp (Nat.le_trans ((rank_le_iff R ha hb).mpr h1) ((rank_le_iff R hb hc).mpr h2))

theorem rank_exists_iff {α : Type} (cmp : α → α → Ordering) (vs : List α) :
    (∃ rank, RankFor cmp vs rank) ↔ TotalPreorderOn cmp vs :=
  ⟨fun ⟨r, R⟩ => total_preorder_of_rank cmp vs r R, fun T => ⟨_, rank_of_total_preorder cmp vs T⟩⟩

theorem rankFor_of_countBelow {α ι : Type} (cmp : α → α → Ordering) (ver : ι → α) (xs : List ι) (rank : ι → Nat)
    (T : TotalPreorderOn cmp (xs.map ver)) (hr : ∀ x ∈ xs, rank x = countBelow cmp (xs.map ver) (ver x)) :
    RankFor (fun a b => cmp (ver a) (ver b)) xs rank := by
  intro a ha b hb
  rw [hr a ha, hr b hb]
  exact rank_of_total_preorder cmp _ T (ver a) (List.mem_map_of_mem ha) (ver b) (List.mem_map_of_mem hb)

/-- three versions ordered in a cycle (the shape of Maven's `1 < 1.foo < 1rc`, `1 > 1rc`) have no rank function -/
theorem no_rank_of_cycle {α : Type} (cmp : α → α → Ordering) (a b c : α)
    (h1 : cmp a b = .lt) (h2 : cmp b c = .lt) (h3 : cmp a c = .gt) : ¬ ∃ rank, RankFor cmp [a, b, c] rank := by
  rintro ⟨r, R⟩
  have h12 := (rank_lt_iff R (a := a) (b := b) (by simp) (by simp)).mpr h1
  have h23 := (rank_lt_iff R (a := b) (b := c) (by simp) (by simp)).mpr h2
  exact (rank_le_iff R (a := a) (b := c) (by simp) (by simp)).mp (by omega) h3

end Scalibr.Upgrade
