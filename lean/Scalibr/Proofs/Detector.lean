/-
Helper lemmas for C20: the detector loop without cancellation computes the obvious lists (the tagged
copies ARE the specified findings), and `validate` (the model of `validateAdvisories`) decides `Consistent`.
-/
import Scalibr.Spec.Detector
namespace Scalibr.Detector
open Scalibr.Index

theorem tagResults_eq (n : String) (rs : List (Option Finding)) :
    tagResults n rs = rs.map (Option.map (tag n)) := by
  unfold tagResults
  apply List.map_congr_left
  intro r _
  cases r <;> rfl

theorem runLoop_nocancel (px : PkgMap) (ds : List Detector) (s : St)
    (hc : ds ≠ [] → s.cancelled = false) (hr : s.ctxReturn = false) (hn : NoCancel ds) :
    (runLoop px ds s).findings = s.findings ++ specFindings ds px ∧
    (runLoop px ds s).status = s.status ++ specStatus ds px ∧
    (runLoop px ds s).calls = s.calls ++ ds.map (fun d => (d.name, px)) ∧
    (runLoop px ds s).ctxReturn = false := by
  induction ds generalizing s with
  | nil => simp [runLoop, specStatus, specFindings, hr]
  | cons d ds ih =>
    -- the last detector may do to the context what it likes: nothing is left to skip
    have hd : ds ≠ [] → d.cancels = false := fun h => hn d (by cases ds <;> simp_all [List.dropLast])
    have hn' : NoCancel ds := fun x hx => hn x (by cases ds <;> simp_all [List.dropLast])
    have hs := hc (by simp)
    rw [runLoop, if_neg (by simp [hs])]
    obtain ⟨h1, h2, h3, h5⟩ := ih ⟨s.findings ++ tagResults d.name (d.scan px).1, s.status ++ [statusFromErr d.name (d.scan px).2],
      s.calls ++ [(d.name, px)], s.cancelled || d.cancels, false⟩ (fun h => by simp [hs, hd h]) rfl hn'
    exact ⟨by rw [h1]; simp [specFindings, tagResults_eq], by rw [h2]; simp [specStatus, statusFromErr], by rw [h3]; simp, h5⟩

theorem run_nocancel (ds : List Detector) (px : PkgMap) (hn : NoCancel ds) : run ds px =
    match validate (specFindings ds px) [] with
    | some e => ⟨[], specStatus ds px, some e, ds.map fun d => (d.name, px)⟩
    | none => ⟨(specFindings ds px).filterMap id, specStatus ds px, none, ds.map fun d => (d.name, px)⟩ := by
  obtain ⟨h1, h2, h3, h5⟩ := runLoop_nocancel px ds {} (fun _ => rfl) rfl hn
  simp only [run, h5, h1, h2, h3, List.nil_append, Bool.false_eq_true, if_false]
  cases validate (specFindings ds px) [] <;> rfl

theorem runLoop_calls_prefix (px : PkgMap) (ds : List Detector) (s : St) :
    ∃ k, (runLoop px ds s).calls = s.calls ++ (ds.take k).map (fun d => (d.name, px)) := by
  fun_induction runLoop px ds s
  · exact ⟨0, by simp⟩
  · exact ⟨0, by simp⟩
  · rename_i ih; obtain ⟨k, hk⟩ := ih; exact ⟨k + 1, by simp [hk]⟩

/-! ### `validate`, the model of `validateAdvisories` -/

/-- the advisories recorded so far agree with every finding still to come -/
def Agree (ids : List (AdvID × Adv)) (fs : List (Option Finding)) : Prop :=
  ∀ f, some f ∈ fs → ∀ a i, f.adv = some a → a.id = some i → ∀ a', lookAdv ids i = some a' → a' = a

/-- a list with one more entry in front is consistent iff that entry has an advisory with an ID, the rest is consistent,
and whatever shares that ID in the rest carries the same advisory -/
theorem consistent_cons (x : Option Finding) (fs : List (Option Finding)) : Consistent (x :: fs) ↔
    ∃ f a i, x = some f ∧ f.adv = some a ∧ a.id = some i ∧ Consistent fs ∧
      ∀ g, some g ∈ fs → ∀ b, g.adv = some b → b.id = some i → b = a := by
  constructor
  · rintro ⟨hA, hC⟩
    obtain ⟨f, a, i, rfl, ha, hi⟩ := hA _ List.mem_cons_self
    exact ⟨f, a, i, rfl, ha, hi, ⟨fun y hy => hA y (List.mem_cons_of_mem _ hy),
        fun g hg h hh => hC g (List.mem_cons_of_mem _ hg) h (List.mem_cons_of_mem _ hh)⟩,
      fun g hg b hb hbi => (hC f List.mem_cons_self g (List.mem_cons_of_mem _ hg) a b ha hb (hi.trans hbi.symm)).symm⟩
  · rintro ⟨f, a, i, rfl, ha, hi, ⟨hA, hC⟩, hQ⟩
    refine ⟨fun y hy => ?_, fun g hg h hh x y hx hy hxy => ?_⟩
    · rcases List.mem_cons.mp hy with rfl | hy
      · exact ⟨f, a, i, rfl, ha, hi⟩
      · exact hA y hy
    · simp only [List.mem_cons, Option.some.injEq] at hg hh
      rcases hg with rfl | hg <;> rcases hh with rfl | hh
      · rw [ha] at hx hy; cases hx; cases hy; rfl
      · rw [ha] at hx; cases hx; exact (hQ h hh y hy (hxy ▸ hi)).symm
      · rw [ha] at hy; cases hy; exact hQ g hg x hx (hxy.trans hi)
      · exact hC g hg h hh x y hx hy hxy

theorem agree_cons (ids : List (AdvID × Adv)) (f : Finding) (a : Adv) (i : AdvID) (fs : List (Option Finding))
    (ha : f.adv = some a) (hi : a.id = some i) :
    Agree ids (some f :: fs) ↔ (∀ a', lookAdv ids i = some a' → a' = a) ∧ Agree ids fs := by
  constructor
  · exact fun h => ⟨h f List.mem_cons_self a i ha hi, fun g hg => h g (List.mem_cons_of_mem _ hg)⟩
  · rintro ⟨hP, hB⟩ g hg b j hb hj
    simp only [List.mem_cons, Option.some.injEq] at hg
    rcases hg with rfl | hg
    · rw [ha] at hb; cases hb; rw [hi] at hj; cases hj; exact hP
    · exact hB g hg b j hb hj

/-- recording `(i, a)` in a map that agreed with it: the findings to come must agree with the new entry as well -/
theorem agree_push (ids : List (AdvID × Adv)) (i : AdvID) (a : Adv) (fs : List (Option Finding))
    (hP : ∀ a', lookAdv ids i = some a' → a' = a) :
    Agree ((i, a) :: ids) fs ↔ (∀ g, some g ∈ fs → ∀ b, g.adv = some b → b.id = some i → b = a) ∧ Agree ids fs := by
  constructor
  · intro h
    refine ⟨fun g hg b hb hbi => (h g hg b i hb hbi a (by simp [lookAdv])).symm, fun g hg b j hb hj a' hl => ?_⟩
    by_cases hji : i = j
    · subst hji
      rw [hP a' hl, h g hg b i hb hj a (by simp [lookAdv])]
    · exact h g hg b j hb hj a' (by simp [lookAdv, hji, hl])
  · rintro ⟨hQ, hB⟩ g hg b j hb hj a' hl
    by_cases hji : i = j
    · subst hji
      simp only [lookAdv, if_true, Option.some.injEq] at hl
      rw [← hl, hQ g hg b hb hj]
    · simp only [lookAdv, hji, if_false] at hl
      exact hB g hg b j hb hj a' hl

theorem validate_none_iff (fs : List (Option Finding)) (ids : List (AdvID × Adv)) :
    validate fs ids = none ↔ Consistent fs ∧ Agree ids fs := by
  induction fs generalizing ids with
  | nil => simp [validate, Consistent, Agree]
  | cons x fs ih =>
    rw [consistent_cons]
    rcases x with _ | f
    · simp [validate]
    rcases hadv : f.adv with _ | a
    · simp [validate, hadv]
    rcases hid : a.id with _ | i
    · simp [validate, hadv, hid]
    -- the check against the map, then the rest with the new entry
    have hstep : validate (some f :: fs) ids = none ↔
        (∀ a', lookAdv ids i = some a' → a' = a) ∧ validate fs ((i, a) :: ids) = none := by
      simp only [validate, hadv, hid]
      cases lookAdv ids i with
      | none => simp
      | some a' => by_cases he : a' = a <;> simp [he]
    rw [hstep, ih, agree_cons ids f a i fs hadv hid]
    constructor
    · rintro ⟨hP, hC, hB⟩
      obtain ⟨hQ, hB'⟩ := (agree_push ids i a fs hP).mp hB
      exact ⟨⟨f, a, i, rfl, hadv, hid, hC, hQ⟩, hP, hB'⟩
    · rintro ⟨⟨g, b, j, hx, hb, hj, hC, hQ⟩, hP, hB⟩
      cases hx
      rw [hadv] at hb; cases hb
      rw [hid] at hj; cases hj
      exact ⟨hP, hC, (agree_push ids i a fs hP).mpr ⟨hQ, hB⟩⟩

theorem validate_spec (fs : List (Option Finding)) : validate fs [] = none ↔ Consistent fs := by
  rw [validate_none_iff]
  constructor
  · exact fun h => h.1
  · intro h; exact ⟨h, by intro f _ a i _ _ a' hl; simp [lookAdv] at hl⟩

/-- a consistent list holds no nil entry: it is the image of its non-nil part -/
theorem consistent_no_nil (fs : List (Option Finding)) (h : Consistent fs) : (fs.filterMap id).map some = fs := by
  induction fs with
  | nil => rfl
  | cons x fs ih =>
    obtain ⟨f, _, _, rfl, _, _, h', _⟩ := (consistent_cons x fs).mp h
    simp [ih h']

theorem consistentB_iff (fs : List (Option Finding)) : consistentB fs = true ↔ Consistent fs := by
  unfold consistentB Consistent
  simp only [Bool.and_eq_true, List.all_eq_true]
  constructor
  · rintro ⟨h1, h2⟩
    refine ⟨?_, ?_⟩
    · intro x hx
      have := h1 x hx
      cases x with
      | none => simp at this
      | some f =>
        cases ha : f.adv with
        | none => simp [ha] at this
        | some a =>
          cases hi : a.id with
          | none => simp [ha, hi] at this
          | some i => exact ⟨f, a, i, rfl, ha, hi⟩
    · intro f hf g hg a b ha hb hab
      have := h2 (some f) hf (some g) hg
      simp only [ha, hb] at this
      simpa [hab] using this
  · rintro ⟨h1, h2⟩
    refine ⟨?_, ?_⟩
    · intro x hx
      obtain ⟨f, a, i, rfl, ha, hi⟩ := h1 x hx
      simp [ha, hi]
    · intro x hx y hy
      rcases x with _ | f <;> rcases y with _ | g <;> try rfl
      rcases ha : f.adv with _ | a <;> rcases hb : g.adv with _ | b <;> simp only [ha, hb]
      by_cases hab : a.id = b.id
      · simp [h2 f hx g hy a b ha hb hab]
      · simp [hab]

/-! ### consistency is inherited by parts, and consistent findings have sort keys -/

theorem consistent_append_left (a b : List (Option Finding)) (h : Consistent (a ++ b)) : Consistent a :=
  ⟨fun x hx => h.1 x (by simp [hx]), fun f hf g hg => h.2 f (by simp [hf]) g (by simp [hg])⟩

theorem consistent_append_right (a b : List (Option Finding)) (h : Consistent (a ++ b)) : Consistent b :=
  ⟨fun x hx => h.1 x (by simp [hx]), fun f hf g hg => h.2 f (by simp [hf]) g (by simp [hg])⟩

theorem consistent_keyed (fs : List Finding) (h : Consistent (fs.map some)) : ∀ f ∈ fs, (sortKey f).isSome = true := by
  intro f hf
  obtain ⟨g, a, k, hg, ha, hk⟩ := h.1 (some f) (List.mem_map.2 ⟨f, hf, rfl⟩)
  cases hg
  simp [sortKey, ha, hk]

/-- whatever `Scan` hands to `sortResults` passed `ValidateAdvisories` (or is empty) -/
theorem scanFindings_consistent (i : ScanIn) : Consistent ((scanFindings i).1.map some) := by
  unfold scanFindings
  simp only []
  split
  · simp [Consistent]
  · next hv => exact (validate_spec _).1 hv

theorem consistent_perm (a b : List (Option Finding)) (hp : a.Perm b) (h : Consistent a) : Consistent b :=
  ⟨fun x hx => h.1 x (hp.mem_iff.2 hx), fun f hf g hg => h.2 f (hp.mem_iff.2 hf) g (hp.mem_iff.2 hg)⟩

/-- What `Scan` keeps of the findings it collected, without cancellation: all of them when they are consistent; otherwise
an error, and nothing — or, when `Run` had already discarded the detectors' findings, the extractors' alone. -/
theorem scanFindings_nocancel (i : ScanIn) (hn : NoCancel i.dets) :
    (ConsistentAll i → (scanFindings i).1.map some = allFindings i ∧ (scanFindings i).2 = none) ∧
    (¬ ConsistentAll i → (scanFindings i).2 ≠ none ∧
      ((scanFindings i).1 = [] ∨ (scanFindings i).1 = i.fsFindings ++ i.stFindings)) := by
  have hmap : ∀ fs : List Finding, (i.fsFindings ++ i.stFindings ++ fs).map some =
      (i.fsFindings ++ i.stFindings).map some ++ fs.map some := fun fs => List.map_append
  unfold ConsistentAll allFindings scanFindings
  rw [run_nocancel _ _ hn]
  cases hd : validate (specFindings i.dets (Index.new (i.fsPkgs ++ i.stPkgs))) [] with
  | some e =>
    have hna : ¬ Consistent ((i.fsFindings ++ i.stFindings).map some ++ specFindings i.dets (Index.new (i.fsPkgs ++ i.stPkgs))) := by
      intro h
      have := (validate_spec _).2 (consistent_append_right _ _ h)
      rw [hd] at this; cases this
    refine ⟨fun h => absurd h hna, fun _ => ?_⟩
    simp only [List.append_nil]
    split <;> simp
  | none =>
    have hX := hmap ((specFindings i.dets (Index.new (i.fsPkgs ++ i.stPkgs))).filterMap id)
    rw [consistent_no_nil _ ((validate_spec _).1 hd)] at hX
    simp only [hX]
    cases hv : validate ((i.fsFindings ++ i.stFindings).map some ++ specFindings i.dets (Index.new (i.fsPkgs ++ i.stPkgs))) [] with
    | none => exact ⟨fun _ => ⟨hX, rfl⟩, fun h => absurd ((validate_spec _).1 hv) h⟩
    | some verr =>
      exact ⟨fun h => (by rw [(validate_spec _).2 h] at hv; cases hv), fun _ => ⟨by simp, Or.inl rfl⟩⟩

/-- `Run` returns no findings together with an error -/
theorem run_err_findings (ds : List Detector) (px : PkgMap) (e : RunErr) (h : (run ds px).err = some e) :
    (run ds px).findings = [] := by
  unfold run at h ⊢
  simp only [] at h ⊢
  split
  · rfl
  · split
    · rfl
    · next hv => simp [hv] at h; split at h <;> simp_all

/-! ### the gate -/

/-- the code's chain of `if`s reports the first unmet condition … -/
theorem preCheck_eq_specReason (e v : Bool) (n : Nat) (p : Bool) : preCheck e v n p = specReason e v n p := by
  cases e <;> cases v <;> try rfl
  rcases n with _ | _ | n <;> cases p <;> rfl

/-- … and none exactly when the specification's four conditions hold -/
theorem preCheck_none_iff (e v : Bool) (n : Nat) (p : Bool) : preCheck e v n p = none ↔ Runs e v n p := by
  unfold Runs preCheck
  cases e <;> cases v <;> try simp
  rcases n with _ | _ | n <;> cases p <;> simp

end Scalibr.Detector
